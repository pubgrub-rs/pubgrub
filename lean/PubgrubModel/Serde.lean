/-
Model of the serde wire format of `Range`, `SemanticVersion` and `OfflineDependencyProvider`
(`serde` feature).  `Json` is the self-describing data model as `serde_json` shows it.

* `Range<V>` is `#[serde(transparent)]` over `SmallVec<(Bound<V>, Bound<V>)>`: a sequence of 2-tuples
  (JSON arrays) of `std::ops::Bound`, which serde encodes externally tagged: `"Unbounded"`,
  `{"Included": v}`, `{"Excluded": v}`.
* `Deserialize for Range` reads a sequence of the untagged `EitherInterval`: first try
  `B(Bound, Bound)`, then `D(V, Option<V>)` (the legacy encoding `(start, Some(end))` / `(start, None)`).
* `SemanticVersion` is its `Display` string; the provider is `#[serde(transparent)]` over nested maps.
-/
import PubgrubModel.Range
import PubgrubModel.SemVer

namespace Pubgrub

inductive Json where
  | null
  | num (n : Nat)
  | str (s : String)
  | arr (items : List Json)
  | obj (fields : List (String × Json))
  deriving Repr

namespace Serde
open Bound

/-- `Serialize for Bound<V>` -/
def encBound {V : Type} (encV : V → Json) : Bound V → Json
  | unb => .str "Unbounded"
  | incl v => .obj [("Included", encV v)]
  | excl v => .obj [("Excluded", encV v)]

/-- `Serialize for Range<V>` -/
def encRange {V : Type} (encV : V → Json) (r : Range V) : Json :=
  .arr (r.map fun (s, e) => .arr [encBound encV s, encBound encV e])

/-- `Deserialize for Bound<V>` -/
def decBound {V : Type} (decV : Json → Option V) : Json → Option (Bound V)
  | .str "Unbounded" => some unb
  | .obj [("Included", j)] => (decV j).map incl
  | .obj [("Excluded", j)] => (decV j).map excl
  | _ => none

/-- one `EitherInterval`: variant `B` first, then `D` -/
def decInterval {V : Type} (decV : Json → Option V) : Json → Option (Seg V)
  | .arr [a, b] =>
    match decBound decV a, decBound decV b with
    | some s, some e => some (s, e)
    | _, _ =>
      match decV a, b with
      | some l, .null => some (incl l, unb)
      | some l, jr =>
        match decV jr with
        | some r => some (incl l, excl r)
        | none => none
      | none, _ => none
  | _ => none

/-- `Deserialize for Range<V>` (the segments are stored as given: the canonical form is not re-checked) -/
def decRange {V : Type} (decV : Json → Option V) : Json → Option (Range V)
  | .arr items => items.mapM (decInterval decV)
  | _ => none

def encNat (n : Nat) : Json := .num n
def decNat : Json → Option Nat
  | .num n => some n
  | _ => none

/-- `Serialize for SemanticVersion` -/
def encSemVer (v : SemVer) : Json := .str (String.ofList v.display)
/-- `Deserialize for SemanticVersion` -/
def decSemVer : Json → Option SemVer
  | .str s => match SemVer.parse s.toList with
    | .ok v => some v
    | .error _ => none
  | _ => none

end Serde

/-! ### compact JSON text, as `serde_json::to_string` prints it (for ASCII strings without escapes) -/
namespace Json

/-! the printer, on character lists, by structural recursion (total, so that the round trip through the
text can be proved: PubgrubProofs/JsonText.lean) -/
mutual
def renderC : Json → List Char
  | .null => ['n', 'u', 'l', 'l']
  | .num n => Nat.toDigits 10 n
  | .str s => '"' :: (s.toList ++ ['"'])
  | .arr [] => ['[', ']']
  | .arr (j :: js) => '[' :: (renderC j ++ renderItems js)
  | .obj [] => ['{', '}']
  | .obj ((k, v) :: fs) => '{' :: '"' :: (k.toList ++ '"' :: ':' :: (renderC v ++ renderFields fs))
/-- the items after the first, and the closing bracket -/
def renderItems : List Json → List Char
  | [] => [']']
  | j :: js => ',' :: (renderC j ++ renderItems js)
/-- the fields after the first, and the closing brace -/
def renderFields : List (String × Json) → List Char
  | [] => ['}']
  | (k, v) :: fs => ',' :: '"' :: (k.toList ++ '"' :: ':' :: (renderC v ++ renderFields fs))
end

/-- the text the driver prints and compares with `serde_json::to_string` -/
def render (j : Json) : String := String.ofList (renderC j)

/-- a small parser for the same subset (no escapes, non-negative integers), with fuel -/
def skipWs : List Char → List Char
  | c :: cs => if c = ' ' ∨ c = '\n' ∨ c = '\t' then skipWs cs else c :: cs
  | [] => []

def takeString : List Char → List Char → Option (String × List Char)
  | [], _ => none
  | '"' :: rest, acc => some (String.ofList acc.reverse, rest)
  | c :: rest, acc => takeString rest (c :: acc)

def takeDigits : List Char → List Char → (List Char × List Char)
  | c :: cs, acc => if c.isDigit then takeDigits cs (c :: acc) else (acc.reverse, c :: cs)
  | [], acc => (acc.reverse, [])

mutual
def parseVal : (fuel : Nat) → List Char → Option (Json × List Char)
  | 0, _ => none
  | fuel + 1, cs =>
    match skipWs cs with
    | 'n' :: 'u' :: 'l' :: 'l' :: rest => some (.null, rest)
    | '"' :: rest => (takeString rest []).map fun (s, r) => (.str s, r)
    | '[' :: rest =>
      match skipWs rest with
      | ']' :: r => some (.arr [], r)
      | r => (parseItems fuel r []).map fun (items, r) => (.arr items, r)
    | '{' :: rest =>
      match skipWs rest with
      | '}' :: r => some (.obj [], r)
      | r => (parseFields fuel r []).map fun (fs, r) => (.obj fs, r)
    | c :: rest =>
      if c.isDigit then
        let (ds, r) := takeDigits (c :: rest) []
        (String.ofList ds).toNat?.map fun n => (.num n, r)
      else none
    | [] => none

def parseItems : (fuel : Nat) → List Char → List Json → Option (List Json × List Char)
  | 0, _, _ => none
  | fuel + 1, cs, acc =>
    match parseVal fuel cs with
    | none => none
    | some (v, r) =>
      match skipWs r with
      | ',' :: r => parseItems fuel r (acc ++ [v])
      | ']' :: r => some (acc ++ [v], r)
      | _ => none

def parseFields : (fuel : Nat) → List Char → List (String × Json) → Option (List (String × Json) × List Char)
  | 0, _, _ => none
  | fuel + 1, cs, acc =>
    match skipWs cs with
    | '"' :: r =>
      match takeString r [] with
      | none => none
      | some (k, r) =>
        match skipWs r with
        | ':' :: r =>
          match parseVal fuel r with
          | none => none
          | some (v, r) =>
            match skipWs r with
            | ',' :: r => parseFields fuel r (acc ++ [(k, v)])
            | '}' :: r => some (acc ++ [(k, v)], r)
            | _ => none
        | _ => none
    | _ => none
end

def parse (s : String) : Option Json :=
  match parseVal (s.length + 2) s.toList with
  | some (j, rest) => if (skipWs rest).isEmpty then some j else none
  | none => none

end Json
end Pubgrub
