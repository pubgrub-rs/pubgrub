/-
The functions that contain no fuelled loop never return `outOfFuel` (`NoOOF`): for those without a listed
panic site this is half of `Quiet`, the others are walked here; and the predicate transformer `Fueled`
used for the fuelled loops.  (Table of the result predicates: head of SafeResult.lean.)
-/
import PubgrubProofs.NoPanic

set_option linter.unusedSectionVars false

namespace Pubgrub
open VersionSet

def NoOOF {α : Type} (r : R α) : Prop :=
  match r with
  | .error .outOfFuel => False
  | _ => True

namespace NoOOF
variable {α β : Type}

theorem ok {a : α} : NoOOF (.ok a : R α) := trivial
theorem pure' {a : α} : NoOOF (pure a : R α) := trivial
theorem panic {s : String} : NoOOF (.error (.panic s) : R α) := trivial
theorem throw' {s : String} : NoOOF (throw (.panic s) : R α) := trivial

theorem ne {x : R α} (h : NoOOF x) : x ≠ .error .outOfFuel := by
  intro e; subst e; exact h

theorem of_ne {x : R α} (h : x ≠ .error .outOfFuel) : NoOOF x := by
  cases x with
  | ok a => trivial
  | error e =>
    cases e with
    | panic s => trivial
    | outOfFuel => exact h rfl

theorem unwrapOr {o : Option α} {site : String} : NoOOF (Pubgrub.unwrapOr o site) := by
  cases o <;> trivial

theorem storeGet {store : List α} {id : Nat} : NoOOF (Pubgrub.storeGet store id) := unwrapOr

theorem bind {x : R α} {f : α → R β} (hx : NoOOF x) (hf : ∀ a, NoOOF (f a)) : NoOOF (x >>= f) := by
  cases x with
  | ok a => exact hf a
  | error e =>
    cases e with
    | panic s => trivial
    | outOfFuel => exact hx

theorem error_of_eq {x : R α} {e : Fault} (h : x = .error e) (hx : NoOOF x) : NoOOF (.error e : R β) := by
  subst h
  cases e with
  | panic s => trivial
  | outOfFuel => exact hx

theorem of_ok {x : R α} {a : α} (h : x = .ok a) : NoOOF x := by
  subst h; exact ok

end NoOOF

theorem Quiet.nooof {α : Type} {r : R α} (h : Quiet r) : NoOOF r := by
  cases r with
  | ok a => trivial
  | error e =>
    cases e with
    | panic s => trivial
    | outOfFuel => exact h

theorem foldlM_nooof {α β : Type} (f : β → α → R β) (hf : ∀ b a, NoOOF (f b a)) :
    ∀ (l : List α) (b : β), NoOOF (l.foldlM (m := R) f b)
  | [], _ => NoOOF.ok
  | a :: l, b => by rw [List.foldlM_cons]; exact NoOOF.bind (hf b a) (foldlM_nooof f hf l)

section
variable {P S V M Pr : Type} [DecidableEq P] [VersionSet S V] [DecidableEq S]

theorem Incompat.priorCause_nooof (id1 id2 : Nat) (a b : Incompat P S V M) (p : P) :
    NoOOF (Incompat.priorCause id1 id2 a b p) := by
  unfold Incompat.priorCause
  refine NoOOF.bind NoOOF.unwrapOr fun ⟨t1, rest⟩ => ?_
  exact NoOOF.bind NoOOF.unwrapOr fun t2 => NoOOF.ok

namespace PartialSolution

theorem addDerivation_nooof (ps : PartialSolution P S V Pr) (p : P) (cause : Nat)
    (store : List (Incompat P S V M)) : NoOOF (ps.addDerivation p cause store) := by
  unfold addDerivation
  refine NoOOF.bind NoOOF.storeGet fun inc => ?_
  refine NoOOF.bind NoOOF.unwrapOr fun t => ?_
  extract_lets dd next paLastIndex
  split
  · split
    · exact NoOOF.throw'
    · exact NoOOF.ok
  · exact NoOOF.ok

theorem satisfier_nooof (pa : PackageAssignments S V) (start : Term S) : NoOOF (satisfier pa start) := by
  unfold satisfier
  split
  · exact NoOOF.ok
  · split
    · exact NoOOF.ok
    · exact NoOOF.panic

theorem findSatisfier_nooof (ps : PartialSolution P S V Pr) (terms : List (P × Term S)) :
    NoOOF (ps.findSatisfier terms) :=
  foldlM_nooof _ (fun _ _ =>
    NoOOF.bind NoOOF.unwrapOr fun _ => NoOOF.bind (satisfier_nooof _ _) fun _ => NoOOF.ok) _ _

theorem findPreviousSatisfier_nooof (ps : PartialSolution P S V Pr) (inc : Incompat P S V M) (sp : P)
    (m : SmallMap P (Option Nat × Nat × Nat)) (store : List (Incompat P S V M)) :
    NoOOF (ps.findPreviousSatisfier inc sp m store) := by
  unfold findPreviousSatisfier
  refine NoOOF.bind NoOOF.unwrapOr fun satisfierPa => ?_
  refine NoOOF.bind NoOOF.unwrapOr fun ⟨satisfierCause, _, _⟩ => ?_
  -- the rest of the function after `accum_term` is known, a join point of the `do` block
  extract_lets rest
  have hrest : ∀ t, NoOOF (rest t) := fun accumTerm =>
    NoOOF.bind NoOOF.unwrapOr fun incompatTerm =>
      NoOOF.bind (satisfier_nooof _ _) fun s => NoOOF.bind NoOOF.unwrapOr fun _ => NoOOF.ok
  clear_value rest
  cases satisfierCause with
  | some cause =>
    exact NoOOF.bind NoOOF.storeGet fun c => NoOOF.bind NoOOF.unwrapOr fun t => NoOOF.bind NoOOF.ok hrest
  | none =>
    dsimp only
    split
    · exact NoOOF.bind NoOOF.throw' hrest
    · exact NoOOF.bind NoOOF.ok hrest

theorem satisfierSearch_nooof (ps : PartialSolution P S V Pr) (inc : Incompat P S V M)
    (store : List (Incompat P S V M)) : NoOOF (ps.satisfierSearch inc store) := by
  unfold satisfierSearch
  refine NoOOF.bind (findSatisfier_nooof _ _) fun satisfiedMap => ?_
  refine NoOOF.bind NoOOF.unwrapOr fun ⟨satisfierPackage, satisfierCause, _, satisfierDl⟩ => ?_
  refine NoOOF.bind (findPreviousSatisfier_nooof _ _ _ _ _) fun prev => ?_
  split
  · exact NoOOF.bind NoOOF.unwrapOr fun _ => NoOOF.ok
  · exact NoOOF.ok

end PartialSolution
end

section
variable {P S V M Pr : Type} [DecidableEq P] [VersionSet S V] [DecidableEq S] [DecidableEq V]
  [LawfulVersionSet S V]

theorem State.backtrack_nooof {st : State P S V M Pr} (hw : st.ps.WF') (cur : Nat) (changed : Bool) (dl : Nat) :
    NoOOF (st.backtrack cur changed dl) := by
  unfold State.backtrack
  obtain ⟨ps', hps'⟩ := PartialSolution.backtrack_ok hw dl
  refine NoOOF.bind (NoOOF.of_ok hps') fun ps => ?_
  dsimp only
  split
  · exact (State.mergeIncompatibility_quiet _ _).nooof
  · exact NoOOF.pure'

theorem State.propagateIncompats_nooof : ∀ (ids : List Nat) (st : State P S V M Pr),
    NoOOF (State.propagateIncompats st ids)
  | [], _ => NoOOF.ok
  | id :: rest, st => by
    unfold State.propagateIncompats
    split
    · exact propagateIncompats_nooof rest _
    · split
      · rename_i he; exact NoOOF.error_of_eq he NoOOF.storeGet
      · split
        · exact NoOOF.ok
        · split
          · rename_i he; exact NoOOF.error_of_eq he (PartialSolution.addDerivation_nooof _ _ _ _)
          · exact propagateIncompats_nooof rest _
        · exact propagateIncompats_nooof rest _
        · exact propagateIncompats_nooof rest _

end

/-- the computation did not run out of fuel, and its result satisfies `Q` (panics are not excluded
here: `no_panic` takes care of them) -/
def Fueled {α : Type} (r : R α) (Q : α → Prop) : Prop :=
  match r with
  | .ok a => Q a
  | .error .outOfFuel => False
  | .error (.panic _) => True

namespace Fueled
variable {α β : Type}

theorem ok {a : α} {Q : α → Prop} (h : Q a) : Fueled (.ok a) Q := h
theorem panic {s : String} {Q : α → Prop} : Fueled (.error (.panic s) : R α) Q := trivial

theorem of_ok {r : R α} {Q : α → Prop} (h : Fueled r Q) {a : α} (hr : r = .ok a) : Q a := by
  subst hr; exact h

theorem nooof {r : R α} {Q : α → Prop} (h : Fueled r Q) : NoOOF r := by
  cases r with
  | ok a => trivial
  | error e =>
    cases e with
    | panic s => trivial
    | outOfFuel => exact h

theorem intro {r : R α} {Q : α → Prop} (h1 : NoOOF r) (h2 : ∀ a, r = .ok a → Q a) : Fueled r Q := by
  cases r with
  | ok a => exact h2 a rfl
  | error e =>
    cases e with
    | panic s => trivial
    | outOfFuel => exact h1

theorem mono {r : R α} {Q Q' : α → Prop} (h : Fueled r Q) (hq : ∀ a, r = .ok a → Q a → Q' a) :
    Fueled r Q' := by
  cases r with
  | ok a => exact hq a rfl h
  | error e =>
    cases e with
    | panic s => trivial
    | outOfFuel => exact h

theorem bind {x : R α} {f : α → R β} {Q : α → Prop} {Q' : β → Prop} (hx : Fueled x Q)
    (hf : ∀ a, x = .ok a → Q a → Fueled (f a) Q') : Fueled (x >>= f) Q' := by
  cases x with
  | ok a => exact hf a rfl hx
  | error e =>
    cases e with
    | panic s => trivial
    | outOfFuel => exact hx

theorem bind_ok {x : R α} {f : α → R β} {Q' : β → Prop} {a : α} (hx : x = .ok a)
    (hf : Fueled (f a) Q') : Fueled (x >>= f) Q' := by
  subst hx; exact hf

theorem error_of_eq {x : R α} {e : Fault} {Q : β → Prop} (h : x = .error e) (hx : NoOOF x) :
    Fueled (.error e : R β) Q := by
  subst h
  cases e with
  | panic s => trivial
  | outOfFuel => exact hx

end Fueled

end Pubgrub
