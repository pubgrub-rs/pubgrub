/-
Non-vacuity: concrete runs of the coroutine model that meet the hypotheses of the main solver theorems,
so that none of them is an implication nothing satisfies.

Everything is over the bit set `BitSet 3` with versions `Fin 3` (instances
`BitSet.instVersionSetBitSetFin`, `BitSet.lawful`, `BitSet.canonicalEmpty`), packages `Nat`, priorities
`Nat`, debug assertions on, fuel `100`, root package `0` at version `0`.  A set is written `bs b0 b1 b2`
(bit `i` = version `i` is a member).

(A) `regA` has a solution, found after one backtrack:
      0@0 → 1 ∈ {0,1,2};   1 has versions 2, 1;   1@2 → 2 ∈ {0,1,2}, and 2 has no version;
      1@1 → 3 ∈ {0,1};   3 has versions 2, 0, without dependencies.
    The run `answersA` (26 answers of a well-behaved provider) tries 1@2, learns `{1: {2}}` from the missing
    package 2, backtracks, is asked to choose 1 in `{0,1}`, takes 1@1, then 3@0 (3@2 is outside `{0,1}`),
    and returns `Ok [(0,0), (1,1), (3,0)]`.
      `example_A_run`, `example_A_solution_valid`, `example_A_solution_reachable`, …
(C) the state of run (A) after its first 17 answers: `choose_version(1, {0,1})` is pending, just after the
    backtrack.   `example_C_reachable`, `example_C_choose_nonempty`, `example_C_psWF`, `example_C_qInv`
(B) `regB` has no solution:
      0@0 → 1 ∈ {0,1,2};   1 has versions 2, 1;   1@2 → 2 ∈ {0,1,2};   1@1 → 2 ∈ {0};
      2 has the version 0;   2@0 → 3 ∈ {0,1,2}, and 3 has no version.
    The run `answersB` (33 answers) ends in `Err(NoSolution(treeB))`, `treeB` a derived tree with eight
    derived nodes, in which the node `{2: {0}}` (arena index 5) is used twice and carries `Some(5)`.
      `example_B_run`, `example_B_noSolution_sound`, `example_B_tree_checkable`, `example_B_top_forbids_root`,
      `example_B_shared_same`, `example_B_shared_twice`, `example_B_shared_iff`, `example_B_collapse_no_panic`
(D) `resolve_returns_typed` at `regA` and `regB` with explicit `FiniteWorld`s, sharpened by (A) and (B):
    on `regA` every long enough typed well-behaved run returns a solution, on `regB` `NoSolution`.
      `example_D_resolve_returns_typed`, `example_D_regA_returns_solution`, `example_D_regB_returns_noSolution`
-/
import PubgrubProofs.Typed
import PubgrubProofs.NoPanicCex
import PubgrubProofs.CollapseNoPanic
import PubgrubProofs.TreeSound
import PubgrubProofs.SharedIds
import PubgrubProofs.StoreInvariant
import PubgrubProofs.OwnInvariant
import PubgrubProofs.ReachabilityC04
import PubgrubProofs.PSInvariant
import PubgrubProofs.NonEmpty
import PubgrubProofs.Termination
import PubgrubProofs.CanonInstances


namespace Pubgrub.Examples
open Pubgrub VersionSet

attribute [local instance] BitSet.instVersionSetBitSetFin BitSet.lawful

abbrev S3 := BitSet 3
abbrev V3 := Fin 3
abbrev Wd := World Nat S3 V3 Unit
abbrev St := SolverState Nat S3 V3 Unit Nat
abbrev Rq := Request Nat S3 V3 Unit Nat Unit
abbrev An := Answer Nat S3 V3 Unit Nat Unit
abbrev Tree := DerivationTree Nat S3 V3 Unit

/-- the set with the given three bits -/
def bs (b0 b1 b2 : Bool) : S3 := ⟨[b0, b1, b2]⟩
/-- `{0, 1, 2}` -/
def all3 : S3 := bs true true true

instance : CanonicalEmpty S3 V3 := BitSet.canonicalEmpty 3

deriving instance DecidableEq for DerivationTree, Request

/-! ### checking a run against a registry by evaluation (the pattern of NoPanicCex.lean, for any
registry over the bit set) -/

/-- a decidable check that an answer is consistent with the registry `W` -/
def answerOKb (W : Wd) : Rq → An → Bool
  | .chooseVersion p s, .version none => (W.versions p).all fun v => !contains s v
  | .chooseVersion p _, .version (some v) => decide (v ∈ W.versions p)
  | .getDependencies _ _, .unavailable _ => false
  | .getDependencies p v, .available ds =>
    match W.deps p v with
    | .available ds' => decide (ds' = ds)
    | .unavailable _ => false
  | _, _ => true

theorem answerOKb_sound (W : Wd) (req : Rq) (a : An) (h : answerOKb W req a = true) : AnswerOK W req a := by
  unfold AnswerOK
  split
  · intro v hv
    simpa using List.all_eq_true.1 h v hv
  · exact of_decide_eq_true h
  · cases h
  · simp only [answerOKb] at h
    split at h
    · rename_i hd
      rw [hd, of_decide_eq_true h]
    · cases h
  · trivial

/-- a decidable check that an answer is one of a well-behaved provider -/
def wellBehavedb : Rq → An → Bool
  | _, .error _ => false
  | .chooseVersion _ s, .version (some v) => contains s v
  | _, _ => true

theorem wellBehavedb_sound (req : Rq) (a : An) (h : wellBehavedb req a = true) : AnswerWellBehaved req a := by
  unfold AnswerWellBehaved
  split
  · cases req <;> cases h
  · exact h
  · trivial

/-- the last request of the run, provided the answers are consistent with `W` and well-behaved all along -/
def checkedRun (W : Wd) : St × Rq → List An → Option Rq
  | (_, req), [] => some req
  | (s, req), a :: as =>
    if answerOKb W req a && wellBehavedb req a then checkedRun W (Solver.step s a) as else none

/-- Each run below is evaluated once, by the kernel deciding the `checkedRun` hypothesis, and never by the
elaborator: the state after the run stays the unevaluated term `Solver.after x as`. -/
theorem reachableWB_of_checkedRun {W : Wd} {debug : Bool} {fuel : Nat} {root : Nat} {rv : V3} {as : List An}
    {x : St × Rq} {r : Rq} (hx : ReachableWB W debug fuel root rv x) (hc : checkedRun W x as = some r) :
    ReachableWB W debug fuel root rv ((Solver.after x as).1, r) := by
  induction as generalizing x with
  | nil => cases hc; exact hx
  | cons a as ih =>
    obtain ⟨s, req⟩ := x
    simp only [checkedRun] at hc
    split at hc
    · rename_i hok
      simp only [Bool.and_eq_true] at hok
      exact ih (hx.step (answerOKb_sound W req a hok.1) (wellBehavedb_sound req a hok.2)) hc
    · cases hc

/-- every dependency the registry declares is in the given list -/
def DepsIn (W : Wd) (l : List (Nat × S3)) : Prop :=
  ∀ p v ds, W.deps p v = .available ds → ∀ d ∈ ds, d ∈ l

theorem DepsIn.setsValid {W : Wd} {l : List (Nat × S3)} (h : DepsIn W l)
    (hl : ∀ d ∈ l, d.2.bits.length = 3) : W.SetsValid :=
  fun p v ds hd d hdm => hl d (h p v ds hd d hdm)

/-- `W` as a `FiniteWorld`, all three versions as test versions -/
def DepsIn.finiteWorld {W : Wd} {l : List (Nat × S3)} (h : DepsIn W l) (pkgs : List Nat) (hroot : 0 ∈ pkgs)
    (hl : ∀ d ∈ l, d.1 ∈ pkgs) : FiniteWorld W 0 0 :=
  BitSet.finiteWorld W 0 0 pkgs hroot fun p v ds _ hd d hdm => hl d (h p v ds hd d hdm)

/-- the start of every run below: debug assertions on, fuel `100`, root `0` at version `0` -/
def start : St × Rq := Solver.start true 100 0 0

/-! ### (A) a registry with a solution that needs a backtrack -/

/-- packages `0` (root), `1`, `2` (no version), `3` -/
def regA : Wd where
  versions p := if p = 0 then [0] else if p = 1 then [2, 1] else if p = 3 then [2, 0] else []
  deps p v :=
    if p = 0 then .available [(1, all3)]
    else if p = 1 then (if v = 2 then .available [(2, all3)] else .available [(3, bs true true false)])
    else .available []

theorem regA_depsIn : DepsIn regA [(1, all3), (2, all3), (3, bs true true false)] := by
  intro p v ds hd
  simp only [regA] at hd
  split_ifs at hd <;> cases hd <;> decide

theorem regA_setsValid : regA.SetsValid :=
  regA_depsIn.setsValid (by decide)

/-- the answers of a well-behaved provider for `regA` that prefers the highest version; the requests they
answer are listed at the end of the file -/
def answersA : List An := [
  .ok, .priority 10, .picked (some 0), .version (some 0), .available [(1, all3)],
  .ok, .priority 5, .picked (some 1), .version (some 2), .available [(2, all3)],
  .ok, .priority 3, .picked (some 2), .version none,
  -- conflict `{2: {0,1,2}}`, learned `{1: {2}}`, backtrack to the root decision
  .ok, .priority 5, .picked (some 1), .version (some 1), .available [(3, bs true true false)],
  .ok, .priority 2, .picked (some 3), .version (some 0), .available [],
  .ok, .picked none]

/-- the selection `resolve` returns on `regA` -/
def selA : List (Nat × V3) := [(0, 0), (1, 1), (3, 0)]

def finalA : St × Rq := Solver.after start answersA

theorem runA : checkedRun regA start answersA = some (.solution selA) := by decide +kernel

/-- **(A)** the run is one of a well-behaved provider of `regA` and ends in `Ok [(0,0), (1,1), (3,0)]` -/
theorem example_A_run :
    ReachableWB (E := Unit) regA true 100 0 0 (finalA.1, .solution [(0, 0), (1, 1), (3, 0)]) :=
  reachableWB_of_checkedRun .start runA

/-- the run does backtrack: the decision level goes `0 1 2 … 2` and after answer 14 (`version none` for
package `2`) and the following `should_cancel` it is back at `1`; `1@2` was tried and dropped -/
theorem example_A_backtracks :
    (Solver.after start (answersA.take 14)).1.st.ps.currentDecisionLevel = 2 ∧
    (Solver.after start (answersA.take 15)).1.st.ps.currentDecisionLevel = 1 ∧
    (1, (2 : V3)) ∈ finalA.1.added ∧ SmallMap.get selA 1 = some 1 := by decide +kernel

/-- **`solution_valid` (C01) applied to run (A)**: `0 ↦ 0, 1 ↦ 1, 3 ↦ 0` (package `2` unselected) is a
solution of `regA`, made of versions the provider returned in this run -/
theorem example_A_solution_valid :
    IsSolution regA 0 0 (fun p => SmallMap.get [(0, (0 : V3)), (1, 1), (3, 0)] p) ∧
      (∀ p v, SmallMap.get [(0, (0 : V3)), (1, 1), (3, 0)] p = some v → (p, v) ∈ finalA.1.added) :=
  solution_valid regA regA_setsValid true 100 0 0 finalA.1 _ example_A_run

/-- **`solution_reachable` (C04) applied to run (A)**: every selected package is reachable from the root
through dependencies of the selected versions … -/
theorem example_A_solution_reachable (p : Nat) (v : V3)
    (hp : SmallMap.get [(0, (0 : V3)), (1, 1), (3, 0)] p = some v) :
    ReachableFrom regA 0 (fun q => SmallMap.get [(0, (0 : V3)), (1, 1), (3, 0)] q) p :=
  solution_reachable regA regA_setsValid true 100 0 0 finalA.1 _ example_A_run p v hp

/-- … e.g. package `3`, selected at `0` (through `0@0 → 1`, `1@1 → 3`) -/
theorem example_A_package3_reachable :
    ReachableFrom regA 0 (fun q => SmallMap.get [(0, (0 : V3)), (1, 1), (3, 0)] q) 3 :=
  example_A_solution_reachable 3 0 (by decide)

/-! ### (C) a pending `choose_version` after the backtrack of run (A) -/

/-- the first 17 answers of run (A): up to the pop of package `1` after the backtrack -/
def answersC : List An := answersA.take 17

def stateC : St × Rq := Solver.after start answersC

theorem runC : checkedRun regA start answersC = some (.chooseVersion 1 (bs true true false)) := by
  decide +kernel

/-- **(C)** after the backtrack `choose_version(1, {0,1})` is pending: version `2` has been excluded -/
theorem example_C_reachable :
    Reachable (E := Unit) regA true 100 0 0 (stateC.1, .chooseVersion 1 (bs true true false)) :=
  reachable_of_wb regA true 100 0 0 _ (reachableWB_of_checkedRun .start runC)

/-- the state is the one after a backtrack: decision level `1` (only the root is decided) while three
incompatibilities beyond the initial one have been learned or recorded (store of size 5, the last one
derived) -/
theorem example_C_after_backtrack :
    stateC.1.st.ps.currentDecisionLevel = 1 ∧ stateC.1.st.store.length = 5 ∧
      (stateC.1.st.store[4]?.bind fun i => i.causes) = some (3, 2) := by decide +kernel

/-- **`choose_nonempty` (C12) applied to (C)**: the set handed to `choose_version` has a member -/
theorem example_C_choose_nonempty : ∃ v : V3, VersionSet.contains (bs true true false) v = true :=
  choose_nonempty regA regA_setsValid true 100 0 0 stateC.1 1 (bs true true false) example_C_reachable

/-- `reachable_psWF` and `reachable_qInv` at `regA`, stated for a variable state so that applying them does
not make the elaborator evaluate the run -/
theorem regA_psWF_qInv {s : St} {r : Rq} (h : Reachable regA true 100 0 0 (s, r)) (hr : r.isFinal = false) :
    s.st.ps.WF ∧ s.st.ps.QInv s.inflight :=
  ⟨reachable_psWF regA regA_setsValid true 100 0 0 (s, r) h hr,
    reachable_qInv regA regA_setsValid true 100 0 0 (s, r) h hr⟩

/-- **`reachable_psWF` (I-PS, C14) applied to (C)** -/
theorem example_C_psWF : stateC.1.st.ps.WF :=
  (regA_psWF_qInv example_C_reachable rfl).1

/-- **`reachable_qInv` (I-Q) applied to (C)**: package `1` is in flight -/
theorem example_C_qInv : stateC.1.st.ps.QInv (some 1) :=
  (show stateC.1.inflight = some 1 by decide +kernel) ▸ (regA_psWF_qInv example_C_reachable rfl).2

/-! ### (B) a registry without solution, with a derived tree -/

/-- packages `0` (root), `1`, `2`, `3` (no version) -/
def regB : Wd where
  versions p := if p = 0 then [0] else if p = 1 then [2, 1] else if p = 2 then [0] else []
  deps p v :=
    if p = 0 then .available [(1, all3)]
    else if p = 1 then (if v = 2 then .available [(2, all3)] else .available [(2, bs true false false)])
    else if p = 2 then .available [(3, all3)]
    else .available []

theorem regB_depsIn : DepsIn regB [(1, all3), (2, all3), (2, bs true false false), (3, all3)] := by
  intro p v ds hd
  simp only [regB] at hd
  split_ifs at hd <;> cases hd <;> decide

theorem regB_setsValid : regB.SetsValid :=
  regB_depsIn.setsValid (by decide)

def answersB : List An := [
  .ok, .priority 10, .picked (some 0), .version (some 0), .available [(1, all3)],
  .ok, .priority 5, .picked (some 1), .version (some 2), .available [(2, all3)],
  .ok, .priority 3, .picked (some 2), .version (some 0), .available [(3, all3)],
  .ok, .priority 1, .picked (some 3), .version none,
  -- conflict `{3: {0,1,2}}`, learned `{2: {0}}` (index 5), back to level 2
  .ok, .priority 3, .picked (some 2), .version none,
  -- conflict `{2: {1,2}}`, learned `{2: {0,1,2}}` then `{1: {2}}`, back to level 1
  .ok, .priority 5, .picked (some 1), .version (some 1), .available [(2, bs true false false)],
  -- `{2: {0}}` again: learned `{1: {1}}`
  .ok, .priority 5, .picked (some 1), .version none,
  -- conflict `{1: {0}}`, learned `{1: {0,1}}`, `{1: {0,1,2}}`, `{0: {0}}`: terminal
  .ok]

/-- the shared subtree: `{2: {0}}`, because `3` has no version and `2@0` depends on `3` -/
def sharedB : Tree :=
  .derived [(2, .pos (bs true false false))] (some 5)
    (.external (.noVersions 3 all3))
    (.external (.fromDependencyOf 2 (bs true false false) 3 all3))

/-- the tree of `Err(NoSolution(…))` -/
def treeB : Tree :=
  .derived [(0, .pos (bs true false false))] none
    (.derived [(1, .pos all3)] none
      (.derived [(1, .pos (bs true true false))] none
        (.external (.noVersions 1 (bs true false false)))
        (.derived [(1, .pos (bs false true false))] none
          sharedB
          (.external (.fromDependencyOf 1 (bs false true false) 2 (bs true false false)))))
      (.derived [(1, .pos (bs false false true))] none
        (.derived [(2, .pos all3)] none
          (.external (.noVersions 2 (bs false true true)))
          sharedB)
        (.external (.fromDependencyOf 1 (bs false false true) 2 all3))))
    (.external (.fromDependencyOf 0 (bs true false false) 1 all3))

def finalB : St × Rq := Solver.after start answersB

theorem runB : checkedRun regB start answersB = some (.noSolution treeB) := by decide +kernel

/-- **(B)** the run is one of a well-behaved provider of `regB` and ends in `Err(NoSolution(treeB))` -/
theorem example_B_runWB : ReachableWB (E := Unit) regB true 100 0 0 (finalB.1, .noSolution treeB) :=
  reachableWB_of_checkedRun .start runB

theorem example_B_run : Reachable (E := Unit) regB true 100 0 0 (finalB.1, .noSolution treeB) :=
  reachable_of_wb regB true 100 0 0 _ example_B_runWB

/-- the tree is derived: eight derived nodes in the unfolded tree, two of which are the node `sharedB`
carrying `Some(5)` -/
theorem example_B_tree_shape :
    (∃ c1 c2, treeB = .derived [(0, .pos (bs true false false))] none c1 c2) ∧
      treeB.derivedNodes.map Prod.fst = [none, none, none, none, some 5, none, none, some 5] :=
  ⟨⟨_, _, rfl⟩, by decide +kernel⟩

/-- **`noSolution_sound` (C02) applied to run (B)**: `regB` has no solution -/
theorem example_B_noSolution_sound : ¬ ∃ σ, IsSolution regB 0 0 σ :=
  noSolution_sound regB regB_setsValid true 100 0 0 finalB.1 treeB example_B_run

/-- **C03, first sentence, applied to run (B)** (`noSolution_tree_origin` + `buildDerivationTree_checkable`):
every leaf of `treeB` is true of `regB` and every derived node is entailed by its two causes -/
theorem example_B_tree_checkable : treeB.Checkable regB 0 0 := by
  obtain ⟨terminal, inc, hinc, _, hbuild, hinv, _, _⟩ :=
    noSolution_tree_origin regB regB_setsValid true 100 0 0 finalB.1 treeB example_B_run
  exact (buildDerivationTree_checkable regB 0 0 finalB.1.st hinv terminal inc hinc treeB hbuild).1

/-- **C03, top node, applied to run (B)**: the top clause `{0: {0}}` holds in every selection with the
root at the requested version -/
theorem example_B_top_forbids_root (σ : Nat → Option V3) (hσ : σ 0 = some 0) :
    TermsTrue σ [(0, Term.pos (bs true false false))] :=
  (noSolution_tree_hypotheses regB regB_setsValid true 100 0 0 finalB.1 treeB example_B_run).2.2.2.2.2 σ hσ

theorem sharedB_mem : (some 5, sharedB) ∈ treeB.derivedNodes := by decide +kernel

/-- **C03, shared ids, applied to run (B)**: every node of `treeB` that carries `Some(5)` is `sharedB` -/
theorem example_B_shared_same (t : Tree) (ht : (some 5, t) ∈ treeB.derivedNodes) : t = sharedB :=
  (noSolution_tree_hypotheses regB regB_setsValid true 100 0 0 finalB.1 treeB example_B_run).2.1 5 t sharedB ht
    sharedB_mem

/-- **C03, shared ids, applied to run (B)**: the node with `Some(5)` occurs at least twice, and `5` is
the arena index of `{2: {0}}` -/
theorem example_B_shared_twice :
    2 ≤ (treeB.derivedNodes.filter fun n => n.1 = some 5).length ∧
      ∃ inc, finalB.1.st.store[5]? = some inc ∧ inc.terms = [(2, Term.pos (bs true false false))] := by
  obtain ⟨terminal, _, _, _, hbuild, hinv, _, _⟩ :=
    noSolution_tree_origin regB regB_setsValid true 100 0 0 finalB.1 treeB example_B_run
  obtain ⟨h2, inc, hinc, hterms⟩ :=
    buildDerivationTree_shared_iff_partial regB 0 0 finalB.1.st hinv terminal treeB hbuild 5 sharedB sharedB_mem
  exact ⟨h2, inc, hinc, hterms.symm⟩

/-- **C03, shared ids in full, applied to run (B)** -/
theorem example_B_shared_iff :
    ∃ (terminal : Nat) (sh : Nat → Bool), IsTreeOf finalB.1.st.store sh terminal treeB ∧
      ∀ k, sh k = true ↔
        (∃ inc a b, finalB.1.st.store[k]? = some inc ∧ inc.causes = some (a, b)) ∧
          TwoEdgesTo finalB.1.st.store terminal k := by
  obtain ⟨terminal, _, _, _, hbuild, hinv, _, _⟩ :=
    noSolution_tree_origin regB regB_setsValid true 100 0 0 finalB.1 treeB example_B_run
  obtain ⟨sh, h1, h2⟩ := buildDerivationTree_shared_iff regB 0 0 finalB.1.st hinv terminal treeB hbuild
  exact ⟨terminal, sh, h1, h2⟩

/-- **`noSolution_collapse_no_panic` (C09) applied to run (B)**: `collapse_no_versions` does not panic on
`treeB` (which has three `NoVersions` leaves) -/
theorem example_B_collapse_no_panic : ∃ t', treeB.collapseNoVersions = .ok t' :=
  noSolution_collapse_no_panic regB regB_setsValid true 100 0 0 finalB.1 treeB example_B_run

/-! ### (D) `resolve_returns_typed` over explicit finite registries -/

/-- `regA` as a `FiniteWorld` on the packages `0 … 3` -/
def finiteA : FiniteWorld regA 0 0 :=
  regA_depsIn.finiteWorld [0, 1, 2, 3] (by decide) (by decide)

def finiteB : FiniteWorld regB 0 0 :=
  regB_depsIn.finiteWorld [0, 1, 2, 3] (by decide) (by decide)

/-- **`resolve_returns_typed` (C05 + C02) at `regA`** -/
theorem example_D_resolve_returns_typed (debug : Bool) :
    ∃ N fuel0 : Nat, ∀ fuel, fuel0 ≤ fuel → ∀ as : List An, N ≤ as.length →
      WellBehavedRun regA debug fuel 0 0 as → TypedRun debug fuel 0 0 as →
      ∃ k, k ≤ N ∧
        (Solver.after (Solver.start debug fuel 0 0) (as.take k)).2.isFinal = true ∧
        (∀ j, j < k → (Solver.after (Solver.start debug fuel 0 0) (as.take j)).2.isFinal = false) ∧
        Decided regA 0 0 (Solver.after (Solver.start debug fuel 0 0) (as.take k)).2 :=
  resolve_returns_typed regA regA_setsValid 0 0 finiteA debug

/-- with (A): `regA` has a solution, so every long enough typed run of a well-behaved provider of `regA` —
whatever its priorities and choices — returns `Ok(sel)` with `sel` a solution -/
theorem example_D_regA_returns_solution (debug : Bool) :
    ∃ N fuel0 : Nat, ∀ fuel, fuel0 ≤ fuel → ∀ as : List An, N ≤ as.length →
      WellBehavedRun regA debug fuel 0 0 as → TypedRun debug fuel 0 0 as →
      ∃ k sel, k ≤ N ∧ (Solver.after (Solver.start debug fuel 0 0) (as.take k)).2 = .solution sel ∧
        IsSolution regA 0 0 (fun p => SmallMap.get sel p) := by
  obtain ⟨N, fuel0, h⟩ := example_D_resolve_returns_typed debug
  refine ⟨N, fuel0, fun fuel hf as hl hwb hty => ?_⟩
  obtain ⟨k, hk, _, _, hdec⟩ := h fuel hf as hl hwb hty
  rcases hdec with ⟨sel, hsel, hsol⟩ | ⟨_, hno⟩
  · exact ⟨k, sel, hk, hsel, hsol⟩
  · exact absurd ⟨_, example_A_solution_valid.1⟩ hno

/-- with (B): `regB` has no solution, so every long enough typed run of a well-behaved provider of `regB`
returns `Err(NoSolution(…))` -/
theorem example_D_regB_returns_noSolution (debug : Bool) :
    ∃ N fuel0 : Nat, ∀ fuel, fuel0 ≤ fuel → ∀ as : List An, N ≤ as.length →
      WellBehavedRun regB debug fuel 0 0 as → TypedRun debug fuel 0 0 as →
      ∃ k t, k ≤ N ∧ (Solver.after (Solver.start debug fuel 0 0) (as.take k)).2 = .noSolution t := by
  obtain ⟨N, fuel0, h⟩ := resolve_returns_typed (Pr := Nat) (E := Unit) regB regB_setsValid 0 0 finiteB debug
  refine ⟨N, fuel0, fun fuel hf as hl hwb hty => ?_⟩
  obtain ⟨k, hk, _, _, hdec⟩ := h fuel hf as hl hwb hty
  rcases hdec with ⟨sel, _, hsol⟩ | ⟨⟨t, ht⟩, _⟩
  · exact absurd ⟨_, hsol⟩ example_B_noSolution_sound
  · exact ⟨k, t, hk, ht⟩

/-
The requests of the runs (`Solver.trace true 100 0 0 …`; sets as bit lists, `pick` with the queue shown):
(A) cancel, prio 0 [1,0,0], pick [(0,10)], choose 0 [1,0,0], deps 0@0,
    cancel, prio 1 [1,1,1], pick [(1,5)], choose 1 [1,1,1], deps 1@2,
    cancel, prio 2 [1,1,1], pick [(2,3)], choose 2 [1,1,1],
    cancel, prio 1 [1,1,0], pick [(1,5)], choose 1 [1,1,0]   <- (C), deps 1@1,
    cancel, prio 3 [1,1,0], pick [(3,2)], choose 3 [1,1,0], deps 3@0,
    cancel, pick [], solution [(0,0), (1,1), (3,0)]
(B) cancel, prio 0 [1,0,0], pick [(0,10)], choose 0 [1,0,0], deps 0@0,
    cancel, prio 1 [1,1,1], pick [(1,5)], choose 1 [1,1,1], deps 1@2,
    cancel, prio 2 [1,1,1], pick [(2,3)], choose 2 [1,1,1], deps 2@0,
    cancel, prio 3 [1,1,1], pick [(3,1)], choose 3 [1,1,1],
    cancel, prio 2 [0,1,1], pick [(2,3)], choose 2 [0,1,1],
    cancel, prio 1 [1,1,0], pick [(1,5)], choose 1 [1,1,0], deps 1@1,
    cancel, prio 1 [1,0,0], pick [(1,5)], choose 1 [1,0,0],
    cancel, nosolution treeB
-/

end Pubgrub.Examples
