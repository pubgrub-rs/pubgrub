/-
`collapse_no_versions` keeps the explanation true of the existing versions (property C09).
Model: `DerivationTree.collapseNoVersions`, `mergeNoVersions` in PubgrubModel/Report.lean.
Vocabulary: PubgrubProofs/ReportDefs.lean (`Entails`, `Sound`, `World.Exists`, `External.TrueInExisting`,
`LeavesTrueExisting`, `NoVersionsOnlyBesideLeaf`, …), PubgrubProofs/TreeDefs.lean (`External.TrueIn`, `terms`).
Under `NoVersionsTouchesSibling` alone the statement is false (a counterexample is described before
`collapse_sound_partial`); it holds under `NoVersionsTouchesCollapsedSibling` (the `_partial` theorems)
and under the collapse-free `ResolutionShaped`.
The patterns of `collapseNoVersions` overlap; what it returns is described once by the relation
`DerivationTree.Collapses`, and every fact about the result goes through that relation.
-/
import PubgrubProofs.ReportDefs
import PubgrubProofs.TermLaws

namespace Pubgrub
open VersionSet

variable {P S V M : Type} [DecidableEq P] [VersionSet S V]

/-- in a tree built by resolution steps, a `NoVersions` leaf next to a dependency leaf is about one of
the two packages of that dependency (the pivot of the resolution step) -/
def DerivationTree.NoVersionsTouchesSibling : DerivationTree P S V M → Prop
  | .external _ => True
  | .derived _ _ c1 c2 =>
      (∀ x s p1 r1 p2 r2, c1 = .external (.noVersions x s) → c2 = .external (.fromDependencyOf p1 r1 p2 r2) →
        x = p1 ∨ x = p2) ∧
      (∀ x s p1 r1 p2 r2, c2 = .external (.noVersions x s) → c1 = .external (.fromDependencyOf p1 r1 p2 r2) →
        x = p1 ∨ x = p2) ∧
      c1.NoVersionsTouchesSibling ∧ c2.NoVersionsTouchesSibling

theorem merge_dep (p1 : P) (r1 : S) (p2 : P) (r2 : S) (x : P) (s : S) :
    (DerivationTree.external (.fromDependencyOf p1 r1 p2 r2) : DerivationTree P S V M).mergeNoVersions x s =
      .ok (some (.external (if p1 = x then .fromDependencyOf p1 (union r1 s) p2 r2
        else .fromDependencyOf p1 r1 p2 (union r2 s)))) := by
  rw [DerivationTree.mergeNoVersions]
  split <;> rfl

theorem merge_some (c : DerivationTree P S V M) (x : P) (s : S) (t : DerivationTree P S V M)
    (h : c.mergeNoVersions x s = .ok (some t)) :
    (∃ T sid a b, c = .derived T sid a b ∧ t = c) ∨
    ∃ p1 r1 p2 r2, c = .external (.fromDependencyOf p1 r1 p2 r2) ∧
      (p1 = x ∧ t = .external (.fromDependencyOf p1 (union r1 s) p2 r2) ∨
       p1 ≠ x ∧ t = .external (.fromDependencyOf p1 r1 p2 (union r2 s))) := by
  cases c with
  | derived T sid a b => cases h; exact .inl ⟨T, sid, a, b, rfl, rfl⟩
  | external e =>
    cases e with
    | notRoot => cases h
    | noVersions => cases h
    | custom => cases h
    | fromDependencyOf p1 r1 p2 r2 =>
      cases (merge_dep p1 r1 p2 r2 x s).symm.trans h
      refine .inr ⟨p1, r1, p2, r2, rfl, ?_⟩
      by_cases hp : p1 = x
      · exact .inl ⟨hp, by rw [if_pos hp]⟩
      · exact .inr ⟨hp, by rw [if_neg hp]⟩

theorem merge_some_dep (c : DerivationTree P S V M) (x : P) (s : S) (p1 : P) (r1 : S) (p2 : P) (r2 : S)
    (h : c.mergeNoVersions x s = .ok (some (.external (.fromDependencyOf p1 r1 p2 r2)))) :
    ∃ r1' r2', c = .external (.fromDependencyOf p1 r1' p2 r2') := by
  rcases merge_some c x s _ h with ⟨_, _, _, _, rfl, ht⟩ | ⟨_, _, _, _, rfl, ⟨-, ht⟩ | ⟨-, ht⟩⟩ <;>
    cases ht <;> exact ⟨_, _, rfl⟩

theorem cs_merge_none (c : DerivationTree P S V M) (x : P) (s : S)
    (h : c.mergeNoVersions x s = .ok none) : c.isNoVersionsOrCustom = true := by
  cases c with
  | derived => cases h
  | external e =>
    cases e with
    | notRoot => cases h
    | noVersions => rfl
    | custom => rfl
    | fromDependencyOf p1 r1 p2 r2 => cases (merge_dep p1 r1 p2 r2 x s).symm.trans h

theorem cs_merge_error (c : DerivationTree P S V M) (x : P) (s : S) (err : Fault)
    (h : c.mergeNoVersions x s = .error err) : ∃ p v, c = .external (.notRoot p v) := by
  cases c with
  | derived => cases h
  | external e =>
    cases e with
    | notRoot p v => exact ⟨p, v, rfl⟩
    | noVersions => cases h
    | custom => cases h
    | fromDependencyOf p1 r1 p2 r2 => cases (merge_dep p1 r1 p2 r2 x s).symm.trans h

/-- `t.Collapses t'`: `collapse_no_versions` turns `t` into `t'`.  A derived node one of whose causes
is `NoVersions(x, s)` is replaced by what `merge_no_versions` makes of the other, collapsed, cause
(`mergeLeft`, `mergeRight`); when that merges nothing, and when neither cause is a `NoVersions` leaf,
the node stays above its collapsed causes (`node`). -/
inductive DerivationTree.Collapses : DerivationTree P S V M → DerivationTree P S V M → Prop
  | leaf (e : External P S V M) : Collapses (.external e) (.external e)
  | node {T sid c1 c2 c1' c2'} : Collapses c1 c1' → Collapses c2 c2' →
      (∀ x s, c1 = .external (.noVersions x s) → c2'.mergeNoVersions x s = .ok none) →
      (∀ x s, c2 = .external (.noVersions x s) → c1'.mergeNoVersions x s = .ok none) →
      Collapses (.derived T sid c1 c2) (.derived T sid c1' c2')
  | mergeLeft {T sid x s c c' t} : Collapses c c' → c'.mergeNoVersions x s = .ok (some t) →
      Collapses (.derived T sid (.external (.noVersions x s)) c) t
  | mergeRight {T sid x s c c' t} : Collapses c c' → c'.mergeNoVersions x s = .ok (some t) →
      Collapses (.derived T sid c (.external (.noVersions x s))) t

theorem DerivationTree.collapses_iff (t t' : DerivationTree P S V M) :
    t.collapseNoVersions = .ok t' ↔ t.Collapses t' := by
  constructor
  · -- `cases h` closes the arms that return an error; the arms that return are left, in the function's order
    fun_induction DerivationTree.collapseNoVersions t generalizing t' <;> intro h <;> cases h
    · exact .leaf _
    · next hc _ hm ih => exact .mergeLeft (ih _ hc) hm
    · next hc hm ih =>
      exact .node (.leaf _) (ih _ hc) (fun _ _ e => by cases e; exact hm) (fun _ _ _ => rfl)
    · next n1 _ hc _ hm ih => exact .mergeRight (ih _ hc) hm
    · next n1 _ hc hm ih =>
      exact .node (ih _ hc) (.leaf _) (fun x s e => (n1 x s e).elim) (fun _ _ e => by cases e; exact hm)
    · next n1 n2 _ _ hc2 hc1 ih1 ih2 =>
      exact .node (ih1 _ hc1) (ih2 _ hc2) (fun x s e => (n1 x s e).elim) (fun x s e => (n2 x s e).elim)
  · intro h
    induction h with
    | leaf e => exact DerivationTree.collapseNoVersions.eq_1 e
    | @node T sid c1 c2 c1' c2' h1 h2 ha hb ih1 ih2 =>
      by_cases n1 : ∃ x s, c1 = .external (.noVersions x s)
      · obtain ⟨x, s, rfl⟩ := n1
        cases h1
        simp only [DerivationTree.collapseNoVersions, ih2, ha x s rfl]
      · have n1' : ∀ x s, c1 ≠ .external (.noVersions x s) := fun x s e => n1 ⟨x, s, e⟩
        by_cases n2 : ∃ x s, c2 = .external (.noVersions x s)
        · obtain ⟨x, s, rfl⟩ := n2
          cases h2
          rw [DerivationTree.collapseNoVersions.eq_3 _ _ _ _ _ n1', ih1]; dsimp only; rw [hb x s rfl]
        · rw [DerivationTree.collapseNoVersions.eq_4 _ _ _ _ n1' fun x s e => n2 ⟨x, s, e⟩, ih1, ih2]
    | @mergeLeft T sid x s c c' t _ hm ih => simp only [DerivationTree.collapseNoVersions, ih, hm]
    | @mergeRight T sid x s c c' t hc hm ih =>
      have n : ∀ y r, c ≠ .external (.noVersions y r) := by
        rintro y r rfl
        cases hc; cases hm
      rw [DerivationTree.collapseNoVersions.eq_3 _ _ _ _ _ n, ih]; dsimp only; rw [hm]

theorem DerivationTree.Collapses.of_leaf {c : DerivationTree P S V M} {e : External P S V M}
    (h : c.Collapses (.external e)) (he : ∀ p1 r1 p2 r2, e ≠ .fromDependencyOf p1 r1 p2 r2) :
    c = .external e := by
  have key : ∀ (c' : DerivationTree P S V M) x s, c'.mergeNoVersions x s ≠ .ok (some (.external e)) := by
    intro c' x s hm
    rcases merge_some c' x s _ hm with ⟨_, _, _, _, rfl, ht⟩ | ⟨_, _, _, _, -, ⟨-, ht⟩ | ⟨-, ht⟩⟩ <;>
      cases ht <;> exact he _ _ _ _ rfl
  cases h with
  | leaf => rfl
  | mergeLeft _ hm => exact absurd hm (key _ _ _)
  | mergeRight _ hm => exact absurd hm (key _ _ _)

theorem DerivationTree.Collapses.beside_noVersions {c1 c1' c2' : DerivationTree P S V M}
    (h1 : c1.Collapses c1')
    (ha : ∀ x s, c1 = .external (.noVersions x s) → c2'.mergeNoVersions x s = .ok none)
    (hn : c1'.isNoVersions = true) : c2'.isNoVersionsOrCustom = true := by
  cases c1' with
  | derived => cases hn
  | external e =>
    cases e with
    | noVersions x s => exact cs_merge_none c2' x s (ha x s (h1.of_leaf fun _ _ _ _ e => nomatch e))
    | _ => cases hn

/-- the side condition of `NoVersionsTouchesSibling`, but about the *collapsed* sibling (a derived
sibling may itself collapse to a dependency leaf): when the sibling of a `NoVersions` leaf collapses
to a dependency leaf, the `NoVersions` leaf is about one of the two packages of that dependency -/
def DerivationTree.NoVersionsTouchesCollapsedSibling : DerivationTree P S V M → Prop
  | .external _ => True
  | .derived _ _ c1 c2 =>
      (∀ x s p1 r1 p2 r2, c1 = .external (.noVersions x s) →
        c2.collapseNoVersions = .ok (.external (.fromDependencyOf p1 r1 p2 r2)) → x = p1 ∨ x = p2) ∧
      (∀ x s p1 r1 p2 r2, c2 = .external (.noVersions x s) →
        c1.collapseNoVersions = .ok (.external (.fromDependencyOf p1 r1 p2 r2)) → x = p1 ∨ x = p2) ∧
      c1.NoVersionsTouchesCollapsedSibling ∧ c2.NoVersionsTouchesCollapsedSibling

theorem DerivationTree.NoVersionsTouchesCollapsedSibling.touchesSibling (t : DerivationTree P S V M)
    (h : t.NoVersionsTouchesCollapsedSibling) : t.NoVersionsTouchesSibling := by
  induction t with
  | external e => trivial
  | derived T sid c1 c2 ih1 ih2 =>
    obtain ⟨ha, hb, h1, h2⟩ := h
    refine ⟨?_, ?_, ih1 h1, ih2 h2⟩
    · intro x s p1 r1 p2 r2 e1 e2
      exact ha x s p1 r1 p2 r2 e1 (by rw [e2, DerivationTree.collapseNoVersions.eq_1])
    · intro x s p1 r1 p2 r2 e1 e2
      exact hb x s p1 r1 p2 r2 e1 (by rw [e2, DerivationTree.collapseNoVersions.eq_1])

theorem DerivationTree.Collapses.refl (t : DerivationTree P S V M)
    (h : ∀ e ∈ t.externals, ∀ p s, e ≠ .noVersions p s) : t.Collapses t := by
  induction t with
  | external e => exact .leaf e
  | derived T sid c1 c2 ih1 ih2 =>
    refine .node (ih1 fun e he => h e (List.mem_append_left _ he))
      (ih2 fun e he => h e (List.mem_append_right _ he)) ?_ ?_
    · rintro x s rfl
      exact absurd rfl (h _ (List.mem_append_left _ (List.mem_singleton_self _)) x s)
    · rintro x s rfl
      exact absurd rfl (h _ (List.mem_append_right _ (List.mem_singleton_self _)) x s)

/-- the only panic: a `NoVersions` leaf next to a `NotRoot` leaf.  No tree produced by `resolve` has one
(`noSolution_tree_no_noVersionsBesideNotRoot`, CollapseNoPanic.lean). -/
def DerivationTree.NoVersionsBesideNotRoot : DerivationTree P S V M → Prop
  | .external _ => False
  | .derived _ _ c1 c2 =>
      (c1.isNoVersions = true ∧ ∃ p v, c2 = .external (.notRoot p v)) ∨
      (c2.isNoVersions = true ∧ ∃ p v, c1 = .external (.notRoot p v)) ∨
      c1.NoVersionsBesideNotRoot ∨ c2.NoVersionsBesideNotRoot

section
omit [DecidableEq P]

theorem cs_termsTrue_single (σ : P → Option V) (p : P) (t : Term S) :
    TermsTrue σ [(p, t)] ↔ t.eval (σ p) = true :=
  ⟨fun h => h p t (List.mem_singleton_self _), fun h p' t' hm => by cases List.mem_singleton.1 hm; exact h⟩

theorem cs_termsTrue_pair (σ : P → Option V) (p q : P) (t u : Term S) :
    TermsTrue σ [(p, t), (q, u)] ↔ t.eval (σ p) = true ∧ u.eval (σ q) = true := by
  simp only [TermsTrue, List.mem_cons, List.not_mem_nil, or_false, Prod.mk.injEq]
  constructor
  · intro h; exact ⟨h p t (Or.inl ⟨rfl, rfl⟩), h q u (Or.inr ⟨rfl, rfl⟩)⟩
  · rintro ⟨h1, h2⟩ p' t' (⟨rfl, rfl⟩ | ⟨rfl, rfl⟩) <;> assumption

theorem cs_eval_pos_iff (s : S) (c : Option V) :
    (Term.pos s).eval c = true ↔ ∃ v, c = some v ∧ contains s v = true := by
  cases c <;> simp [Term.eval]

theorem cs_eval_neg_iff (s : S) (c : Option V) :
    (Term.neg s).eval c = true ↔ ∀ v, c = some v → contains s v = false := by
  cases c <;> simp [Term.eval]

theorem cs_entails_single_iff (U : P → V → Prop) (A B : List (P × Term S)) :
    Entails U [A] B ↔ ∀ σ, Within U σ → TermsTrue σ B → TermsTrue σ A := by
  refine ⟨fun h σ hw hB => ?_, fun h σ hw hB => ⟨A, List.mem_singleton_self A, h σ hw hB⟩⟩
  obtain ⟨pr, hpr, ht⟩ := h σ hw hB
  cases List.mem_singleton.1 hpr
  exact ht

theorem cs_entails_pair {U : P → V → Prop} {A B C : List (P × Term S)} (h : Entails U [A, B] C)
    (σ : P → Option V) (hw : Within U σ) (hC : TermsTrue σ C) : TermsTrue σ A ∨ TermsTrue σ B := by
  obtain ⟨pr, hpr, ht⟩ := h σ hw hC
  rcases List.mem_cons.1 hpr with rfl | hpr
  · exact .inl ht
  · cases List.mem_singleton.1 hpr; exact .inr ht

theorem cs_nv_not_true (W : World P S V M) (x : P) (s : S)
    (hnv : ∀ v ∈ W.versions x, contains s v = false) (σ : P → Option V) (hw : Within W.Exists σ) :
    ¬ TermsTrue σ [(x, Term.pos s)] := by
  rw [cs_termsTrue_single, cs_eval_pos_iff]
  rintro ⟨v, hv, hc⟩
  rw [hnv v (hw x v hv)] at hc
  cases hc

end

variable [DecidableEq S]

theorem cs_dep_terms (p : P) (s : S) (q : P) (t : S) :
    (External.fromDependencyOf p s q t : External P S V M).terms =
      if q = p then [(p, Term.pos (intersection s (complement t)))]
      else if t = (empty : S) then [(p, Term.pos s)]
      else [(p, Term.pos s), (q, Term.neg t)] := by
  simp [External.terms, Incompat.fromDependency]

theorem cs_dep_keys (p1 : P) (r1 : S) (p2 : P) (r2 : S) (k : P)
    (h : k ∈ (External.fromDependencyOf p1 r1 p2 r2 : External P S V M).terms.map Prod.fst) :
    k = p1 ∨ k = p2 := by
  rw [cs_dep_terms] at h
  by_cases hq : p2 = p1
  · rw [if_pos hq] at h; exact .inl (List.mem_singleton.1 h)
  · rw [if_neg hq] at h
    by_cases he : r2 = (empty : S)
    · rw [if_pos he] at h; exact .inl (List.mem_singleton.1 h)
    · rw [if_neg he] at h
      rcases List.mem_cons.1 h with rfl | h
      · exact .inl rfl
      · exact .inr (List.mem_singleton.1 h)

variable [LawfulVersionSet S V]

/-- every set occurring in a leaf of the tree is valid (canonical) -/
def External.SetsValid : External P S V M → Prop
  | .notRoot _ _ => True
  | .noVersions _ s => LawfulVersionSet.Valid V s
  | .fromDependencyOf _ s _ t => LawfulVersionSet.Valid V s ∧ LawfulVersionSet.Valid V t
  | .custom _ s _ => LawfulVersionSet.Valid V s

theorem cs_dep_true_iff (σ : P → Option V) (p : P) (s : S) (q : P) (t : S)
    (hs : LawfulVersionSet.Valid V s) (ht : LawfulVersionSet.Valid V t) :
    TermsTrue σ (External.fromDependencyOf p s q t : External P S V M).terms ↔
      (∃ v, σ p = some v ∧ contains s v = true) ∧ ∀ w, σ q = some w → contains t w = false := by
  rw [cs_dep_terms]
  by_cases hq : q = p
  · subst hq
    rw [if_pos rfl, cs_termsTrue_single, cs_eval_pos_iff]
    constructor
    · rintro ⟨v, hv, hc⟩
      rw [LawfulVersionSet.contains_intersection _ _ _ hs (LawfulVersionSet.valid_complement _ ht),
        LawfulVersionSet.contains_complement _ _ ht, Bool.and_eq_true, Bool.not_eq_true'] at hc
      exact ⟨⟨v, hv, hc.1⟩, fun w hw => by cases hv.symm.trans hw; exact hc.2⟩
    · rintro ⟨⟨v, hv, hc⟩, hn⟩
      refine ⟨v, hv, ?_⟩
      rw [LawfulVersionSet.contains_intersection _ _ _ hs (LawfulVersionSet.valid_complement _ ht),
        LawfulVersionSet.contains_complement _ _ ht, hc, hn v hv]
      rfl
  · rw [if_neg hq]
    by_cases he : t = (empty : S)
    · subst he
      rw [if_pos rfl, cs_termsTrue_single, cs_eval_pos_iff]
      exact ⟨fun h => ⟨h, fun w _ => LawfulVersionSet.contains_empty w⟩, fun h => h.1⟩
    · rw [if_neg he, cs_termsTrue_pair, cs_eval_pos_iff, cs_eval_neg_iff]

/-- what is to be shown of the collapsed tree, relative to the clause `T` the new tree has to imply -/
def CollapseGood (W : World P S V M) (root : P) (rv : V) (T : List (P × Term S)) (t' : DerivationTree P S V M) : Prop :=
  t'.Sound W.Exists ∧ t'.LeavesTrueExisting W root rv ∧
    Entails W.Exists [t'.terms] T ∧ t'.NoVersionsOnlyBesideLeaf ∧
    (∀ e ∈ t'.externals, e.SetsValid)

theorem CollapseGood.weaken {W : World P S V M} {root : P} {rv : V} {T T' : List (P × Term S)}
    {t' : DerivationTree P S V M} (g : CollapseGood W root rv T t')
    (h : ∀ σ, Within W.Exists σ → TermsTrue σ T' → TermsTrue σ T) : CollapseGood W root rv T' t' := by
  obtain ⟨g1, g2, g3, g4, g5⟩ := g
  refine ⟨g1, g2, ?_, g4, g5⟩
  rw [cs_entails_single_iff] at g3 ⊢
  exact fun σ hw hT => g3 σ hw (h σ hw hT)

theorem cs_good_ext (W : World P S V M) (root : P) (rv : V) (e : External P S V M)
    (hl : e.TrueInExisting W root rv) (hv : e.SetsValid) :
    CollapseGood W root rv e.terms (.external e) := by
  refine ⟨.external e, ?_, ?_, trivial, ?_⟩
  · intro e' he'; cases List.mem_singleton.1 he'; exact hl
  · rw [cs_entails_single_iff]; exact fun σ _ h => h
  · intro e' he'; cases List.mem_singleton.1 he'; exact hv

theorem cs_good_derived (W : World P S V M) (root : P) (rv : V) (T : List (P × Term S)) (sid : Option Nat)
    (c1 c2 c1' c2' : DerivationTree P S V M)
    (hent : Entails W.Exists [c1.terms, c2.terms] T)
    (g1 : CollapseGood W root rv c1.terms c1') (g2 : CollapseGood W root rv c2.terms c2')
    (hn1 : c1'.isNoVersions = true → c2'.isNoVersionsOrCustom = true)
    (hn2 : c2'.isNoVersions = true → c1'.isNoVersionsOrCustom = true) :
    CollapseGood W root rv T (.derived T sid c1' c2') := by
  obtain ⟨a1, a2, a3, a4, a5⟩ := g1
  obtain ⟨b1, b2, b3, b4, b5⟩ := g2
  rw [cs_entails_single_iff] at a3 b3
  refine ⟨.derived _ _ _ _ a1 b1 fun σ hw hT => ?_, fun e he => (List.mem_append.1 he).elim (a2 e) (b2 e),
    (cs_entails_single_iff _ _ _).2 fun σ _ h => h, ⟨hn1, hn2, a4, b4⟩,
    fun e he => (List.mem_append.1 he).elim (a5 e) (b5 e)⟩
  rcases cs_entails_pair hent σ hw hT with h | h
  · exact ⟨_, List.mem_cons_self .., a3 σ hw h⟩
  · exact ⟨_, List.mem_cons_of_mem _ (List.mem_singleton_self _), b3 σ hw h⟩

/-- Merging a `NoVersions(x, s)` leaf that is true of the existing versions into the collapsed sibling
`c'` of `c` keeps everything: the leaf's clause is never all-true, so a clause that implies "the leaf's
or `c`'s" implies `c`'s, and widening the dependency leaf by `s` changes nothing on existing versions. -/
theorem merge_some_good (W : World P S V M) (root : P) (rv : V) {T : List (P × Term S)}
    {c c' t'' : DerivationTree P S V M} {x : P} {s : S}
    (hc : c.Collapses c') (hg : CollapseGood W root rv c.terms c')
    (hT : ∀ σ, Within W.Exists σ → TermsTrue σ T → TermsTrue σ [(x, Term.pos s)] ∨ TermsTrue σ c.terms)
    (hnv : ∀ v ∈ W.versions x, contains s v = false) (hsv : LawfulVersionSet.Valid V s)
    (hx : ∀ p1 r1 p2 r2, c.collapseNoVersions = .ok (.external (.fromDependencyOf p1 r1 p2 r2)) →
      x = p1 ∨ x = p2)
    (hm : c'.mergeNoVersions x s = .ok (some t'')) : CollapseGood W root rv T t'' := by
  replace hg : CollapseGood W root rv T c' :=
    hg.weaken fun σ hw h => (hT σ hw h).resolve_left (cs_nv_not_true W x s hnv σ hw)
  rcases merge_some c' x s t'' hm with ⟨_, _, _, _, -, rfl⟩ | ⟨p1, r1, p2, r2, rfl, hside⟩
  · exact hg
  obtain ⟨-, g2, g3, -, g5⟩ := hg
  have hleaf : (External.fromDependencyOf p1 r1 p2 r2 : External P S V M).TrueInExisting W root rv :=
    g2 _ (List.mem_singleton_self _)
  have hval : LawfulVersionSet.Valid V r1 ∧ LawfulVersionSet.Valid V r2 := g5 _ (List.mem_singleton_self _)
  rw [cs_entails_single_iff] at g3
  rcases hside with ⟨hp, rfl⟩ | ⟨hp, rfl⟩
  · have hu := LawfulVersionSet.valid_union _ _ hval.1 hsv
    refine (cs_good_ext W root rv (.fromDependencyOf p1 (union r1 s) p2 r2) ?_ ⟨hu, hval.2⟩).weaken
      fun σ hw hT => ?_
    · intro w hw hc
      rw [LawfulVersionSet.contains_union _ _ _ hval.1 hsv, hnv w (hp ▸ hw), Bool.or_false] at hc
      exact hleaf w hw hc
    · obtain ⟨⟨v, hv, hc⟩, hn⟩ := (cs_dep_true_iff σ p1 r1 p2 r2 hval.1 hval.2).1 (g3 σ hw hT)
      refine (cs_dep_true_iff σ p1 _ p2 r2 hu hval.2).2 ⟨⟨v, hv, ?_⟩, hn⟩
      rw [LawfulVersionSet.contains_union _ _ _ hval.1 hsv, hc, Bool.true_or]
  · obtain rfl : x = p2 :=
      (hx p1 r1 p2 r2 ((DerivationTree.collapses_iff _ _).2 hc)).resolve_left (Ne.symm hp)
    have hu := LawfulVersionSet.valid_union _ _ hval.2 hsv
    refine (cs_good_ext W root rv (.fromDependencyOf p1 r1 x (union r2 s)) ?_ ⟨hval.1, hu⟩).weaken
      fun σ hw hT => ?_
    · intro w hw hc
      obtain ⟨ds, t0, h1, h2, h3⟩ := hleaf w hw hc
      refine ⟨ds, t0, h1, h2, fun v hv => ?_⟩
      rw [h3 v hv, LawfulVersionSet.contains_union _ _ _ hval.2 hsv, hnv v hv, Bool.or_false]
    · obtain ⟨h1, hn⟩ := (cs_dep_true_iff σ p1 r1 x r2 hval.1 hval.2).1 (g3 σ hw hT)
      refine (cs_dep_true_iff σ p1 r1 x _ hval.1 hu).2 ⟨h1, fun v hv => ?_⟩
      rw [LawfulVersionSet.contains_union _ _ _ hval.2 hsv, hn v hv, hnv v (hw x v hv), Bool.or_false]

theorem collapse_good (W : World P S V M) (root : P) (rv : V) (t : DerivationTree P S V M) :
    ∀ t' : DerivationTree P S V M, t.Sound W.Exists → t.LeavesTrueExisting W root rv →
      (∀ e ∈ t.externals, e.SetsValid) → t.NoVersionsTouchesCollapsedSibling →
      t.Collapses t' → CollapseGood W root rv t.terms t' := by
  induction t with
  | external e =>
    intro t' _ hl hv _ h
    cases h
    exact cs_good_ext W root rv e (hl e (List.mem_singleton_self e)) (hv e (List.mem_singleton_self e))
  | derived T sid c1 c2 ih1 ih2 =>
    intro t' hs hl hv ⟨hpa, hpb, hp1, hp2⟩ h
    cases hs with
    | derived _ _ _ _ hs1 hs2 hent =>
    have hl1 : c1.LeavesTrueExisting W root rv := fun e he => hl e (List.mem_append_left _ he)
    have hl2 : c2.LeavesTrueExisting W root rv := fun e he => hl e (List.mem_append_right _ he)
    have hv1 : ∀ e ∈ c1.externals, e.SetsValid := fun e he => hv e (List.mem_append_left _ he)
    have hv2 : ∀ e ∈ c2.externals, e.SetsValid := fun e he => hv e (List.mem_append_right _ he)
    cases h with
    | node h1 h2 ha hb =>
      exact cs_good_derived W root rv T sid c1 c2 _ _ hent (ih1 _ hs1 hl1 hv1 hp1 h1)
        (ih2 _ hs2 hl2 hv2 hp2 h2) (h1.beside_noVersions ha) (h2.beside_noVersions hb)
    | @mergeLeft _ _ x s _ c' _ hc hm =>
      exact merge_some_good W root rv hc (ih2 _ hs2 hl2 hv2 hp2 hc) (cs_entails_pair hent)
        (hl1 _ (List.mem_singleton_self _)) (hv1 _ (List.mem_singleton_self _))
        (fun p1 r1 p2 r2 => hpa x s p1 r1 p2 r2 rfl) hm
    | @mergeRight _ _ x s _ c' _ hc hm =>
      exact merge_some_good W root rv hc (ih1 _ hs1 hl1 hv1 hp1 hc)
        (fun σ hw hT => (cs_entails_pair hent σ hw hT).symm)
        (hl2 _ (List.mem_singleton_self _)) (hv2 _ (List.mem_singleton_self _))
        (fun p1 r1 p2 r2 => hpb x s p1 r1 p2 r2 rfl) hm

/-- every derived node looks like a resolution step (`priorCause`): both causes mention a common
package (the pivot), and every package of the node's clause is a package of one of the causes -/
def DerivationTree.ResolutionShaped : DerivationTree P S V M → Prop
  | .external _ => True
  | .derived terms _ c1 c2 =>
      (∃ pivot, pivot ∈ c1.terms.map Prod.fst ∧ pivot ∈ c2.terms.map Prod.fst ∧
        ∀ k ∈ terms.map Prod.fst, k ∈ c1.terms.map Prod.fst ∨ k ∈ c2.terms.map Prod.fst) ∧
      c1.ResolutionShaped ∧ c2.ResolutionShaped

omit [LawfulVersionSet S V] in
theorem collapse_dep_keys (c : DerivationTree P S V M) :
    c.ResolutionShaped → ∀ p1 r1 p2 r2,
      c.Collapses (.external (.fromDependencyOf p1 r1 p2 r2)) →
      ∀ k ∈ c.terms.map Prod.fst, k = p1 ∨ k = p2 := by
  induction c with
  | external e =>
    intro _ p1 r1 p2 r2 h k hk
    cases h
    exact cs_dep_keys p1 r1 p2 r2 k hk
  | derived T sid c1 c2 ih1 ih2 =>
    -- the pivot `y` is the package of the `NoVersions` cause and a package of the other cause
    intro ⟨⟨y, hy1, hy2, hkeys⟩, hr1, hr2⟩ p1 r1 p2 r2 h k hk
    cases h with
    | mergeLeft hc hm =>
      obtain ⟨r1', r2', rfl⟩ := merge_some_dep _ _ _ _ _ _ _ hm
      cases List.mem_singleton.1 hy1
      rcases hkeys k hk with h1 | h2
      · cases List.mem_singleton.1 h1; exact ih2 hr2 p1 r1' p2 r2' hc _ hy2
      · exact ih2 hr2 p1 r1' p2 r2' hc k h2
    | mergeRight hc hm =>
      obtain ⟨r1', r2', rfl⟩ := merge_some_dep _ _ _ _ _ _ _ hm
      cases List.mem_singleton.1 hy2
      rcases hkeys k hk with h1 | h2
      · exact ih1 hr1 p1 r1' p2 r2' hc k h1
      · cases List.mem_singleton.1 h2; exact ih1 hr1 p1 r1' p2 r2' hc _ hy1

omit [LawfulVersionSet S V] in
theorem resolutionShaped_touches (t : DerivationTree P S V M) (h : t.ResolutionShaped) :
    t.NoVersionsTouchesCollapsedSibling := by
  induction t with
  | external e => trivial
  | derived T sid c1 c2 ih1 ih2 =>
    obtain ⟨⟨y, hy1, hy2, -⟩, hr1, hr2⟩ := h
    refine ⟨?_, ?_, ih1 hr1, ih2 hr2⟩
    · rintro x s p1 r1 p2 r2 rfl hc
      cases List.mem_singleton.1 hy1
      exact collapse_dep_keys c2 hr2 p1 r1 p2 r2 ((DerivationTree.collapses_iff _ _).1 hc) _ hy2
    · rintro x s p1 r1 p2 r2 rfl hc
      cases List.mem_singleton.1 hy2
      exact collapse_dep_keys c1 hr1 p1 r1 p2 r2 ((DerivationTree.collapses_iff _ _).1 hc) _ hy1

set_option linter.unusedSectionVars false in
theorem External.trueInExisting_of_trueIn (W : World P S V M) (root : P) (rv : V)
    (e : External P S V M) (h : e.TrueIn W root rv) : e.TrueInExisting W root rv := by
  cases e with
  | notRoot p v => exact h
  | noVersions p s => exact h
  | fromDependencyOf p s q t =>
    intro w _ hc
    obtain ⟨ds, h1, h2⟩ := h w hc
    exact ⟨ds, t, h1, h2, fun _ _ => rfl⟩
  | custom p s m =>
    obtain ⟨v, rfl, hd⟩ := h
    intro w _ hc
    rw [(LawfulVersionSet.contains_singleton v w).1 hc]
    exact hd

/-
The `_partial` theorems below are false without `hpc`: the hypothesis `NoVersionsTouchesSibling` only speaks
about a sibling that *is* a dependency leaf, but a derived sibling can itself collapse to a dependency
leaf, into which the `NoVersions` set is then merged on the dependency side whatever package it is about.

Counterexample (`P = V = Nat`, `S = Range Nat`, `M = Unit`; described here, not checked by Lean):
  packages 0 (root), 1, 2;  versions 0 ↦ [0], 1 ↦ [2], 2 ↦ [];  deps 0 0 = available [(1, {1})]; root = 0, rv = 0
  F  = external (fromDependencyOf 0 {0} 1 {1})
  c2 = derived [(0, pos {0})] none F (external (noVersions 1 {1}))
  t  = derived [(0, pos {0})] none (external (noVersions 2 {2})) c2
All hypotheses hold (`Sound` over `W.Exists`; the three leaves are true over the existing versions;
the sets are valid; `NoVersionsTouchesSibling` is vacuous at the top because `c2` is not a leaf, and
holds in `c2` with `x = p2 = 1`; `htop` holds since the top clause is `[(0, pos {0})]`).
`t.collapseNoVersions = ok (external (fromDependencyOf 0 {0} 1 {1, 2}))`:
  * that leaf is not `TrueInExisting` (the declared set `{1}` and `{1,2}` differ on the existing version 2 of package 1);
  * its clause `[(0, pos {0}), (1, neg {1,2})]` is false under `σ = {0 ↦ 0, 1 ↦ 2}`, which is within
    `W.Exists` and selects the root, so `Entails W.Exists [t'.terms] t.terms` and the conclusion of
    `collapse_top_forbids_root_partial` fail.
They hold with `hpc : t.NoVersionsTouchesCollapsedSibling` (which implies `hp`), and with the
collapse-free `t.ResolutionShaped` instead of `hp`.
-/

/-- C09, main theorem: after `collapse_no_versions` every remaining
leaf is true of the provider over the existing versions, every derived node is still entailed by its
causes over the existing versions, the new top clause is implied by the old one over the existing
versions (so it still forbids the root), and a `NoVersions` leaf survives only next to a
`NoVersions` / `Custom` leaf -/
theorem collapse_sound_partial (W : World P S V M) (root : P) (rv : V) (t : DerivationTree P S V M)
    (hs : t.Sound W.Exists) (hl : t.LeavesTrueExisting W root rv)
    (hv : ∀ e ∈ t.externals, e.SetsValid) (hp : t.NoVersionsTouchesSibling)
    (hpc : t.NoVersionsTouchesCollapsedSibling)
    (t' : DerivationTree P S V M) (h : t.collapseNoVersions = .ok t') :
    t'.Sound W.Exists ∧ t'.LeavesTrueExisting W root rv ∧
      Entails W.Exists [t'.terms] t.terms ∧ t'.NoVersionsOnlyBesideLeaf ∧
      (∀ e ∈ t'.externals, e.SetsValid) := by
  have _ := hp  -- redundant: `hpc.touchesSibling t`
  exact collapse_good W root rv t t' hs hl hv hpc ((DerivationTree.collapses_iff t t').1 h)

theorem collapse_top_forbids_root_partial (W : World P S V M) (root : P) (rv : V) (t : DerivationTree P S V M)
    (hs : t.Sound W.Exists) (hl : t.LeavesTrueExisting W root rv)
    (hv : ∀ e ∈ t.externals, e.SetsValid) (hp : t.NoVersionsTouchesSibling)
    (hpc : t.NoVersionsTouchesCollapsedSibling)
    (htop : ∀ σ : P → Option V, σ root = some rv → TermsTrue σ t.terms)
    (t' : DerivationTree P S V M) (h : t.collapseNoVersions = .ok t')
    (σ : P → Option V) (hw : Within W.Exists σ) (hσ : σ root = some rv) : TermsTrue σ t'.terms := by
  have g := (collapse_sound_partial W root rv t hs hl hv hp hpc t' h).2.2.1
  rw [cs_entails_single_iff] at g
  exact g σ hw (htop σ hσ)

theorem collapse_sound_of_resolutionShaped (W : World P S V M) (root : P) (rv : V)
    (t : DerivationTree P S V M)
    (hs : t.Sound W.Exists) (hl : t.LeavesTrueExisting W root rv)
    (hv : ∀ e ∈ t.externals, e.SetsValid) (hr : t.ResolutionShaped)
    (t' : DerivationTree P S V M) (h : t.collapseNoVersions = .ok t') :
    t'.Sound W.Exists ∧ t'.LeavesTrueExisting W root rv ∧
      Entails W.Exists [t'.terms] t.terms ∧ t'.NoVersionsOnlyBesideLeaf ∧
      (∀ e ∈ t'.externals, e.SetsValid) :=
  have hpc := resolutionShaped_touches t hr
  collapse_sound_partial W root rv t hs hl hv (hpc.touchesSibling t) hpc t' h

theorem collapse_top_forbids_root_of_resolutionShaped (W : World P S V M) (root : P) (rv : V)
    (t : DerivationTree P S V M)
    (hs : t.Sound W.Exists) (hl : t.LeavesTrueExisting W root rv)
    (hv : ∀ e ∈ t.externals, e.SetsValid) (hr : t.ResolutionShaped)
    (htop : ∀ σ : P → Option V, σ root = some rv → TermsTrue σ t.terms)
    (t' : DerivationTree P S V M) (h : t.collapseNoVersions = .ok t')
    (σ : P → Option V) (hw : Within W.Exists σ) (hσ : σ root = some rv) : TermsTrue σ t'.terms :=
  have hpc := resolutionShaped_touches t hr
  collapse_top_forbids_root_partial W root rv t hs hl hv (hpc.touchesSibling t) hpc htop t' h σ hw hσ

set_option linter.unusedSectionVars false in
theorem collapse_identity (t : DerivationTree P S V M)
    (h : ∀ e ∈ t.externals, ∀ p s, e ≠ .noVersions p s) : t.collapseNoVersions = .ok t :=
  (DerivationTree.collapses_iff t t).2 (.refl t h)

set_option linter.unusedSectionVars false in
theorem collapse_no_panic_partial (t : DerivationTree P S V M) (h : ¬ t.NoVersionsBesideNotRoot) :
    ∃ t', t.collapseNoVersions = .ok t' := by
  -- the cause into which merging panics is a `NotRoot` leaf, before collapsing as after
  have notRoot_of : ∀ {c c' : DerivationTree P S V M} {x s err}, c.collapseNoVersions = .ok c' →
      c'.mergeNoVersions x s = .error err → ∃ p v, c = .external (.notRoot p v) := by
    intro c c' x s err hc hm
    obtain ⟨p, v, rfl⟩ := cs_merge_error c' x s err hm
    exact ⟨p, v, ((DerivationTree.collapses_iff _ _).1 hc).of_leaf fun _ _ _ _ e => nomatch e⟩
  fun_induction DerivationTree.collapseNoVersions t
  case case2 hc ih => exact (ih fun a => h (.inr (.inr (.inr a)))).elim fun _ e => nomatch hc.symm.trans e
  case case3 hc _ hm _ => exact absurd (.inl ⟨rfl, notRoot_of hc hm⟩) h
  case case6 hc ih => exact (ih fun a => h (.inr (.inr (.inl a)))).elim fun _ e => nomatch hc.symm.trans e
  case case7 hc _ hm _ => exact absurd (.inr (.inl ⟨rfl, notRoot_of hc hm⟩)) h
  case case11 hc ih _ => exact (ih fun a => h (.inr (.inr (.inl a)))).elim fun _ e => nomatch hc.symm.trans e
  case case12 hc _ _ ih => exact (ih fun a => h (.inr (.inr (.inr a)))).elim fun _ e => nomatch hc.symm.trans e
  all_goals exact ⟨_, rfl⟩

end Pubgrub
