/-
The reporter does not run out of fuel: `buildRecursive` succeeds on a node, from any state, with four
units of fuel per node of the tree below it (`runs_all`).
-/
import PubgrubProofs.ReporterSpec

namespace Pubgrub
open VersionSet

set_option linter.unusedSectionVars false

section
variable {P S V M : Type} [DecidableEq P] [VersionSet S V] [DecidableEq S]

theorem br_of_helper {fuel : Nat} {r : Reporter P S V M} {terms sid c1 c2}
    (h : ∃ r1, Reporter.buildRecursiveHelper fuel r terms sid c1 c2 = .ok r1) :
    ∃ r', Reporter.buildRecursive (fuel + 1) r terms sid c1 c2 = .ok r' := by
  obtain ⟨r1, h⟩ := h
  rw [Reporter.buildRecursive, h]
  cases sid with
  | none => exact ⟨_, rfl⟩
  | some id =>
    dsimp only
    split <;> exact ⟨_, rfl⟩

/-- from every state, `buildRecursive` succeeds with the fuel `f` on the node and on every node below -/
def RunsWith (f : Nat) : DerivationTree P S V M → Prop
  | .external _ => True
  | .derived terms sid c1 c2 =>
    (∀ r : Reporter P S V M, ∃ r', Reporter.buildRecursive f r terms sid c1 c2 = .ok r') ∧
      RunsWith f c1 ∧ RunsWith f c2

theorem helper_with_ref {f : Nat} {r : Reporter P S V M} {terms sid t1 sid1 a1 b1 t2 sid2 a2 b2 ref1}
    (h1 : r.lineRefOf sid1 = some ref1) (h2 : RunsWith f (.derived t2 sid2 a2 b2 : DerivationTree P S V M)) :
    ∃ r', Reporter.buildRecursiveHelper (f + 1) r terms sid (.derived t1 sid1 a1 b1)
      (.derived t2 sid2 a2 b2) = .ok r' := by
  rw [Reporter.buildRecursiveHelper, h1]
  cases r.lineRefOf sid2 with
  | some ref2 => exact ⟨_, rfl⟩
  | none =>
    dsimp only
    obtain ⟨r2, hr2⟩ := h2.1 r
    rw [hr2]
    exact ⟨_, rfl⟩

/-- Two derived causes.  When the first is shared and has no number yet, `buildRecursive` is called
on the node once more after the first cause is reported; the first cause then has a number, so that
call needs two more units of fuel than the report of the second cause and not a further round. -/
theorem helper_dd {terms : List (P × Term S)} {sid t1 sid1 a1 b1 t2 sid2 a2 b2} {g : Nat}
    (hb1 : RunsWith (g + 2) (.derived t1 sid1 a1 b1 : DerivationTree P S V M))
    (hb2 : RunsWith g (.derived t2 sid2 a2 b2 : DerivationTree P S V M))
    (hb2' : RunsWith (g + 2) (.derived t2 sid2 a2 b2 : DerivationTree P S V M)) (r : Reporter P S V M) :
    ∃ r', Reporter.buildRecursiveHelper (g + 3) r terms sid (.derived t1 sid1 a1 b1)
      (.derived t2 sid2 a2 b2) = .ok r' := by
  cases h1 : r.lineRefOf sid1 with
  | some ref1 => exact helper_with_ref h1 hb2'
  | none =>
    rw [Reporter.buildRecursiveHelper, h1]
    obtain ⟨r1, hr1⟩ := hb1.1 r
    cases r.lineRefOf sid2 with
    | some ref2 =>
      dsimp only
      rw [hr1]
      exact ⟨_, rfl⟩
    | none =>
      dsimp only
      rw [hr1]
      dsimp only
      cases sid1 with
      | some id1 =>
        rw [Option.isSome_some, if_pos rfl]
        obtain ⟨ref1, href⟩ := Option.isSome_iff_exists.mp (key_of_buildRecursive _ _ _ _ _ _ _ hr1)
        exact br_of_helper (helper_with_ref (ref1 := ref1) href hb2)
      | none =>
        rw [Option.isSome_none, if_neg Bool.false_ne_true]
        obtain ⟨r2, hr2⟩ := hb2'.1 (r1.addLineRef.push .blank)
        rw [hr2]
        exact ⟨_, rfl⟩

/-- one derived cause `d` and one leaf: `buildRecursive` is called on `d` or on the derived cause of `d` -/
theorem one_each_term {dterms : List (P × Term S)} {dsid dc1 dc2} {g : Nat}
    (hb : RunsWith g (.derived dterms dsid dc1 dc2 : DerivationTree P S V M))
    (r : Reporter P S V M) (e : External P S V M) (cur : List (P × Term S)) :
    ∃ r', Reporter.reportOneEach (g + 2) r dterms dsid dc1 dc2 e cur = .ok r' := by
  rw [Reporter.reportOneEach]
  cases r.lineRefOf dsid with
  | some ref => exact ⟨_, rfl⟩
  | none =>
    dsimp only
    cases dc1 with
    | external e1 =>
      cases dc2 with
      | external e2 =>
        simp only [Reporter.reportRecurseOneEach]
        obtain ⟨r1, hr1⟩ := hb.1 r
        rw [hr1]; exact ⟨_, rfl⟩
      | derived pt psid pa pb =>
        rw [Reporter.reportRecurseOneEach]
        obtain ⟨r1, hr1⟩ := hb.2.2.1 r
        rw [hr1]; exact ⟨_, rfl⟩
    | derived pt psid pa pb =>
      cases dc2 with
      | external e2 =>
        rw [Reporter.reportRecurseOneEach]
        obtain ⟨r1, hr1⟩ := hb.2.1.1 r
        rw [hr1]; exact ⟨_, rfl⟩
      | derived qt qsid qa qb =>
        simp only [Reporter.reportRecurseOneEach]
        obtain ⟨r1, hr1⟩ := hb.1 r
        rw [hr1]; exact ⟨_, rfl⟩

theorem helper_of_causes {g : Nat} {c1 c2 : DerivationTree P S V M}
    (h1 : ∀ f, g ≤ f → RunsWith f c1) (h2 : ∀ f, g ≤ f → RunsWith f c2) (r : Reporter P S V M)
    (terms : List (P × Term S)) (sid : Option Nat) :
    ∃ r', Reporter.buildRecursiveHelper (g + 3) r terms sid c1 c2 = .ok r' := by
  cases c1 with
  | external e1 =>
    cases c2 with
    | external e2 => exact ⟨_, by rw [Reporter.buildRecursiveHelper]⟩
    | derived dt dsid dc1 dc2 =>
      rw [Reporter.buildRecursiveHelper]
      exact one_each_term (h2 g (Nat.le_refl g)) r e1 terms
  | derived t1 sid1 a1 b1 =>
    cases c2 with
    | external e2 =>
      rw [Reporter.buildRecursiveHelper]
      exact one_each_term (h1 g (Nat.le_refl g)) r e2 terms
    | derived t2 sid2 a2 b2 =>
      exact helper_dd (h1 _ (Nat.le_add_right g 2)) (h2 g (Nat.le_refl g)) (h2 _ (Nat.le_add_right g 2)) r

theorem size_pos (d : DerivationTree P S V M) : 1 ≤ d.size := by
  cases d with
  | external _ => exact Nat.le_refl 1
  | derived _ _ c1 c2 => exact Nat.le_trans (Nat.le_add_right 1 c1.size) (Nat.le_add_right _ c2.size)

/-- each node takes four units of fuel -/
theorem fuel_of_node {s1 s2 f : Nat} (h1 : 1 ≤ s1) (h2 : 1 ≤ s2) (hf : 4 * (1 + s1 + s2) ≤ f) :
    ∃ g, f = g + 4 ∧ 4 * s1 ≤ g ∧ 4 * s2 ≤ g :=
  ⟨f - 4, by omega⟩

theorem runs_all (d : DerivationTree P S V M) : ∀ f, 4 * d.size ≤ f → RunsWith f d := by
  induction d with
  | external _ => exact fun _ _ => trivial
  | derived terms sid c1 c2 ih1 ih2 =>
    intro f hf
    obtain ⟨g, rfl, i1, i2⟩ := fuel_of_node (size_pos c1) (size_pos c2) hf
    exact ⟨fun r => br_of_helper (helper_of_causes (fun f' hf' => ih1 f' (Nat.le_trans i1 hf'))
      (fun f' hf' => ih2 f' (Nat.le_trans i2 hf')) r terms sid),
      ih1 _ (Nat.le_add_right_of_le i1), ih2 _ (Nat.le_add_right_of_le i2)⟩

end
end Pubgrub
