/-
The functions of the model that contain none of the listed panic sites.  Those without a fuelled loop are
`Quiet`: whatever they return is a value or an unlisted panic, never `outOfFuel`; each proof walks the
function once, along its `do` block.  (Table of the result predicates: head of SafeResult.lean.)
-/
import PubgrubModel.Core
import PubgrubProofs.SafeResult

set_option linter.unusedSectionVars false

namespace Pubgrub
open VersionSet

/-- no listed panic, nothing claimed about the value -/
abbrev Safe0 {α : Type} (r : R α) : Prop := Safe r (fun _ => True)

theorem Safe.bind0 {α β : Type} {x : R α} {f : α → R β} (hx : Safe0 x) (hf : ∀ a, Safe0 (f a)) :
    Safe0 (x >>= f) :=
  Safe.bind hx (fun a _ _ => hf a)

theorem Safe.weaken {α : Type} {r : R α} {Q : α → Prop} (h : Safe r Q) : Safe0 r :=
  h.mono (fun _ _ _ => trivial)

theorem Safe.error_of_eq {α β : Type} {x : R α} {e : Fault} {Q : β → Prop} (h : x = .error e) (hx : Safe0 x) :
    Safe (.error e : R β) Q := by
  subst h; cases e <;> exact hx

/-- a value or an unlisted panic, never `outOfFuel` -/
def Quiet {α : Type} (r : R α) : Prop :=
  match r with
  | .ok _ => True
  | .error (.panic s) => ¬ Listed s
  | .error .outOfFuel => False

namespace Quiet
variable {α β : Type}

theorem ok {a : α} : Quiet (.ok a : R α) := trivial
theorem pure' {a : α} : Quiet (pure a : R α) := trivial
theorem throw' {s : String} (h : ¬ Listed s) : Quiet (throw (.panic s) : R α) := h

theorem bind {x : R α} {f : α → R β} (hx : Quiet x) (hf : ∀ a, Quiet (f a)) : Quiet (x >>= f) := by
  cases x with
  | ok a => exact hf a
  | error e => cases e <;> exact hx

theorem unwrapOr {o : Option α} {site : String} (h : ¬ Listed site) : Quiet (unwrapOr o site) := by
  cases o
  · exact h
  · trivial

theorem storeGet {store : List α} {id : Nat} : Quiet (storeGet store id) := unwrapOr (by not_listed)

theorem safe0 {r : R α} (h : Quiet r) : Safe0 r := by
  cases r with
  | ok a => trivial
  | error e =>
    cases e with
    | panic s => exact h
    | outOfFuel => trivial

theorem foldlM {f : β → α → R β} (hf : ∀ b a, Quiet (f b a)) :
    ∀ (l : List α) (b : β), Quiet (l.foldlM (m := R) f b)
  | [], _ => ok
  | a :: l, b => by rw [List.foldlM_cons]; exact bind (hf b a) (foldlM hf l)

theorem mapM {f : α → R β} (hf : ∀ a, Quiet (f a)) : ∀ l : List α, Quiet (l.mapM (m := R) f)
  | [] => ok
  | a :: l => by rw [List.mapM_cons]; exact bind (hf a) fun _ => bind (mapM hf l) fun _ => ok

end Quiet

section
variable {P S V M Pr : Type} [DecidableEq P] [VersionSet S V] [DecidableEq S]

theorem Incompat.unwrapPositive_quiet (t : Term S) : Quiet (Incompat.unwrapPositive t) := by
  cases t
  · exact Quiet.ok
  · exact Quiet.throw' (by not_listed)

theorem Incompat.unwrapNegative_quiet (t : Term S) : Quiet (Incompat.unwrapNegative t) := by
  cases t
  · exact Quiet.throw' (by not_listed)
  · exact Quiet.ok

theorem Incompat.noVersions_quiet (p : P) (t : Term S) :
    Quiet (Incompat.noVersions (V := V) (M := M) p t) := by
  cases t
  · exact Quiet.ok
  · exact Quiet.throw' (by not_listed)

theorem Incompat.mergeDependents_quiet (a b : Incompat P S V M) : Quiet (a.mergeDependents b) := by
  unfold Incompat.mergeDependents
  split
  · split
    · exact Quiet.ok
    · extract_lets depTerm
      clear_value depTerm
      split
      · exact Quiet.ok
      · refine Quiet.bind (Quiet.unwrapOr (by not_listed)) fun t1 => ?_
        refine Quiet.bind (unwrapPositive_quiet t1) fun s1 => ?_
        refine Quiet.bind (Quiet.unwrapOr (by not_listed)) fun t2 => ?_
        refine Quiet.bind (unwrapPositive_quiet t2) fun s2 => ?_
        extract_lets done
        split
        · exact Quiet.ok
        · exact Quiet.bind (unwrapNegative_quiet _) fun _ => Quiet.ok
  · exact Quiet.ok

namespace State

theorem findMerge_quiet (store : List (Incompat P S V M)) (inc : Incompat P S V M) :
    ∀ ids : List Nat, Quiet (findMerge store inc ids)
  | [] => Quiet.ok
  | a :: rest => by
    unfold findMerge
    refine Quiet.bind Quiet.storeGet fun pastInc => ?_
    refine Quiet.bind (Incompat.mergeDependents_quiet inc pastInc) fun r => ?_
    split
    · exact Quiet.ok
    · exact findMerge_quiet store inc rest

theorem mergeIncompatibility_quiet (st : State P S V M Pr) (id : Nat) :
    Quiet (mergeIncompatibility st id) := by
  unfold mergeIncompatibility
  refine Quiet.bind Quiet.storeGet fun inc => ?_
  -- the rest of the function after the `match inc.asDependency`, a join point of the `do` block
  extract_lets index
  have hindex : ∀ x, Quiet (index x) := by
    rintro ⟨st', id'⟩
    refine Quiet.bind Quiet.storeGet fun inc' => ?_
    extract_lets done
    split
    · exact Quiet.throw' (by not_listed)
    · exact Quiet.ok
  clear_value index
  split
  · exact hindex _
  · extract_lets depsLookup
    refine Quiet.bind (findMerge_quiet _ _ _) fun r => ?_
    split <;> exact hindex _

theorem addIncompatibility_quiet (st : State P S V M Pr) (inc : Incompat P S V M) :
    Quiet (addIncompatibility st inc) :=
  mergeIncompatibility_quiet _ _

theorem addIncompatibilityFromDependencies_quiet (st : State P S V M Pr) (p : P) (v : V)
    (deps : List (P × S)) : Quiet (addIncompatibilityFromDependencies st p v deps) :=
  Quiet.bind (Quiet.foldlM (fun st id => mergeIncompatibility_quiet st id) _ _) fun _ => Quiet.ok

theorem buildNode_quiet (store : List (Incompat P S V M)) (shared : List Nat)
    (pre : List (Nat × DerivationTree P S V M)) (id : Nat) : Quiet (buildNode store shared pre id) := by
  unfold buildNode
  refine Quiet.bind Quiet.storeGet fun inc => ?_
  split
  · refine Quiet.bind (Quiet.unwrapOr (by not_listed)) fun c1 => ?_
    exact Quiet.bind (Quiet.unwrapOr (by not_listed)) fun c2 => Quiet.ok
  all_goals exact Quiet.ok

theorem collectIds_safe (store : List (Incompat P S V M)) :
    ∀ (fuel : Nat) (stack all shared : List Nat), Safe0 (collectIds store fuel stack all shared)
  | 0, _, _, _ => Safe.fuel
  | fuel + 1, stack, all, shared => by
    unfold collectIds
    split
    · exact Safe.ok trivial
    · split
      · rename_i h; exact Safe.error_of_eq h Quiet.storeGet.safe0
      · split
        · split <;> exact collectIds_safe store fuel _ _ _
        · exact collectIds_safe store fuel _ _ _

theorem buildDerivationTree_safe (st : State P S V M Pr) (id : Nat) : Safe0 (st.buildDerivationTree id) := by
  unfold buildDerivationTree
  refine Safe.bind0 (collectIds_safe _ _ _ _ _) fun ⟨all, shared⟩ => ?_
  refine Safe.bind0 (Quiet.foldlM (fun pre id => ?_) _ _).safe0 fun _ => (Quiet.unwrapOr (by not_listed)).safe0
  exact Quiet.bind (buildNode_quiet _ _ _ _) fun _ => Quiet.ok

end State

namespace PartialSolution

theorem swapIndices_quiet {α : Type} (l : List α) (i j : Nat) : Quiet (swapIndices l i j) := by
  unfold swapIndices
  split
  · exact Quiet.ok
  · exact Quiet.throw' (by not_listed)

theorem addDecision_quiet (debug : Bool) (ps : PartialSolution P S V Pr) (p : P) (v : V) :
    Quiet (addDecision debug ps p v) := by
  unfold addDecision
  -- three join points: after the swap, after the debug block, after its first check
  extract_lets newIdx dl done decide check
  have hdecide : ∀ u, Quiet (decide u) := fun _ => by
    refine Quiet.bind (Quiet.unwrapOr (by not_listed)) fun oldIdx => ?_
    refine Quiet.bind (Quiet.unwrapOr (by not_listed)) fun pa => ?_
    extract_lets pa' assignments
    split
    · exact Quiet.bind (swapIndices_quiet _ _ _) fun _ => Quiet.ok
    · exact Quiet.ok
  clear_value decide
  have hcheck : ∀ u, Quiet (check u) := fun _ => by
    dsimp only [check]
    split
    · exact Quiet.throw' (by not_listed)
    · exact hdecide _
  clear_value check
  split
  · split
    · exact Quiet.throw' (by not_listed)
    · split
      · exact Quiet.throw' (by not_listed)
      · split
        · exact Quiet.throw' (by not_listed)
        · exact hcheck _
  · exact hdecide _

theorem addVersion_quiet (debug : Bool) (ps : PartialSolution P S V Pr) (p : P) (v : V)
    (news : List (Incompat P S V M)) : Quiet (addVersion debug ps p v news) := by
  unfold addVersion
  split
  · exact addDecision_quiet _ _ _ _
  · extract_lets exact notSatisfied
    split
    · exact addDecision_quiet _ _ _ _
    · exact Quiet.ok

theorem toPrioritize_quiet (ps : PartialSolution P S V Pr) : Quiet ps.toPrioritize := by
  unfold toPrioritize
  split
  · exact Quiet.throw' (by not_listed)
  · exact Quiet.ok

theorem extractSolution_quiet (ps : PartialSolution P S V Pr) : Quiet ps.extractSolution := by
  refine Quiet.mapM (fun ⟨p, pa⟩ => ?_) _
  dsimp only
  split
  · exact Quiet.ok
  · exact Quiet.throw' (by not_listed)

end PartialSolution

end
end Pubgrub
