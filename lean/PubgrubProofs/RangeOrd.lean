/-
The ordering on ranges is a total order consistent with equality (property C16).
All statements are for arbitrary segment lists (no canonical-form hypothesis).
-/
import PubgrubProofs.BoundCut

namespace Pubgrub.Range
open Pubgrub Bound
variable {V : Type} [LinearOrder V]

/-- a comparison function that is a strict total order consistent with equality -/
structure GoodCmp {α : Type} (f : α → α → Ordering) : Prop where
  eq_iff : ∀ a b, f a b = .eq ↔ a = b
  swap : ∀ a b, f b a = (f a b).swap
  lt_trans : ∀ a b c, f a b = .lt → f b c = .lt → f a c = .lt

theorem GoodCmp.le_trans {α : Type} {f : α → α → Ordering} (hf : GoodCmp f) (a b c : α)
    (h1 : f a b ≠ .gt) (h2 : f b c ≠ .gt) : f a c ≠ .gt := by
  cases hab : f a b with
  | gt => exact absurd hab h1
  | eq => rw [(hf.eq_iff a b).1 hab]; exact h2
  | lt =>
    cases hbc : f b c with
    | gt => exact absurd hbc h2
    | eq => rw [← (hf.eq_iff b c).1 hbc, hab]; simp
    | lt => rw [hf.lt_trans a b c hab hbc]; simp

theorem GoodCmp.of_key {α β : Type} [LinearOrder β] {f : α → α → Ordering} (key : α → β)
    (inj : Function.Injective key) (hlt : ∀ a b, f a b = .lt ↔ key a < key b)
    (hgt : ∀ a b, f a b = .gt ↔ key b < key a) : GoodCmp f := by
  have heq : ∀ a b, f a b = .eq ↔ a = b := fun a b => by
    rw [← inj.eq_iff]
    cases h : f a b with
    | lt => simpa using ((hlt a b).1 h).ne
    | gt => simpa using ((hgt a b).1 h).ne'
    | eq =>
      refine iff_of_true rfl (le_antisymm (not_lt.1 fun hc => ?_) (not_lt.1 fun hc => ?_))
      · rw [(hgt a b).2 hc] at h; cases h
      · rw [(hlt a b).2 hc] at h; cases h
  refine ⟨heq, fun a b => ?_, fun a b c h1 h2 =>
    (hlt a c).2 (((hlt a b).1 h1).trans ((hlt b c).1 h2))⟩
  cases h : f a b with
  | lt => exact (hgt b a).2 ((hlt a b).1 h)
  | eq => exact (heq b a).2 ((heq a b).1 h).symm
  | gt => exact (hlt b a).2 ((hgt a b).1 h)

/-! ### the bound comparisons compare cuts -/

theorem cmpV_lt_iff (a b : V) : cmpV a b = .lt ↔ a < b := by
  unfold cmpV; split_ifs <;> simp_all

theorem cmpV_eq_iff (a b : V) : cmpV a b = .eq ↔ a = b := by
  unfold cmpV; split_ifs <;> simp_all; order

theorem cmpV_gt_iff (a b : V) : cmpV a b = .gt ↔ b < a := by
  unfold cmpV; split_ifs <;> simp_all <;> order

theorem cmpBoundsStart_spec (a b : Bound V) :
    (cmpBoundsStart a b = .lt ↔ a.startCut < b.startCut) ∧
      (cmpBoundsStart a b = .gt ↔ b.startCut < a.startCut) := by
  cases a <;> cases b <;> simp only [cmpBoundsStart, startCut] <;> try simp [bot_lt_iff_ne_bot]
  all_goals
    rename_i l r
    rcases lt_trichotomy l r with h | rfl | h
    · simp [(cmpV_lt_iff l r).2 h, h, h.le, h.not_gt, h.not_ge]
    · simp [(cmpV_eq_iff l l).2 rfl]
    · simp [(cmpV_gt_iff l r).2 h, h, h.le, h.not_gt, h.not_ge]

theorem cmpBoundsEnd_spec (a b : Bound V) :
    (cmpBoundsEnd a b = .lt ↔ a.endCut < b.endCut) ∧
      (cmpBoundsEnd a b = .gt ↔ b.endCut < a.endCut) := by
  cases a <;> cases b <;> simp only [cmpBoundsEnd, endCut] <;> try simp [lt_top_iff_ne_top]
  all_goals
    rename_i l r
    rcases lt_trichotomy l r with h | rfl | h
    · simp [(cmpV_lt_iff l r).2 h, h, h.le, h.not_gt, h.not_ge]
    · simp [(cmpV_eq_iff l l).2 rfl]
    · simp [(cmpV_gt_iff l r).2 h, h, h.le, h.not_gt, h.not_ge]

theorem goodCmp_start : GoodCmp (cmpBoundsStart (V := V)) :=
  .of_key startCut startCut_injective (fun a b => (cmpBoundsStart_spec a b).1)
    fun a b => (cmpBoundsStart_spec a b).2

theorem goodCmp_end : GoodCmp (cmpBoundsEnd (V := V)) :=
  .of_key endCut endCut_injective (fun a b => (cmpBoundsEnd_spec a b).1)
    fun a b => (cmpBoundsEnd_spec a b).2

/-- lexicographic "then" on orderings, as written in the model with nested `match` -/
def thenO (o : Ordering) (k : Ordering) : Ordering :=
  match o with
  | .eq => k
  | o => o

@[simp] theorem thenO_eq (k : Ordering) : thenO .eq k = k := rfl
@[simp] theorem thenO_lt (k : Ordering) : thenO .lt k = .lt := rfl
@[simp] theorem thenO_gt (k : Ordering) : thenO .gt k = .gt := rfl

theorem thenO_eq_iff {o k : Ordering} : thenO o k = .eq ↔ o = .eq ∧ k = .eq := by
  cases o <;> simp

theorem swap_thenO (o k : Ordering) : (thenO o k).swap = thenO o.swap k.swap := by
  cases o <;> rfl

theorem GoodCmp.thenO_lt_trans {α : Type} {f : α → α → Ordering} (hf : GoodCmp f) {a b c : α}
    {k₁ k₂ k₃ : Ordering} (hk : k₁ = .lt → k₂ = .lt → k₃ = .lt)
    (h1 : thenO (f a b) k₁ = .lt) (h2 : thenO (f b c) k₂ = .lt) : thenO (f a c) k₃ = .lt := by
  cases hab : f a b with
  | gt => rw [hab] at h1; cases h1
  | eq =>
    obtain rfl := (hf.eq_iff a b).1 hab
    rw [hab] at h1
    cases hac : f a c with
    | gt => rw [hac] at h2; cases h2
    | lt => rfl
    | eq => rw [hac] at h2; exact hk h1 h2
  | lt =>
    cases hbc : f b c with
    | gt => rw [hbc] at h2; cases h2
    | eq => obtain rfl := (hf.eq_iff b c).1 hbc; rw [hab]; rfl
    | lt => rw [hf.lt_trans a b c hab hbc]; rfl

theorem GoodCmp.prod {α β : Type} {f : α → α → Ordering} {g : β → β → Ordering}
    (hf : GoodCmp f) (hg : GoodCmp g) :
    GoodCmp (fun (x y : α × β) => thenO (f x.1 y.1) (g x.2 y.2)) where
  eq_iff x y := by simp only [thenO_eq_iff, hf.eq_iff, hg.eq_iff, Prod.ext_iff]
  swap x y := by simp only [swap_thenO, ← hf.swap, ← hg.swap]
  lt_trans x y z := hf.thenO_lt_trans (hg.lt_trans _ _ _)

/-- lexicographic comparison of lists, shorter-is-smaller -/
def lexCmp {α : Type} (f : α → α → Ordering) : List α → List α → Ordering
  | x :: l, y :: r => thenO (f x y) (lexCmp f l r)
  | [], [] => .eq
  | [], _ :: _ => .lt
  | _ :: _, [] => .gt

theorem GoodCmp.list {α : Type} {f : α → α → Ordering} (hf : GoodCmp f) : GoodCmp (lexCmp f) where
  eq_iff a := by
    induction a with
    | nil => intro b; cases b <;> simp [lexCmp]
    | cons x l ih =>
      intro b
      cases b with
      | nil => simp [lexCmp]
      | cons y r => simp only [lexCmp, thenO_eq_iff, hf.eq_iff, ih, List.cons.injEq]
  swap a := by
    induction a with
    | nil => intro b; cases b <;> rfl
    | cons x l ih =>
      intro b
      cases b with
      | nil => rfl
      | cons y r => simp only [lexCmp, swap_thenO, ← hf.swap, ← ih]
  lt_trans a := by
    induction a with
    | nil => intro b c; cases b <;> cases c <;> simp [lexCmp]
    | cons x l ih =>
      intro b c
      cases b with
      | nil => simp [lexCmp]
      | cons y r =>
        cases c with
        | nil => simp [lexCmp]
        | cons z t => exact hf.thenO_lt_trans (ih r t)

/-- the segment comparison used by `cmp` -/
def segCmp (x y : Seg V) : Ordering :=
  thenO (cmpBoundsStart x.1 y.1) (cmpBoundsEnd x.2 y.2)

theorem goodCmp_seg : GoodCmp (segCmp (V := V)) := GoodCmp.prod goodCmp_start goodCmp_end

theorem cmp_eq_lexCmp (a b : Range V) : cmp a b = lexCmp segCmp a b := by
  induction a generalizing b with
  | nil => cases b <;> simp [cmp, lexCmp]
  | cons x l ih =>
    obtain ⟨ls, le⟩ := x
    cases b with
    | nil => simp [cmp, lexCmp]
    | cons y r =>
      obtain ⟨rs, re⟩ := y
      simp only [cmp, lexCmp, segCmp, ih]
      cases cmpBoundsStart ls rs <;> simp only [thenO_eq, thenO_lt, thenO_gt]
      cases cmpBoundsEnd le re <;> simp only [thenO_eq, thenO_lt, thenO_gt]

theorem goodCmp_cmp : GoodCmp (cmp (V := V)) := by
  have h : (cmp (V := V)) = lexCmp segCmp := by
    funext a b; exact cmp_eq_lexCmp a b
  rw [h]; exact GoodCmp.list goodCmp_seg

theorem cmp_eq_iff (a b : Range V) : cmp a b = .eq ↔ a = b := goodCmp_cmp.eq_iff a b

theorem cmp_swap (a b : Range V) : cmp b a = (cmp a b).swap := goodCmp_cmp.swap a b

theorem cmp_lt_trans (a b c : Range V) (h1 : cmp a b = .lt) (h2 : cmp b c = .lt) :
    cmp a c = .lt := goodCmp_cmp.lt_trans a b c h1 h2

theorem cmp_le_trans (a b c : Range V) (h1 : cmp a b ≠ .gt) (h2 : cmp b c ≠ .gt) :
    cmp a c ≠ .gt := goodCmp_cmp.le_trans a b c h1 h2

end Pubgrub.Range
