/-
The Hoare-style predicates `NoPanic` ("a value satisfying `Q`, or out of fuel: never a panic") and `Fine`
("…, or a panic listed in `no_satisfier_panic`"), the extra hypothesis `UnionCanon`, terms that are not
`Term.any`, totality of `mergeDependents`.  (Table of the result predicates: head of SafeResult.lean.)
-/
import PubgrubProofs.PSInvariant
import PubgrubProofs.SatisfierTheory
import PubgrubProofs.TreeSound

set_option linter.unusedSectionVars false

namespace Pubgrub
open VersionSet

/-- the result is a value satisfying `Q`, or the model ran out of fuel: never a panic -/
def NoPanic {α : Type} (r : R α) (Q : α → Prop) : Prop :=
  match r with
  | .ok a => Q a
  | .error (.panic _) => False
  | .error .outOfFuel => True

/-- the result is a value satisfying `Q`, or out of fuel, or one of the panics excluded by
`no_satisfier_panic` -/
def Fine {α : Type} (r : R α) (Q : α → Prop) : Prop :=
  match r with
  | .ok a => Q a
  | .error (.panic s) => Listed s
  | .error .outOfFuel => True

/-- closes `Listed "literal"` -/
macro "is_listed" : tactic => `(tactic| (simp [Listed, listedSites]))

namespace NoPanic
variable {α β : Type}

theorem ok {a : α} {Q : α → Prop} (h : Q a) : NoPanic (.ok a) Q := h
theorem pure' {a : α} {Q : α → Prop} (h : Q a) : NoPanic (pure a : R α) Q := h
theorem fuel {Q : α → Prop} : NoPanic (.error .outOfFuel : R α) Q := trivial

theorem of_ok {r : R α} {Q : α → Prop} (h : NoPanic r Q) {a : α} (hr : r = .ok a) : Q a := by
  subst hr; exact h

theorem not_panic {r : R α} {Q : α → Prop} (h : NoPanic r Q) {s : String} (hr : r = .error (.panic s)) :
    False := by
  subst hr; exact h

theorem of_eq {r : R α} {Q : α → Prop} {a : α} (hr : r = .ok a) (h : Q a) : NoPanic r Q := by
  subst hr; exact h

theorem mono {r : R α} {Q Q' : α → Prop} (h : NoPanic r Q) (hq : ∀ a, r = .ok a → Q a → Q' a) :
    NoPanic r Q' := by
  cases r with
  | ok a => exact hq a rfl h
  | error e => cases e <;> exact h

theorem bind {x : R α} {f : α → R β} {Q : α → Prop} {Q' : β → Prop} (hx : NoPanic x Q)
    (hf : ∀ a, x = .ok a → Q a → NoPanic (f a) Q') : NoPanic (x >>= f) Q' := by
  cases x with
  | ok a => exact hf a rfl hx
  | error e => cases e <;> exact hx

theorem bind_ok {x : R α} {f : α → R β} {Q' : β → Prop} {a : α} (hx : x = .ok a)
    (hf : NoPanic (f a) Q') : NoPanic (x >>= f) Q' := by
  subst hx; exact hf

theorem of_safe_fine {r : R α} {Q1 Q2 : α → Prop} (h1 : Safe r Q1) (h2 : Fine r Q2) :
    NoPanic r (fun a => Q1 a ∧ Q2 a) := by
  cases r with
  | ok a => exact ⟨h1, h2⟩
  | error e =>
    cases e with
    | panic s => exact h1 h2
    | outOfFuel => trivial

theorem error_eq {r : R α} {Q : α → Prop} (h : NoPanic r Q) {e : Fault} (hr : r = .error e) :
    e = .outOfFuel := by
  subst hr
  cases e with
  | panic s => exact absurd h id
  | outOfFuel => rfl

theorem of_error {r : R α} {Q : α → Prop} (h : NoPanic r Q) {e : Fault} (hr : r = .error e)
    {Q' : β → Prop} : NoPanic (.error e : R β) Q' := by
  rw [h.error_eq hr]; trivial

theorem storeGet {store : List α} {id : Nat} {Q : α → Prop} {a : α} (h : store[id]? = some a) (hq : Q a) :
    NoPanic (storeGet store id) Q := by
  rw [storeGet_some h]; exact hq

end NoPanic

namespace Fine
variable {α β : Type}

theorem ok {a : α} {Q : α → Prop} (h : Q a) : Fine (.ok a) Q := h
theorem pure' {a : α} {Q : α → Prop} (h : Q a) : Fine (pure a : R α) Q := h
theorem panic {s : String} {Q : α → Prop} (h : Listed s) : Fine (.error (.panic s) : R α) Q := h
theorem throw' {s : String} {Q : α → Prop} (h : Listed s) : Fine (throw (.panic s) : R α) Q := h
theorem fuel {Q : α → Prop} : Fine (.error .outOfFuel : R α) Q := trivial

theorem of_ok {r : R α} {Q : α → Prop} (h : Fine r Q) {a : α} (hr : r = .ok a) : Q a := by
  subst hr; exact h

theorem mono {r : R α} {Q Q' : α → Prop} (h : Fine r Q) (hq : ∀ a, r = .ok a → Q a → Q' a) :
    Fine r Q' := by
  cases r with
  | ok a => exact hq a rfl h
  | error e => cases e <;> exact h

theorem bind {x : R α} {f : α → R β} {Q : α → Prop} {Q' : β → Prop} (hx : Fine x Q)
    (hf : ∀ a, x = .ok a → Q a → Fine (f a) Q') : Fine (x >>= f) Q' := by
  cases x with
  | ok a => exact hf a rfl hx
  | error e => cases e <;> exact hx

theorem unwrapOr {o : Option α} {site : String} {Q : α → Prop} (hn : o = none → Listed site)
    (hs : ∀ a, o = some a → Q a) : Fine (unwrapOr o site) Q := by
  cases o with
  | none => exact hn rfl
  | some a => exact hs a rfl

end Fine

section Canon
variable (S V : Type) [VersionSet S V] [LawfulVersionSet S V]

/-- The hypothesis of `no_panic_unionCanon`: the union of two valid sets is not (syntactically) the
canonical `empty` unless the first one is.  `Range` has it (the union of a non-`[]` segment list is not
`[]`), and so does every implementation whose valid sets are equal when they have the same members.
It is needed for the Rust's `debug_assert`, `assert_ne!(term, Term::any())`, only: without it the
model panics there (see `PubgrubProofs/NoPanicCex.lean`). -/
def UnionCanon : Prop :=
  ∀ a b : S, LawfulVersionSet.Valid V a → LawfulVersionSet.Valid V b → a ≠ (empty : S) →
    union a b ≠ (empty : S)

end Canon

section Incompat
variable {P S V M : Type} [DecidableEq P] [VersionSet S V] [DecidableEq S] [LawfulVersionSet S V]

/-- no negative term is `Term.any` (positive terms never are) -/
def Incompat.NoAny (i : Incompat P S V M) : Prop :=
  ∀ p s, (p, Term.neg s) ∈ i.terms → s ≠ (empty : S)

theorem Incompat.NoAny.any_false {i : Incompat P S V M} (h : i.NoAny) :
    i.terms.any (fun kv => decide (kv.2 = (Term.any : Term S))) = false := by
  rw [List.any_eq_false]
  intro kv hkv
  obtain ⟨p, t⟩ := kv
  simp only [decide_eq_true_eq]
  intro e
  subst e
  exact h p _ hkv rfl

theorem Incompat.noAny_of_terms {i j : Incompat P S V M} (h : i.NoAny) (e : j.terms = i.terms) : j.NoAny := by
  intro p s hm; rw [e] at hm; exact h p s hm

theorem Incompat.noAny_notRoot (root : P) (rv : V) : (Incompat.notRoot root rv : Incompat P S V M).NoAny := by
  intro p s hm
  simp only [Incompat.notRoot, List.mem_singleton, Prod.mk.injEq, Term.neg.injEq] at hm
  obtain ⟨_, rfl⟩ := hm
  intro e
  have h1 := (LawfulVersionSet.contains_singleton (S := S) rv rv).2 rfl
  rw [e, LawfulVersionSet.contains_empty] at h1
  cases h1

theorem Incompat.noAny_fromDependency (p : P) (s : S) (dep : P × S) :
    (Incompat.fromDependency (M := M) (V := V) p s dep).NoAny := by
  intro q t hm
  simp only [Incompat.fromDependency] at hm
  split at hm
  · simp at hm
  · split at hm
    · simp at hm
    · rename_i hne
      simp only [List.mem_cons, Prod.mk.injEq, reduceCtorEq, and_false, Term.neg.injEq, List.not_mem_nil,
        or_false, false_or] at hm
      rw [hm.2]; exact hne

theorem Incompat.noAny_single_pos {i : Incompat P S V M} {p : P} {s : S} (h : i.terms = [(p, Term.pos s)]) :
    i.NoAny := by
  intro q t hm
  rw [h] at hm
  simp at hm

/-- the learned clause has no `Term.any` (this is where `UnionCanon` is needed) -/
theorem Incompat.noAny_priorCause (hU : UnionCanon S V) {ia ib r : Incompat P S V M}
    (na : SmallMap.NoDupKeys ia.terms) (nb : SmallMap.NoDupKeys ib.terms)
    (sa : ia.SetsValid) (sb : ib.SetsValid) (ha : ia.NoAny) (hb : ib.NoAny) {a b : Nat} {pivot : P}
    (hr : Incompat.priorCause a b ia ib pivot = .ok r) : r.NoAny := by
  obtain ⟨t1, t2, merged, h1, h2, hn, hget, _, hterms⟩ := Incompat.priorCause_spec ia ib na nb a b pivot r hr
  have hmerged : ∀ q s, (q, Term.neg s) ∈ merged → s ≠ (empty : S) := by
    intro q s hm
    have hg := SmallMap.get_of_mem hn hm
    rw [hget q] at hg
    split at hg
    · cases hg
    · cases h3 : SmallMap.get ia.terms q with
      | none =>
        cases h4 : SmallMap.get ib.terms q with
        | none => rw [h3, h4] at hg; simp [SmallMap.mergeOpt] at hg
        | some y =>
          rw [h3, h4] at hg; simp only [SmallMap.mergeOpt, Option.some.injEq] at hg
          subst hg; exact hb q s (SmallMap.mem_of_get h4)
      | some x =>
        cases h4 : SmallMap.get ib.terms q with
        | none =>
          rw [h3, h4] at hg; simp only [SmallMap.mergeOpt, Option.some.injEq] at hg
          subst hg; exact ha q s (SmallMap.mem_of_get h3)
        | some y =>
          rw [h3, h4] at hg; simp only [SmallMap.mergeOpt, Option.some.injEq] at hg
          have hx := SmallMap.mem_of_get h3
          have hy := SmallMap.mem_of_get h4
          cases x with
          | pos r1 => cases y <;> simp [Term.intersection] at hg
          | neg r1 =>
            cases y with
            | pos r2 => simp [Term.intersection] at hg
            | neg r2 =>
              simp only [Term.intersection, Term.neg.injEq] at hg
              subst hg
              exact hU r1 r2 (sa q _ hx) (sb q _ hy) (ha q r1 hx)
  intro q s hm
  rw [hterms] at hm
  split at hm
  · rename_i hne
    rcases SmallMap.mem_insert_sub hm with e | hm'
    · injection e with e1 e2
      intro e3
      apply hne
      rw [← e2, e3]; rfl
    · exact hmerged q s hm'
  · exact hmerged q s hm

theorem Incompat.mergeDependents_ok (W : World P S V M) (root : P) (rv : V) (store : List (Incompat P S V M))
    (a b : Nat) (ia ib : Incompat P S V M)
    (ga : ia.Good W root rv store a) (gb : ib.Good W root rv store b) :
    ∃ r, Incompat.mergeDependents ia ib = .ok r := by
  unfold Incompat.mergeDependents
  cases ha : ia.asDependency with
  | none => exact ⟨_, rfl⟩
  | some pa =>
    obtain ⟨p1, p2⟩ := pa
    cases hb : ib.asDependency with
    | none => exact ⟨_, rfl⟩
    | some o =>
      simp only
      by_cases ho : (p1, p2) ≠ o
      · rw [if_pos ho]; exact ⟨_, rfl⟩
      · rw [if_neg ho]
        have ho : (p1, p2) = o := not_not.mp ho
        subst ho
        obtain ⟨s1, t1, hka, hne⟩ := Incompat.asDependency_some ha
        obtain ⟨s2, t2, hkb, _⟩ := Incompat.asDependency_some hb
        have ka := ga.kind
        simp only [Incompat.KindTrue, hka] at ka
        have kb := gb.kind
        simp only [Incompat.KindTrue, hkb] at kb
        obtain ⟨da, vs1, vt1, hta⟩ := ka
        obtain ⟨db, vs2, vt2, htb⟩ := kb
        obtain ⟨a1, a2⟩ := Incompat.get_fromDependency_terms (M := M) p1 p2 s1 t1 hne
        obtain ⟨b1, b2⟩ := Incompat.get_fromDependency_terms (M := M) p1 p2 s2 t2 hne
        rw [← hta] at a1 a2
        rw [← htb] at b1 b2
        simp only [Incompat.get, a1, a2, b1, b2, unwrapOr, Incompat.unwrapPositive, bind, Except.bind, pure,
          Except.pure]
        by_cases e1 : t1 = (empty : S) <;> by_cases e2 : t2 = (empty : S)
        · simp only [if_pos e1, if_pos e2, ne_eq, not_true_eq_false, if_false]; exact ⟨_, rfl⟩
        · simp only [if_pos e1, if_neg e2, ne_eq, reduceCtorEq, not_false_eq_true, if_true]; exact ⟨_, rfl⟩
        · simp only [if_neg e1, if_pos e2, ne_eq, reduceCtorEq, not_false_eq_true, if_true]; exact ⟨_, rfl⟩
        · simp only [if_neg e1, if_neg e2]
          split
          · exact ⟨_, rfl⟩
          · simp only [Incompat.unwrapNegative]; exact ⟨_, rfl⟩

end Incompat
end Pubgrub
