/-
Transport of the trace vocabulary (`lastPrio`, `AnswersOK`,
the state after `k` answers) and of the partial-solution invariant I-PS (`PartialSolution.WF`) along an
injective version-set homomorphism.
-/
import PubgrubProofs.HomSolutions
import PubgrubProofs.Freshness

set_option linter.unusedSectionVars false

namespace Pubgrub
open VersionSet

section TraceTransport
variable {P S V S' V' M Pr E : Type} [DecidableEq P] {_ : VersionSet S V} {_ : VersionSet S' V'}
  [DecidableEq S] [DecidableEq V] [DecidableEq S'] [DecidableEq V'] [LE Pr] [DecidableLE Pr]

theorem findSome?_optMap {α β γ : Type} (g : β → γ) (f : α → Option β) (l : List α) :
    (l.findSome? fun j => (f j).map g) = (l.findSome? f).map g := by
  induction l with
  | nil => rfl
  | cons a l ih =>
    simp only [List.findSome?_cons]
    cases f a with
    | none => simpa using ih
    | some b => rfl

theorem lastPrio_mapH (h : VSetHom S V S' V') (tr : List (Request P S V M Pr E))
    (as : List (Answer P S V M Pr E)) (k : Nat) (q : P) :
    lastPrio (tr.map (Request.mapH h)) (as.map (Answer.mapH h)) k q =
      (lastPrio tr as k q).map fun x => (h.f x.1, x.2) := by
  unfold lastPrio
  rw [← findSome?_optMap]
  congr 1
  funext j
  simp only [List.getElem?_map]
  cases tr[j]? with
  | none => rfl
  | some r =>
    cases as[j]? with
    | none => cases r <;> rfl
    | some a =>
      cases r <;> cases a <;> try rfl
      rename_i q' s pr
      simp only [Option.map_some, Request.mapH, Answer.mapH]
      split <;> rfl

theorem lastPrio_trace_mapH_eq_some' (h : VSetHom S V S' V') (debug : Bool) (fuel : Nat) (root : P) (rv : V)
    (as : List (Answer P S V M Pr E)) (k : Nat) (q : P) (s' : S') (pr : Pr)
    (hl : lastPrio (Solver.trace debug fuel root (h.ι rv) (as.map (Answer.mapH h))) (as.map (Answer.mapH h)) k q =
      some (s', pr)) :
    ∃ s, s' = h.f s ∧ lastPrio (Solver.trace debug fuel root rv as) as k q = some (s, pr) := by
  rw [trace_mapH, lastPrio_mapH, Option.map_eq_some_iff] at hl
  obtain ⟨⟨s0, pr0⟩, h0, e⟩ := hl
  cases e
  exact ⟨s0, rfl, h0⟩

theorem lastPrio_trace_mapH_eq_some (h : VSetHom S V S' V') (debug : Bool) (fuel : Nat) (root : P) (rv : V)
    (as : List (Answer P S V M Pr E)) (k : Nat) (q : P) (s : S) (pr : Pr)
    (hl : lastPrio (Solver.trace debug fuel root (h.ι rv) (as.map (Answer.mapH h))) (as.map (Answer.mapH h)) k q =
      some (h.f s, pr)) :
    lastPrio (Solver.trace debug fuel root rv as) as k q = some (s, pr) := by
  obtain ⟨s0, e, h0⟩ := lastPrio_trace_mapH_eq_some' h debug fuel root rv as k q _ pr hl
  rw [h0, h.f_inj _ _ e]

theorem answersOK_mapH (h : VSetHom S V S' V') (back : V' → Option V)
    (hback : ∀ v, back (h.ι v) = some v) (W : World P S V M) (debug : Bool) (fuel : Nat) (root : P)
    (rv : V) (as : List (Answer P S V M Pr E)) (hok : AnswersOK W debug fuel root rv as) :
    AnswersOK (World.mapH h back W) debug fuel root (h.ι rv) (as.map (Answer.mapH h)) := by
  intro k a' ha'
  rw [List.getElem?_map, Option.map_eq_some_iff] at ha'
  obtain ⟨a, ha, rfl⟩ := ha'
  obtain ⟨r, hr, hra⟩ := hok k a ha
  exact ⟨Request.mapH h r, trace_mapH_getElem? h debug fuel root rv as k r hr,
    answerOK_mapH h back hback W r a hra⟩

theorem after_take_mapH (h : VSetHom S V S' V') (debug : Bool) (fuel : Nat) (root : P) (rv : V)
    (as : List (Answer P S V M Pr E)) (k : Nat) :
    (Solver.after (Solver.start (M := M) (Pr := Pr) (E := E) debug fuel root (h.ι rv))
        ((as.map (Answer.mapH h)).take k)).1 =
      SolverState.mapH h (Solver.after (Solver.start debug fuel root rv) (as.take k)).1 := by
  rw [← List.map_take, start_mapH, after_mapH]

theorem getPA_after_take_mapH (h : VSetHom S V S' V') (debug : Bool) (fuel : Nat) (root : P) (rv : V)
    (as : List (Answer P S V M Pr E)) (k : Nat) (q : P) (pa : PackageAssignments S V)
    (hq : (Solver.after (Solver.start debug fuel root rv) (as.take k)).1.st.ps.getPA q = some pa) :
    (Solver.after (Solver.start (M := M) (Pr := Pr) (E := E) debug fuel root (h.ι rv))
        ((as.map (Answer.mapH h)).take k)).1.st.ps.getPA q = some (PackageAssignments.mapH h pa) := by
  rw [after_take_mapH]
  exact PartialSolution.getPA_mapH_some h _ q pa hq

end TraceTransport

section WFTransport
variable {P S V S' V' Pr : Type} [DecidableEq P] {_ : VersionSet S V} {_ : VersionSet S' V'}
  [DecidableEq S] [DecidableEq S']

theorem AssignInter.mapH_eq_decision (h : VSetHom S V S' V') (i : AssignInter S V) (g : Nat) (v' : V')
    (t' : Term S') (hi : AssignInter.mapH h i = .decision g v' t') :
    ∃ v t, i = .decision g v t ∧ h.ι v = v' ∧ Term.mapH h t = t' := by
  cases i with
  | decision g0 v t =>
    simp only [AssignInter.mapH, AssignInter.decision.injEq] at hi
    obtain ⟨rfl, e2, e3⟩ := hi
    exact ⟨v, t, rfl, e2, e3⟩
  | derivations t => simp [AssignInter.mapH] at hi

theorem AssignInter.mapH_eq_derivations (h : VSetHom S V S' V') (i : AssignInter S V) (t' : Term S')
    (hi : AssignInter.mapH h i = .derivations t') : ∃ t, i = .derivations t ∧ Term.mapH h t = t' := by
  cases i with
  | decision g0 v t => simp [AssignInter.mapH] at hi
  | derivations t =>
    simp only [AssignInter.mapH, AssignInter.derivations.injEq] at hi
    exact ⟨t, rfl, hi⟩

theorem PackageAssignments.WFAt.pull (h : VSetHom S V S' V') (dl next i : Nat)
    (pa : PackageAssignments S V) (hw : (PackageAssignments.mapH h pa).WFAt dl next i) :
    pa.WFAt dl next i := by
  have hlev : (PackageAssignments.mapH h pa).dated.map (·.decisionLevel) =
      pa.dated.map (·.decisionLevel) := by
    simp [PackageAssignments.mapH, DatedDerivation.mapH, Function.comp_def]
  have hidx : (PackageAssignments.mapH h pa).dated.map (·.globalIndex) =
      pa.dated.map (·.globalIndex) := by
    simp [PackageAssignments.mapH, DatedDerivation.mapH, Function.comp_def]
  have hmem : ∀ dd ∈ pa.dated, DatedDerivation.mapH h dd ∈ (PackageAssignments.mapH h pa).dated :=
    fun dd hdd => List.mem_map.2 ⟨dd, hdd, rfl⟩
  have hlast : ∀ l', (PackageAssignments.mapH h pa).dated.getLast? = some l' →
      ∃ l, pa.dated.getLast? = some l ∧ DatedDerivation.mapH h l = l' := by
    intro l' hl'
    simp only [PackageAssignments.mapH, List.getLast?_map, Option.map_eq_some_iff] at hl'
    exact hl'
  have hhead : ∀ l', (PackageAssignments.mapH h pa).dated.head? = some l' →
      ∃ l, pa.dated.head? = some l ∧ DatedDerivation.mapH h l = l' := by
    intro l' hl'
    simp only [PackageAssignments.mapH, List.head?_map, Option.map_eq_some_iff] at hl'
    exact hl'
  refine ⟨?_, ?_, ?_, ?_, ?_, ?_⟩
  · intro hi
    obtain ⟨g, v', hinter, hhigh, hg, hdd, hl⟩ := hw.decided hi
    obtain ⟨v, t, hi0, rfl, ht⟩ := AssignInter.mapH_eq_decision h pa.inter g v' _ hinter
    rw [← Term.mapH_exact, Term.mapH_eq_iff] at ht
    subst ht
    refine ⟨g, v, hi0, hhigh, hg, fun dd hd => hdd _ (hmem dd hd), ?_⟩
    intro dd hlastdd
    have := hl (DatedDerivation.mapH h dd)
      (by simp only [PackageAssignments.mapH, List.getLast?_map, hlastdd, Option.map_some])
    simp only [DatedDerivation.mapH, Term.contains_mapH] at this
    exact this
  · intro hi
    obtain ⟨t', l', f', hinter, hhigh, hl, hf, hacc, hlv, hfv⟩ := hw.undecided hi
    obtain ⟨t, hi0, rfl⟩ := AssignInter.mapH_eq_derivations h pa.inter t' hinter
    obtain ⟨l, hl0, rfl⟩ := hlast l' hl
    obtain ⟨f, hf0, rfl⟩ := hhead f' hf
    refine ⟨t, l, f, hi0, hhigh, hl0, hf0, ?_, hlv, hfv⟩
    simp only [DatedDerivation.mapH, Term.mapH_eq_iff] at hacc
    exact hacc
  · rw [← hlev]; exact hw.levels
  · rw [← hidx]; exact hw.indices
  · intro dd hd; exact hw.indices_lt _ (hmem dd hd)
  · exact hw.range

/-- I-PS is reflected by the map on partial solutions (it only speaks about levels, indices, keys and
the shape of the entries) -/
theorem PartialSolution.WF.pull (h : VSetHom S V S' V') (ps : PartialSolution P S V Pr)
    (hw : (PartialSolution.mapH h ps).WF) : ps.WF := by
  have hlen : (PartialSolution.mapH h ps).assignments.length = ps.assignments.length := by
    simp [PartialSolution.mapH]
  have hkeys : (PartialSolution.mapH h ps).assignments.map Prod.fst = ps.assignments.map Prod.fst := by
    simp [PartialSolution.mapH, Function.comp_def]
  refine ⟨?_, ?_, ?_, ?_, ?_, ?_⟩
  · rw [← hlen]; exact hw.changed_le
  · rw [← hlen]; exact hw.level_le
  · rw [← hkeys]; exact hw.keys
  · intro i p pa hi
    apply PackageAssignments.WFAt.pull h
    apply hw.entries i p
    simp only [PartialSolution.mapH, List.getElem?_map, hi, Option.map_some]
  · exact hw.queue_keys
  · intro p pr hp
    obtain ⟨pa', s', hpa', hint'⟩ := hw.queue_sub p pr hp
    rw [PartialSolution.getPA_mapH, Option.map_eq_some_iff] at hpa'
    obtain ⟨pa, hpa, rfl⟩ := hpa'
    obtain ⟨t, ht, e⟩ := AssignInter.mapH_eq_derivations h pa.inter _ hint'
    cases t with
    | pos s => exact ⟨pa, s, hpa, ht⟩
    | neg s => simp [Term.mapH] at e

end WFTransport
end Pubgrub
