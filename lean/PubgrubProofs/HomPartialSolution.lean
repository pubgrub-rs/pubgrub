/-
Homomorphisms of version sets: commutation lemmas for `PubgrubModel/PartialSolution.lean`.
-/
import PubgrubProofs.HomIncompat

set_option linter.unusedSectionVars false
set_option linter.unnecessarySeqFocus false

namespace Pubgrub
open VersionSet

section MonadicLists
variable {ε α α' β β' σ σ' : Type}

theorem filterMapM_map_comm (ga : α → α') (gb : β → β')
    (f : α → Except ε (Option β)) (f' : α' → Except ε (Option β'))
    (hf : ∀ a, f' (ga a) = (f a).map (Option.map gb)) (l : List α) :
    (l.map ga).filterMapM f' = (l.filterMapM f).map (List.map gb) := by
  induction l with
  | nil => rfl
  | cons a l ih =>
    simp only [List.map_cons, List.filterMapM_cons, hf, ih]
    cases f a with
    | error e => rfl
    | ok o =>
      cases o with
      | none => rfl
      | some b =>
        cases List.filterMapM f l <;> rfl

theorem mapM_map_comm (ga : α → α') (gb : β → β')
    (f : α → Except ε β) (f' : α' → Except ε β')
    (hf : ∀ a, f' (ga a) = (f a).map gb) (l : List α) :
    (l.map ga).mapM f' = (l.mapM f).map (List.map gb) := by
  induction l with
  | nil => rfl
  | cons a l ih =>
    simp only [List.map_cons, List.mapM_cons, hf, ih]
    cases f a with
    | error e => rfl
    | ok o => cases List.mapM f l <;> rfl

theorem foldlM_map_comm (gs : σ → σ') (ga : α → α')
    (f : σ → α → Except ε σ) (f' : σ' → α' → Except ε σ')
    (hf : ∀ s a, f' (gs s) (ga a) = (f s a).map gs) (l : List α) (s : σ) :
    (l.map ga).foldlM f' (gs s) = (l.foldlM f s).map gs := by
  induction l generalizing s with
  | nil => rfl
  | cons a l ih =>
    simp only [List.map_cons, List.foldlM_cons, hf]
    cases f s a with
    | error e => rfl
    | ok o => exact ih o

theorem foldlM_map_comm' (ga : α → α')
    (f : σ → α → Except ε σ) (f' : σ → α' → Except ε σ)
    (hf : ∀ s a, f' s (ga a) = f s a) (l : List α) (s : σ) :
    (l.map ga).foldlM f' s = l.foldlM f s := by
  induction l generalizing s with
  | nil => rfl
  | cons a l ih =>
    simp only [List.map_cons, List.foldlM_cons, hf]
    cases f s a with
    | error e => rfl
    | ok o => exact ih o

theorem except_bind_comm {γ γ' : Type} (m : α → α') (n : γ → γ') (x : Except ε α) (x' : Except ε α')
    (k : α → Except ε γ) (k' : α' → Except ε γ')
    (hx : x' = Except.map m x) (hk : ∀ a, k' (m a) = Except.map n (k a)) :
    (x' >>= k') = Except.map n (x >>= k) := by
  subst hx
  cases x with
  | error e => rfl
  | ok a => exact hk a

end MonadicLists

section PSLemmas
variable {P S V S' V' M Pr : Type} [DecidableEq P] {_ : VersionSet S V} {_ : VersionSet S' V'}
  [DecidableEq S] [DecidableEq S']

@[simp] theorem DatedDerivation.mapH_globalIndex (h : VSetHom S V S' V') (d : DatedDerivation S) :
    (DatedDerivation.mapH h d).globalIndex = d.globalIndex := rfl
@[simp] theorem DatedDerivation.mapH_decisionLevel (h : VSetHom S V S' V') (d : DatedDerivation S) :
    (DatedDerivation.mapH h d).decisionLevel = d.decisionLevel := rfl
@[simp] theorem DatedDerivation.mapH_cause (h : VSetHom S V S' V') (d : DatedDerivation S) :
    (DatedDerivation.mapH h d).cause = d.cause := rfl
@[simp] theorem DatedDerivation.mapH_accumulated (h : VSetHom S V S' V') (d : DatedDerivation S) :
    (DatedDerivation.mapH h d).accumulated = Term.mapH h d.accumulated := rfl

@[simp] theorem PackageAssignments.mapH_smallest (h : VSetHom S V S' V') (pa : PackageAssignments S V) :
    (PackageAssignments.mapH h pa).smallest = pa.smallest := rfl
@[simp] theorem PackageAssignments.mapH_highest (h : VSetHom S V S' V') (pa : PackageAssignments S V) :
    (PackageAssignments.mapH h pa).highest = pa.highest := rfl
@[simp] theorem PackageAssignments.mapH_dated (h : VSetHom S V S' V') (pa : PackageAssignments S V) :
    (PackageAssignments.mapH h pa).dated = pa.dated.map (DatedDerivation.mapH h) := rfl
@[simp] theorem PackageAssignments.mapH_inter (h : VSetHom S V S' V') (pa : PackageAssignments S V) :
    (PackageAssignments.mapH h pa).inter = AssignInter.mapH h pa.inter := rfl

@[simp] theorem PartialSolution.mapH_nextGlobalIndex (h : VSetHom S V S' V') (ps : PartialSolution P S V Pr) :
    (PartialSolution.mapH h ps).nextGlobalIndex = ps.nextGlobalIndex := rfl
@[simp] theorem PartialSolution.mapH_currentDecisionLevel (h : VSetHom S V S' V') (ps : PartialSolution P S V Pr) :
    (PartialSolution.mapH h ps).currentDecisionLevel = ps.currentDecisionLevel := rfl
@[simp] theorem PartialSolution.mapH_assignments (h : VSetHom S V S' V') (ps : PartialSolution P S V Pr) :
    (PartialSolution.mapH h ps).assignments =
      ps.assignments.map fun kv => (kv.1, PackageAssignments.mapH h kv.2) := rfl
@[simp] theorem PartialSolution.mapH_queue (h : VSetHom S V S' V') (ps : PartialSolution P S V Pr) :
    (PartialSolution.mapH h ps).queue = ps.queue := rfl
@[simp] theorem PartialSolution.mapH_changed (h : VSetHom S V S' V') (ps : PartialSolution P S V Pr) :
    (PartialSolution.mapH h ps).changed = ps.changed := rfl
@[simp] theorem PartialSolution.mapH_hasEverBacktracked (h : VSetHom S V S' V') (ps : PartialSolution P S V Pr) :
    (PartialSolution.mapH h ps).hasEverBacktracked = ps.hasEverBacktracked := rfl

theorem PartialSolution.mapH_mk (h : VSetHom S V S' V') (a b : Nat) (c : List (P × PackageAssignments S V))
    (d : List (P × Pr)) (e : Nat) (f : Bool) :
    PartialSolution.mapH h ⟨a, b, c, d, e, f⟩ =
      ⟨a, b, c.map fun kv => (kv.1, PackageAssignments.mapH h kv.2), d, e, f⟩ := rfl

theorem PackageAssignments.mapH_mk (h : VSetHom S V S' V') (a b : Nat) (c : List (DatedDerivation S))
    (d : AssignInter S V) :
    PackageAssignments.mapH h ⟨a, b, c, d⟩ = ⟨a, b, c.map (DatedDerivation.mapH h), AssignInter.mapH h d⟩ := rfl

theorem DatedDerivation.mapH_mk (h : VSetHom S V S' V') (a b c : Nat) (d : Term S) :
    DatedDerivation.mapH h ⟨a, b, c, d⟩ = ⟨a, b, c, Term.mapH h d⟩ := rfl

@[simp] theorem AssignInter.mapH_decision (h : VSetHom S V S' V') (g : Nat) (v : V) (t : Term S) :
    AssignInter.mapH h (.decision g v t) = .decision g (h.ι v) (Term.mapH h t) := rfl
@[simp] theorem AssignInter.mapH_derivations (h : VSetHom S V S' V') (t : Term S) :
    AssignInter.mapH h (.derivations t : AssignInter S V) = .derivations (Term.mapH h t) := rfl

@[simp] theorem AssignInter.term_mapH (h : VSetHom S V S' V') (i : AssignInter S V) :
    (AssignInter.mapH h i).term = Term.mapH h i.term := by
  cases i <;> rfl

@[simp] theorem PartialSolution.mapH_empty (h : VSetHom S V S' V') :
    PartialSolution.mapH h (PartialSolution.empty : PartialSolution P S V Pr) = PartialSolution.empty := rfl

@[simp] theorem PartialSolution.getPA_mapH (h : VSetHom S V S' V') (ps : PartialSolution P S V Pr) (p : P) :
    (PartialSolution.mapH h ps).getPA p = (ps.getPA p).map (PackageAssignments.mapH h) := by
  simp [PartialSolution.getPA]

@[simp] theorem PartialSolution.indexOf_mapH (h : VSetHom S V S' V') (ps : PartialSolution P S V Pr) (p : P) :
    (PartialSolution.mapH h ps).indexOf p = ps.indexOf p := by
  simp only [PartialSolution.indexOf, PartialSolution.mapH_assignments, List.length_map]
  rw [findIdx_mapVals (PackageAssignments.mapH h) ps.assignments (fun k => decide (k = p))]

@[simp] theorem PartialSolution.termIntersectionForPackage_mapH (h : VSetHom S V S' V')
    (ps : PartialSolution P S V Pr) (p : P) :
    (PartialSolution.mapH h ps).termIntersectionForPackage p =
      (ps.termIntersectionForPackage p).map (Term.mapH h) := by
  simp [PartialSolution.termIntersectionForPackage, Option.map_map, Function.comp_def]

theorem PartialSolution.addDecision_mapH (h : VSetHom S V S' V') (debug : Bool)
    (ps : PartialSolution P S V Pr) (p : P) (v : V) :
    (PartialSolution.mapH h ps).addDecision debug p (h.ι v) =
      (ps.addDecision debug p v).map (PartialSolution.mapH h) := by
  unfold PartialSolution.addDecision
  -- the join points of the `do` block: `rest` is what follows the debug assertions, `chk` the second assertion
  extract_lets newIdx' dl' fin' rest' chk' newIdx dl fin rest chk
  have hrest : ∀ u, rest' u = (rest u).map (PartialSolution.mapH h) := by
    intro u
    simp only [rest', rest, newIdx', dl', newIdx, dl, PartialSolution.indexOf_mapH, PartialSolution.getPA_mapH,
      PartialSolution.mapH_currentDecisionLevel, PartialSolution.mapH_nextGlobalIndex,
      PartialSolution.mapH_assignments]
    cases ps.indexOf p with
    | none => rfl
    | some oldIdx =>
      cases ps.getPA p with
      | none => rfl
      | some pa =>
        simp only [Option.map_some, hom_unwrapOr_some, except_ok_bind, ← Term.mapH_exact,
          ← AssignInter.mapH_decision, PackageAssignments.mapH_smallest, PackageAssignments.mapH_dated,
          ← PackageAssignments.mapH_mk, set_mapVals]
        split
        · rw [swapIndices_map]
          cases swapIndices _ ps.currentDecisionLevel oldIdx <;> rfl
        · rfl
  have hchk : ∀ u, chk' u = (chk u).map (PartialSolution.mapH h) := by
    intro u
    simp only [chk', chk, PartialSolution.mapH_changed, PartialSolution.mapH_assignments, List.length_map]
    split
    · rfl
    · exact hrest ()
  clear_value rest rest' chk chk'
  cases debug with
  | false => exact hrest ()
  | true =>
    simp only [if_pos, PartialSolution.getPA_mapH]
    cases ps.getPA p with
    | none => rfl
    | some pa =>
      obtain ⟨sm, hi, dated, inter⟩ := pa
      cases inter with
      | decision g w t => rfl
      | derivations t =>
        simp only [Option.map_some, PackageAssignments.mapH_mk, AssignInter.mapH_derivations,
          Term.contains_mapH]
        split
        · rfl
        · exact hchk ()

theorem PartialSolution.addDerivation_mapH (h : VSetHom S V S' V') (ps : PartialSolution P S V Pr) (p : P)
    (cause : Nat) (store : List (Incompat P S V M)) :
    (PartialSolution.mapH h ps).addDerivation p cause (store.map (Incompat.mapH h)) =
      (ps.addDerivation p cause store).map (PartialSolution.mapH h) := by
  unfold PartialSolution.addDerivation
  simp only [storeGet_map, PartialSolution.getPA_mapH, PartialSolution.indexOf_mapH]
  cases storeGet store cause with
  | error e => rfl
  | ok inc =>
    simp only [exceptMap_ok, except_ok_bind, Incompat.get_mapH]
    cases inc.get p with
    | none => rfl
    | some t =>
      cases hidx : ps.indexOf p with
      | none =>
        simp [PartialSolution.mapH, PackageAssignments.mapH, DatedDerivation.mapH]
      | some idx =>
        cases hg : ps.getPA p with
        | none =>
          simp [PartialSolution.mapH, PackageAssignments.mapH, DatedDerivation.mapH]
        | some pa =>
          obtain ⟨sm, hi, dated, inter⟩ := pa
          cases inter <;>
            simp [PartialSolution.mapH, PackageAssignments.mapH, DatedDerivation.mapH]

@[simp] theorem PartialSolution.potentialPackageFilter_mapH (h : VSetHom S V S' V') (p : P)
    (pa : PackageAssignments S V) :
    PartialSolution.potentialPackageFilter p (PackageAssignments.mapH h pa) =
      (PartialSolution.potentialPackageFilter p pa).map fun kv => (kv.1, h.f kv.2) := by
  obtain ⟨sm, hi, dated, inter⟩ := pa
  cases inter with
  | decision g v t => rfl
  | derivations t => cases t <;> rfl

theorem PartialSolution.toPrioritize_mapH (h : VSetHom S V S' V') (ps : PartialSolution P S V Pr) :
    (PartialSolution.mapH h ps).toPrioritize =
      ps.toPrioritize.map (List.map fun kv => (kv.1, h.f kv.2)) := by
  unfold PartialSolution.toPrioritize
  simp only [PartialSolution.mapH_changed, PartialSolution.mapH_assignments, List.length_map,
    PartialSolution.mapH_currentDecisionLevel]
  split
  · rfl
  · simp only [exceptMap_ok, ← List.map_drop, List.filterMap_map, List.map_filterMap]
    congr 2
    funext x
    obtain ⟨p, pa⟩ := x
    simp only [Function.comp, PackageAssignments.mapH_highest, PartialSolution.potentialPackageFilter_mapH]
    split <;> simp

@[simp] theorem PartialSolution.afterPrioritize_mapH (h : VSetHom S V S' V') (ps : PartialSolution P S V Pr)
    (prios : List (P × Pr)) :
    (PartialSolution.mapH h ps).afterPrioritize prios = PartialSolution.mapH h (ps.afterPrioritize prios) := by
  simp [PartialSolution.afterPrioritize, PartialSolution.mapH]

@[simp] theorem PartialSolution.satisfier_mapH (h : VSetHom S V S' V') (pa : PackageAssignments S V)
    (t : Term S) :
    PartialSolution.satisfier (PackageAssignments.mapH h pa) (Term.mapH h t) =
      PartialSolution.satisfier pa t := by
  unfold PartialSolution.satisfier
  simp only [PackageAssignments.mapH_dated, List.find?_map, Function.comp_def,
    DatedDerivation.mapH_accumulated, Term.isDisjoint_mapH, PackageAssignments.mapH_inter,
    PackageAssignments.mapH_highest]
  cases List.find? (fun dd => dd.accumulated.isDisjoint t) pa.dated with
  | some dd => rfl
  | none =>
    simp only [Option.map_none]
    cases pa.inter <;> rfl

@[simp] theorem PartialSolution.findSatisfier_mapH (h : VSetHom S V S' V') (ps : PartialSolution P S V Pr)
    (terms : List (P × Term S)) :
    (PartialSolution.mapH h ps).findSatisfier (terms.map fun kv => (kv.1, Term.mapH h kv.2)) =
      ps.findSatisfier terms := by
  unfold PartialSolution.findSatisfier
  apply foldlM_map_comm'
  intro acc pt
  simp only [PartialSolution.getPA_mapH]
  cases ps.getPA pt.1 with
  | none => rfl
  | some pa => simp [bind, Except.bind]

theorem PartialSolution.findPreviousSatisfier_mapH (h : VSetHom S V S' V') (ps : PartialSolution P S V Pr)
    (inc : Incompat P S V M) (sp : P) (m : SmallMap P (Option Nat × Nat × Nat))
    (store : List (Incompat P S V M)) :
    (PartialSolution.mapH h ps).findPreviousSatisfier (Incompat.mapH h inc) sp m
        (store.map (Incompat.mapH h)) = ps.findPreviousSatisfier inc sp m store := by
  unfold PartialSolution.findPreviousSatisfier
  simp only [PartialSolution.getPA_mapH, storeGet_map, Incompat.get_mapH]
  cases ps.getPA sp with
  | none => rfl
  | some pa =>
    cases SmallMap.get m sp with
    | none => rfl
    | some x =>
      obtain ⟨sc, a, b⟩ := x
      cases sc with
      | none =>
        cases hi : pa.inter <;> cases inc.get sp <;> simp [bind, Except.bind, hi]
      | some cause =>
        simp only [Option.map_some, hom_unwrapOr_some, except_ok_bind]
        cases storeGet store cause with
        | error e => simp [bind, Except.bind]
        | ok c =>
          simp only [exceptMap_ok, except_ok_bind, Incompat.get_mapH]
          cases c.get sp <;> cases inc.get sp <;> simp [bind, Except.bind]

theorem PartialSolution.satisfierSearch_mapH (h : VSetHom S V S' V') (ps : PartialSolution P S V Pr)
    (inc : Incompat P S V M) (store : List (Incompat P S V M)) :
    (PartialSolution.mapH h ps).satisfierSearch (Incompat.mapH h inc) (store.map (Incompat.mapH h)) =
      ps.satisfierSearch inc store := by
  unfold PartialSolution.satisfierSearch
  simp only [Incompat.mapH_terms, PartialSolution.findSatisfier_mapH,
    PartialSolution.findPreviousSatisfier_mapH]

@[simp] theorem PartialSolution.popWhileAbove_mapH (h : VSetHom S V S' V') (dl : Nat)
    (l : List (DatedDerivation S)) :
    PartialSolution.popWhileAbove dl (l.map (DatedDerivation.mapH h)) =
      (PartialSolution.popWhileAbove dl l).map (DatedDerivation.mapH h) := by
  cases l with
  | nil => rfl
  | cons a l =>
    simp only [List.map_cons, PartialSolution.popWhileAbove]
    rw [← List.map_cons, ← List.map_reverse, List.dropWhile_map, ← List.map_reverse]
    rfl

theorem PartialSolution.backtrack_mapH (h : VSetHom S V S' V') (ps : PartialSolution P S V Pr) (dl : Nat) :
    (PartialSolution.mapH h ps).backtrack dl = (ps.backtrack dl).map (PartialSolution.mapH h) := by
  unfold PartialSolution.backtrack
  simp only [PartialSolution.mapH_assignments]
  apply except_bind_comm (fun l : List (P × PackageAssignments S V) =>
    l.map (fun kv => (kv.1, PackageAssignments.mapH h kv.2)))
  · apply filterMapM_map_comm
    intro x
    obtain ⟨p, pa⟩ := x
    simp only [PackageAssignments.mapH_smallest, PackageAssignments.mapH_highest,
      PackageAssignments.mapH_dated, PartialSolution.popWhileAbove_mapH, List.getLast?_map]
    split
    · rfl
    split
    · rfl
    cases (PartialSolution.popWhileAbove dl pa.dated).getLast? <;>
      simp [bind, Except.bind, PackageAssignments.mapH]
  · intro a
    rfl

@[simp] theorem PartialSolution.relation_mapH (h : VSetHom S V S' V') (ps : PartialSolution P S V Pr)
    (i : Incompat P S V M) :
    (PartialSolution.mapH h ps).relation (Incompat.mapH h i) = ps.relation i := by
  simp only [PartialSolution.relation, PartialSolution.termIntersectionForPackage_mapH,
    Incompat.relation_mapH]

theorem PartialSolution.addVersion_mapH (h : VSetHom S V S' V') (debug : Bool) (ps : PartialSolution P S V Pr)
    (p : P) (v : V) (news : List (Incompat P S V M)) :
    (PartialSolution.mapH h ps).addVersion debug p (h.ι v) (news.map (Incompat.mapH h)) =
      (ps.addVersion debug p v news).map (PartialSolution.mapH h) := by
  unfold PartialSolution.addVersion
  have hfun : ∀ i : Incompat P S V M,
      (Incompat.mapH h i).relation (fun q => if q = p then some (Term.exact (h.ι v))
        else (PartialSolution.mapH h ps).termIntersectionForPackage q) =
      i.relation (fun q => if q = p then some (Term.exact v) else ps.termIntersectionForPackage q) := by
    intro i
    rw [← Incompat.relation_mapH h]
    congr 1
    funext q
    split <;> simp
  simp only [PartialSolution.mapH_hasEverBacktracked, PartialSolution.addDecision_mapH, List.all_map,
    Function.comp_def, hfun]
  split
  · rfl
  · split <;> rfl

theorem PartialSolution.extractSolution_mapH (h : VSetHom S V S' V') (ps : PartialSolution P S V Pr) :
    (PartialSolution.mapH h ps).extractSolution =
      ps.extractSolution.map (List.map fun kv => (kv.1, h.ι kv.2)) := by
  unfold PartialSolution.extractSolution
  simp only [PartialSolution.mapH_assignments, PartialSolution.mapH_currentDecisionLevel, ← List.map_take]
  apply mapM_map_comm
  intro x
  obtain ⟨p, pa⟩ := x
  simp only [PackageAssignments.mapH_inter]
  cases pa.inter <;> rfl

end PSLemmas
end Pubgrub
