/-
The termination measure.  `tsize` counts the choices (test versions and "not selected") a term allows,
`comp` sums these sizes over the packages of the finite world for the terms restricted to the assignments
of one decision level (`PartialSolution.termsAt`), and `rank` reads the vector of the `comp`s as a
numeral.  `KInv` says that every term is about a package of the finite world and over a generated set, so
that a strictly smaller term has a strictly smaller `tsize`.
-/
import PubgrubProofs.TermDefs
import PubgrubProofs.OwnInvariant
import PubgrubProofs.AssignmentEvents
import PubgrubProofs.TerminationNumeral

set_option linter.unusedSectionVars false

namespace Pubgrub
open VersionSet

section
variable {P S V M Pr : Type} [DecidableEq P] [VersionSet S V] [DecidableEq S] [LawfulVersionSet S V]

namespace Tm

/-- the choices for a package that are told apart: "not selected" and the test versions -/
def opts (tests : List V) : List (Option V) := none :: tests.map some

/-- the number of choices a term allows -/
def tsize (tests : List V) (t : Term S) : Nat := ((opts tests).filter fun o => t.eval o).length

/-- `tsize` of the term of a package; an absent package counts one more than any term -/
def osize (tests : List V) : Option (Term S) → Nat
  | none => tests.length + 2
  | some t => tsize tests t

theorem opts_length (tests : List V) : (opts tests).length = tests.length + 1 := by
  simp [opts]

theorem tsize_le (tests : List V) (t : Term S) : tsize tests t ≤ tests.length + 1 := by
  unfold tsize
  have := List.length_filter_le (fun o => t.eval o) (opts tests)
  rw [opts_length] at this
  exact this

theorem osize_le (tests : List V) (o : Option (Term S)) : osize tests o ≤ tests.length + 2 := by
  cases o with
  | none => exact Nat.le_refl _
  | some t => have := tsize_le tests t; simp only [osize]; omega

theorem osize_some_lt_none (tests : List V) (t : Term S) : osize tests (some t) < osize tests (none : Option (Term S)) := by
  have := tsize_le tests t; simp only [osize]; omega

theorem tsize_le_of_imp (tests : List V) {t' t : Term S} (h : t'.Imp t) : tsize tests t' ≤ tsize tests t :=
  filter_length_le_of_imp _ _ _ (fun o _ ho => h o ho)

theorem tsize_lt_of_opt (tests : List V) {t' t : Term S} (h : t'.Imp t) {o : Option V} (ho : o ∈ opts tests)
    (h1 : t.eval o = true) (h2 : t'.eval o = false) : tsize tests t' < tsize tests t :=
  filter_length_lt _ _ _ (fun o _ ho => h o ho) ⟨o, ho, h1, h2⟩

end Tm

/-- the set inside a term -/
def Term.inner : Term S → S
  | .pos s => s
  | .neg s => s

/-- the set of versions a term allows -/
def Term.asSet : Term S → S
  | .pos s => s
  | .neg s => complement s

theorem Term.eval_some_eq_asSet (t : Term S) (ht : t.Valid) (v : V) :
    t.eval (some v) = VersionSet.contains t.asSet v := by
  cases t with
  | pos s => rfl
  | neg s =>
    simp only [Term.eval, Term.asSet]
    rw [LawfulVersionSet.contains_complement s v ht]

/-- the term is about a package of the finite world and its set is one the solver can build for it -/
def OKT {W : World P S V M} {root : P} {rv : V} (fw : FiniteWorld W root rv) (q : P) (t : Term S) : Prop :=
  q ∈ fw.pkgs ∧ GeneratedSet W root rv fw.pkgs q t.inner

section Gen
variable {W : World P S V M} {root : P} {rv : V} (fw : FiniteWorld W root rv)

theorem OKT.asSet {q : P} {t : Term S} (h : OKT fw q t) : GeneratedSet W root rv fw.pkgs q t.asSet := by
  cases t with
  | pos s => exact h.2
  | neg s => exact GeneratedSet.complement _ h.2

theorem OKT.negate {q : P} {t : Term S} (h : OKT fw q t) : OKT fw q t.negate := by
  cases t <;> exact h

theorem OKT.intersection {q : P} {a b : Term S} (ha : OKT fw q a) (hb : OKT fw q b) :
    OKT fw q (a.intersection b) := by
  refine ⟨ha.1, ?_⟩
  cases a <;> cases b <;> simp only [Term.intersection, Term.inner]
  · exact GeneratedSet.intersection _ _ ha.2 hb.2
  · exact GeneratedSet.intersection _ _ (GeneratedSet.complement _ hb.2) ha.2
  · exact GeneratedSet.intersection _ _ (GeneratedSet.complement _ ha.2) hb.2
  · exact GeneratedSet.union _ _ ha.2 hb.2

theorem OKT.union {q : P} {a b : Term S} (ha : OKT fw q a) (hb : OKT fw q b) :
    OKT fw q (a.union b) := by
  refine ⟨ha.1, ?_⟩
  cases a <;> cases b <;> simp only [Term.union, Term.inner]
  · exact GeneratedSet.union _ _ ha.2 hb.2
  · exact GeneratedSet.intersection _ _ (GeneratedSet.complement _ ha.2) hb.2
  · exact GeneratedSet.intersection _ _ (GeneratedSet.complement _ hb.2) ha.2
  · exact GeneratedSet.intersection _ _ ha.2 hb.2

/-- two generated terms that differ on some version differ on a test version -/
theorem separated_terms {q : P} {a b : Term S} (ha : OKT fw q a) (hb : OKT fw q b) (va : a.Valid) (vb : b.Valid)
    {v : V} (hne : a.eval (some v) ≠ b.eval (some v)) :
    ∃ w ∈ fw.tests q, a.eval (some w) ≠ b.eval (some w) := by
  apply Classical.byContradiction
  intro hno
  apply hne
  rw [Term.eval_some_eq_asSet a va, Term.eval_some_eq_asSet b vb]
  apply fw.separated q _ _ (ha.asSet fw) (hb.asSet fw)
  intro w hw
  rw [← Term.eval_some_eq_asSet a va, ← Term.eval_some_eq_asSet b vb]
  apply Classical.byContradiction
  intro h
  exact hno ⟨w, hw, h⟩

theorem tsize_lt {q : P} {t' t : Term S} (h' : OKT fw q t') (h : OKT fw q t) (v' : t'.Valid) (v : t.Valid)
    (himp : t'.Imp t) {o : Option V} (h1 : t.eval o = true) (h2 : t'.eval o = false) :
    Tm.tsize (fw.tests q) t' < Tm.tsize (fw.tests q) t := by
  cases o with
  | none => exact Tm.tsize_lt_of_opt _ himp (by simp [Tm.opts]) h1 h2
  | some x =>
    obtain ⟨w, hw, hne⟩ := separated_terms fw h' h v' v (v := x) (by rw [h1, h2]; simp)
    have hw' : some w ∈ Tm.opts (fw.tests q) := by
      simp only [Tm.opts, List.mem_cons, List.mem_map]
      exact Or.inr ⟨w, hw, rfl⟩
    cases h3 : t'.eval (some w) with
    | true => rw [h3, himp _ h3] at hne; exact absurd rfl hne
    | false =>
      cases h4 : t.eval (some w) with
      | false => rw [h3, h4] at hne; exact absurd rfl hne
      | true => exact Tm.tsize_lt_of_opt _ himp hw' h4 h3

end Gen

/-! ### the measure (the restriction to a level is `PartialSolution.termsAt` of OwnSemantics) -/

section Rank
variable {W : World P S V M} {root : P} {rv : V} (fw : FiniteWorld W root rv)

/-- digit `i` of the measure, for a live level -/
def comp (ps : PartialSolution P S V Pr) (i : Nat) : Nat :=
  (fw.pkgs.map fun p => Tm.osize (fw.tests p) (ps.termsAt i p)).sum

def Bnd : Nat := (fw.pkgs.map fun p => (fw.tests p).length + 2).sum + 1

def Dim : Nat := fw.pkgs.length + 2

def digit (ps : PartialSolution P S V Pr) (i : Nat) : Nat :=
  if i ≤ ps.currentDecisionLevel then comp fw ps i else Bnd fw

def rank (ps : PartialSolution P S V Pr) : Nat := Tm.numeral (Bnd fw + 1) (digit fw ps) (Dim fw)

theorem comp_lt_Bnd (ps : PartialSolution P S V Pr) (i : Nat) : comp fw ps i < Bnd fw := by
  unfold comp Bnd
  have := Tm.sum_map_le (fun p => Tm.osize (fw.tests p) (ps.termsAt i p))
    (fun p => (fw.tests p).length + 2) fw.pkgs (fun p _ => Tm.osize_le _ _)
  omega

theorem digit_le_Bnd (ps : PartialSolution P S V Pr) (i : Nat) : digit fw ps i ≤ Bnd fw := by
  unfold digit
  split
  · exact Nat.le_of_lt (comp_lt_Bnd fw ps i)
  · exact Nat.le_refl _

theorem rank_bound (ps : PartialSolution P S V Pr) : rank fw ps + 1 ≤ (Bnd fw + 1) ^ Dim fw :=
  Tm.numeral_lt_pow (fun i _ => Nat.lt_succ_of_le (digit_le_Bnd fw ps i))

theorem rank_le_of {ps ps' : PartialSolution P S V Pr}
    (h : ∀ i, i < Dim fw → digit fw ps' i ≤ digit fw ps i) : rank fw ps' ≤ rank fw ps :=
  Tm.numeral_le h

theorem rank_lt_of {ps ps' : PartialSolution P S V Pr} {k : Nat} (hk : k < Dim fw)
    (hagree : ∀ i, i < k → digit fw ps' i = digit fw ps i) (hlt : digit fw ps' k < digit fw ps k) :
    rank fw ps' < rank fw ps :=
  Tm.numeral_lt hagree hlt hk (fun i _ => Nat.lt_succ_of_le (digit_le_Bnd fw ps' i))

theorem comp_lt_of {ps ps' : PartialSolution P S V Pr} {i : Nat} {p : P} (hp : p ∈ fw.pkgs)
    (hne : ∀ q, q ≠ p → ps'.termsAt i q = ps.termsAt i q)
    (hlt : Tm.osize (fw.tests p) (ps'.termsAt i p) < Tm.osize (fw.tests p) (ps.termsAt i p)) :
    comp fw ps' i < comp fw ps i := by
  unfold comp
  apply Tm.sum_map_lt
  · intro q _
    by_cases hq : q = p
    · subst hq; exact Nat.le_of_lt hlt
    · rw [hne q hq]
  · exact ⟨p, hp, hlt⟩

theorem comp_congr {ps ps' : PartialSolution P S V Pr} {i : Nat}
    (h : ∀ q, ps'.termsAt i q = ps.termsAt i q) : comp fw ps' i = comp fw ps i := by
  unfold comp
  simp only [h]

end Rank

/-- every term of the partial solution and of the store is about a package of the finite world and
over a generated set -/
structure KInv {W : World P S V M} {root : P} {rv : V} (fw : FiniteWorld W root rv)
    (st : State P S V M Pr) : Prop where
  ps : ∀ kv ∈ st.ps.assignments, OKT fw kv.1 kv.2.inter.term ∧ ∀ dd ∈ kv.2.dated, OKT fw kv.1 dd.accumulated
  store : ∀ inc ∈ st.store, ∀ kv ∈ inc.terms, OKT fw kv.1 kv.2

end
end Pubgrub
