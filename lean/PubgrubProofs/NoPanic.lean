/-
Property C05, the "no panic, no internal Failure" half: no run of the solver model ends in a panic
outcome, and `Failure` only follows an out-of-set `choose_version` answer.  (Termination is not part of
this: the model is fuelled and `fault outOfFuel` is a separate outcome.)
Every `panic!` / `unwrap` / `expect` / `unreachable!` / index of the modelled Rust is a `Fault.panic site`
of the model (PubgrubModel/{Incompat,PartialSolution,Core,Solver}.lean).

For an arbitrary `LawfulVersionSet` and `debug = true` the statements are false without `UnionCanon`: the
Rust's `debug_assert` in `merge_incompatibility`, `assert_ne!(term, Term::any())`, fails for a lawful
version set in which two member-free sets that are not (syntactically) `empty` have the union `empty` —
`prior_cause` intersects the two negative terms of a package that is not the pivot into `Term::any`
(PubgrubProofs/NoPanicCex.lean has the run as a theorem).  Proved here:
* `no_panic_unionCanon`, `wellBehaved_outcomes_unionCanon`: the statements under the hypothesis
  `debug = true → UnionCanon S V` ("a union of valid sets is `empty` only if its first argument is";
  for `Range` this is the syntactic fact `Range.union_ne_empty`, over any linear order — `unionCanon_range`
  below — and it follows from canonical equality or canonical emptiness);
* `no_panic`, `wellBehaved_outcomes`: the statements for `[CanonicalEmpty S V]` (PubgrubProofs/NonEmpty.lean),
  which implies `UnionCanon`;
* `no_panic_release`, `wellBehaved_outcomes_release`: the statements for `debug = false` (a release build of
  the crate) without any extra hypothesis;
* `failure_only_out_of_set`.
-/
import PubgrubProofs.PSInvariant
import PubgrubProofs.SatisfierTheory
import PubgrubProofs.TreeSound
import PubgrubProofs.ReachabilityC04
import PubgrubProofs.NonEmpty
import PubgrubProofs.NoPanicRunInv

set_option linter.unusedSectionVars false

namespace Pubgrub
open VersionSet

variable {P S V M Pr E : Type} [DecidableEq P] [VersionSet S V] [DecidableEq S] [DecidableEq V]
  [LE Pr] [DecidableLE Pr] [LawfulVersionSet S V]

theorem unionCanon_of_canonicalEmpty [CanonicalEmpty S V] : UnionCanon S V := by
  intro a b va vb hne he
  apply hne
  apply CanonicalEmpty.eq_empty_of_no_member a va
  intro v
  cases hc : contains a v with
  | false => rfl
  | true =>
    have := LawfulVersionSet.contains_union a b v va vb
    rw [he, LawfulVersionSet.contains_empty, hc] at this
    simp at this

section RangeUnion
variable {T : Type} [LinearOrder T]

theorem Range.unionGo_some_ne_nil (x : Seg T) (a b : Range T) : Range.unionGo (some x) a b ≠ [] := by
  generalize hacc : (some x : Option (Seg T)) = acc
  fun_induction Range.unionGo acc a b generalizing x <;> simp_all

theorem Range.union_ne_empty (a b : Range T) (h : a ≠ Range.empty) : Range.union a b ≠ Range.empty := by
  unfold Range.union Range.empty at *
  cases a with
  | nil => exact absurd rfl h
  | cons l ls =>
    cases b with
    | nil =>
      rw [Range.unionGo]
      intro e
      exact Range.unionGo_some_ne_nil _ _ _ (List.append_eq_nil_iff.1 e).2
    | cons r rs =>
      rw [Range.unionGo]
      split <;> intro e <;> exact Range.unionGo_some_ne_nil _ _ _ (List.append_eq_nil_iff.1 e).2

theorem unionCanon_range [LawfulVersionSet (Range T) T] : UnionCanon (Range T) T :=
  fun a b _ _ h => Range.union_ne_empty a b h

end RangeUnion

theorem reachable_rinvX (W : World P S V M) (hW : W.SetsValid) (debug : Bool) (fuel : Nat)
    (root : P) (rv : V) (hU : debug = true → UnionCanon S V)
    (x : SolverState P S V M Pr × Request P S V M Pr E)
    (h : Reachable W debug fuel root rv x) : RInvX x := by
  induction h with
  | start => exact rinvX_start debug fuel root rv hU
  | step hreach ha ih =>
    exact rinvX_step W hW root rv _ _ _ (reachable_rinv W hW debug fuel root rv _ hreach)
      (reachable_rinv' W hW debug fuel root rv _ hreach) (reachable_rinvT W hW debug fuel root rv _ hreach)
      ih ha

/-- C05: `resolve` never panics (whatever the world, the strategy, the tie-breaking and the fuel; the
answers are consistent with the world, callbacks may fail, `choose_version` may even answer outside its
set), with the Rust's `debug_assert`s checked (`debug = true`) provided unions are canonical -/
theorem no_panic_unionCanon (W : World P S V M) (hW : W.SetsValid) (debug : Bool) (fuel : Nat)
    (root : P) (rv : V) (hU : debug = true → UnionCanon S V) (s : SolverState P S V M Pr) (site : String) :
    ¬ Reachable (E := E) W debug fuel root rv (s, .fault (.panic site)) := by
  intro h
  exact (reachable_rinvX W hW debug fuel root rv hU _ h).nopanic site rfl

/-- C05: `resolve` never panics, whatever the world, the strategy, the tie-breaking, the fuel and the
debug flag (the Rust's `debug_assert`s included), as long as the answers are consistent with the world
(callbacks may fail, `choose_version` may even answer outside its set) -/
theorem no_panic [CanonicalEmpty S V] (W : World P S V M) (hW : W.SetsValid) (debug : Bool) (fuel : Nat)
    (root : P) (rv : V) (s : SolverState P S V M Pr) (site : String) :
    ¬ Reachable (E := E) W debug fuel root rv (s, .fault (.panic site)) :=
  no_panic_unionCanon W hW debug fuel root rv (fun _ => unionCanon_of_canonicalEmpty) s site

/-- C05 for a release build (`debug = false`: the `debug_assert`s are compiled out): no panic, for every
lawful version set -/
theorem no_panic_release (W : World P S V M) (hW : W.SetsValid) (fuel : Nat)
    (root : P) (rv : V) (s : SolverState P S V M Pr) (site : String) :
    ¬ Reachable (E := E) W false fuel root rv (s, .fault (.panic site)) :=
  no_panic_unionCanon W hW false fuel root rv (fun h => by cases h) s site

theorem Solver.StepTo.cause {s : SolverState P S V M Pr} {a : Answer P S V M Pr E}
    {x : SolverState P S V M Pr × Request P S V M Pr E} (h : Solver.StepTo s a x) :
    match x.2 with
    | .failure msg =>
      (∃ acc o, s.phase = .picking acc ∧ a = .picked o ∧
        msg = "a package was chosen but we don't have a term.") ∨
      (∃ p t v, s.phase = .choosing p t ∧ a = .version (some v) ∧ t.contains v = false)
    | .errorInShouldCancel _ | .errorChoosingPackageVersion _ | .errorRetrievingDependencies .. =>
      ∃ e, a = .error e
    | _ => True := by
  induction h with
  | pickNoTerm hph _ _ => exact .inl ⟨_, _, hph, rfl, rfl⟩
  | versionOutOfSet hph hc => exact .inr ⟨_, _, _, hph, rfl, hc⟩
  | cancelError e _ | chooseError e _ | fetchError e _ => exact ⟨e, rfl⟩
  | _ => trivial

/-- C05: `Failure` is only returned after a `choose_version` answer outside the offered set -/
theorem failure_only_out_of_set (W : World P S V M) (hW : W.SetsValid) (debug : Bool) (fuel : Nat)
    (root : P) (rv : V) (s : SolverState P S V M Pr) (msg : String)
    (h : ReachableWB (E := E) W debug fuel root rv (s, .failure msg)) : False := by
  generalize hx : (s, Request.failure (P := P) (S := S) (V := V) (M := M) (Pr := Pr) (E := E) msg) = x at h
  cases h with
  | start => simp [Solver.start] at hx
  | @step s' req a hprev hok hwb =>
    have hfail : (Solver.step s' a).2 = .failure msg := by rw [← hx]
    have hreach := c04_reachable_of_wb W debug fuel root rv _ hprev
    have hc := (Solver.step_spec s' a).cause
    rw [hfail] at hc
    rcases hc with ⟨acc, o, hph, rfl, rfl⟩ | ⟨p, t, v, hph, rfl, hcont⟩
    · have hco := reachable_coherent W debug fuel root rv _ hreach
      unfold Solver.Coherent at hco
      simp only [hph] at hco
      obtain ⟨q, hq⟩ := hco
      subst hq
      exact (no_fault_at_pick W hW debug fuel root rv s' q o hreach).2.2 hfail
    · obtain ⟨_, set, hreq, hts⟩ := (reachable_rinv W hW debug fuel root rv _ hreach).choosing p t hph
      simp only at hreq
      subst hreq
      subst hts
      simp only [AnswerWellBehaved] at hwb
      simp only [Term.contains] at hcont
      rw [hwb] at hcont
      cases hcont

theorem wellBehaved_outcomes_of_no_panic (W : World P S V M) (hW : W.SetsValid) (debug : Bool) (fuel : Nat)
    (root : P) (rv : V)
    (hnp : ∀ (s : SolverState P S V M Pr) (site : String),
      ¬ Reachable (E := E) W debug fuel root rv (s, .fault (.panic site)))
    (s : SolverState P S V M Pr) (req : Request P S V M Pr E)
    (h : ReachableWB W debug fuel root rv (s, req)) (hfin : req.isFinal = true) :
    (∃ sel, req = .solution sel) ∨ (∃ t, req = .noSolution t) ∨ req = .fault .outOfFuel ∨
      (∃ m, req = .protocolError m) := by
  have hreach := c04_reachable_of_wb W debug fuel root rv _ h
  have herr : ¬ ((∃ e, req = .errorInShouldCancel e) ∨ (∃ e, req = .errorChoosingPackageVersion e) ∨
      (∃ p v e, req = .errorRetrievingDependencies p v e)) := by
    intro he
    generalize hx : (s, req) = x at h
    cases h with
    | start =>
      simp only [Solver.start, Prod.mk.injEq] at hx
      obtain ⟨_, rfl⟩ := hx
      rcases he with ⟨e, he⟩ | ⟨e, he⟩ | ⟨p, v, e, he⟩ <;> cases he
    | @step s' req' a hprev hok hwb =>
      have hreq : (Solver.step s' a).2 = req := by rw [← hx]
      have hc := (Solver.step_spec s' a).cause
      rw [hreq] at hc
      obtain ⟨e, rfl⟩ : ∃ e, a = .error e := by
        rcases he with ⟨e, rfl⟩ | ⟨e, rfl⟩ | ⟨p, v, e, rfl⟩ <;> exact hc
      cases req' <;> simp [AnswerWellBehaved] at hwb
  cases req with
  | shouldCancel => cases hfin
  | prioritize p s => cases hfin
  | pick q => cases hfin
  | chooseVersion p s => cases hfin
  | getDependencies p v => cases hfin
  | solution sel => exact Or.inl ⟨sel, rfl⟩
  | noSolution t => exact Or.inr (Or.inl ⟨t, rfl⟩)
  | errorInShouldCancel e => exact absurd (Or.inl ⟨e, rfl⟩) herr
  | errorChoosingPackageVersion e => exact absurd (Or.inr (Or.inl ⟨e, rfl⟩)) herr
  | errorRetrievingDependencies p v e => exact absurd (Or.inr (Or.inr ⟨p, v, e, rfl⟩)) herr
  | failure msg => exact (failure_only_out_of_set W hW debug fuel root rv s msg h).elim
  | fault f =>
    cases f with
    | panic site => exact absurd hreach (hnp s site)
    | outOfFuel => exact Or.inr (Or.inr (Or.inl rfl))
  | protocolError m => exact Or.inr (Or.inr (Or.inr ⟨m, rfl⟩))

theorem wellBehaved_outcomes_unionCanon (W : World P S V M) (hW : W.SetsValid) (debug : Bool) (fuel : Nat)
    (root : P) (rv : V) (hU : debug = true → UnionCanon S V)
    (s : SolverState P S V M Pr) (req : Request P S V M Pr E)
    (h : ReachableWB W debug fuel root rv (s, req)) (hfin : req.isFinal = true) :
    (∃ sel, req = .solution sel) ∨ (∃ t, req = .noSolution t) ∨ req = .fault .outOfFuel ∨
      (∃ m, req = .protocolError m) :=
  wellBehaved_outcomes_of_no_panic W hW debug fuel root rv
    (fun s site => no_panic_unionCanon W hW debug fuel root rv hU s site) s req h hfin

/-- C05: for a well-behaved provider every finished run ended in `Ok`, `NoSolution`, or ran out of the
model's fuel (the one outcome that stands for non-termination, which is not excluded here) -/
theorem wellBehaved_outcomes [CanonicalEmpty S V] (W : World P S V M) (hW : W.SetsValid) (debug : Bool)
    (fuel : Nat) (root : P) (rv : V) (s : SolverState P S V M Pr) (req : Request P S V M Pr E)
    (h : ReachableWB W debug fuel root rv (s, req)) (hfin : req.isFinal = true) :
    (∃ sel, req = .solution sel) ∨ (∃ t, req = .noSolution t) ∨ req = .fault .outOfFuel ∨
      (∃ m, req = .protocolError m) :=
  wellBehaved_outcomes_unionCanon W hW debug fuel root rv (fun _ => unionCanon_of_canonicalEmpty) s req h hfin

theorem wellBehaved_outcomes_release (W : World P S V M) (hW : W.SetsValid)
    (fuel : Nat) (root : P) (rv : V) (s : SolverState P S V M Pr) (req : Request P S V M Pr E)
    (h : ReachableWB W false fuel root rv (s, req)) (hfin : req.isFinal = true) :
    (∃ sel, req = .solution sel) ∨ (∃ t, req = .noSolution t) ∨ req = .fault .outOfFuel ∨
      (∃ m, req = .protocolError m) :=
  wellBehaved_outcomes_unionCanon W hW false fuel root rv (fun h => by cases h) s req h hfin

end Pubgrub
