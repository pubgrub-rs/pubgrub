/-
Lines, references and premises of a report as lists: what `stepPremises` contains, and how a number
resolves (`RefOK`) when a line is appended or the last line receives a number.
-/
import PubgrubProofs.ReportDefs
import PubgrubProofs.AssocListLaws

namespace Pubgrub
open VersionSet

set_option linter.unusedSectionVars false

section
variable {P S V M : Type} [DecidableEq P] [VersionSet S V] [DecidableEq S]

theorem Entails.mono {U : P → V → Prop} {A B : List (List (P × Term S))} {c : List (P × Term S)}
    (h : Entails U A c) (hAB : ∀ p ∈ A, p ∈ B) : Entails U B c := by
  intro σ hw hc
  obtain ⟨pr, hpr, ht⟩ := h σ hw hc
  exact ⟨pr, hAB pr hpr, ht⟩

theorem Entails.cut {U : P → V → Prop} {a b c : List (P × Term S)} {B : List (List (P × Term S))}
    (h : Entails U [a, b] c) (ha : Entails U B a) (hb : b ∈ B) : Entails U B c := by
  intro σ hw hc
  obtain ⟨pr, hpr, ht⟩ := h σ hw hc
  simp only [List.mem_cons, List.not_mem_nil, or_false] at hpr
  rcases hpr with rfl | rfl
  · exact ha σ hw ht
  · exact ⟨pr, hb, ht⟩

theorem Entails.of_pair {U : P → V → Prop} {a b c : List (P × Term S)} {B : List (List (P × Term S))}
    (h : Entails U [a, b] c) (ha : a ∈ B) (hb : b ∈ B) : Entails U B c :=
  h.mono (List.forall_mem_cons.mpr ⟨ha, List.forall_mem_cons.mpr ⟨hb, fun _ hp => nomatch hp⟩⟩)

theorem Entails.swap {U : P → V → Prop} {a b c : List (P × Term S)} (h : Entails U [a, b] c) :
    Entails U [b, a] c :=
  h.of_pair (.tail _ (.head _)) (.head _)

theorem SmallMap.get_of_containsKey_false {K T : Type} [DecidableEq K] (m : SmallMap K T) (k : K)
    (h : ¬ SmallMap.containsKey m k = true) : SmallMap.get m k = none := by
  simpa [SmallMap.containsKey] using h

/-- `stepPremises` only looks at the lines before the step -/
def premOf (pre : List (Line P S V M)) (st : Step P S V M) : List (List (P × Term S)) :=
  st.namedExternals.map External.terms ++
  (st.citedRefs.filterMap fun kt => conclusionOfRef pre kt.1) ++
  (if st.isAnd then
    match pre.getLast? with
    | some l => l.step.conclusion.toList
    | none => []
   else [])

theorem stepPremises_eq (lines : List (Line P S V M)) (i : Nat) (st : Step P S V M) :
    stepPremises lines i st = premOf (lines.take i) st := rfl

theorem mem_premOf_named {pre : List (Line P S V M)} {st : Step P S V M} {e : External P S V M}
    (he : e ∈ st.namedExternals) : e.terms ∈ premOf pre st :=
  List.mem_append_left _ (List.mem_append_left _ (List.mem_map_of_mem he))

theorem mem_premOf_cited {pre : List (Line P S V M)} {st : Step P S V M} {k : Nat}
    {tt : List (P × Term S)} (hk : (k, tt) ∈ st.citedRefs) (hc : conclusionOfRef pre k = some tt) :
    tt ∈ premOf pre st :=
  List.mem_append_left _ (List.mem_append_right _ (List.mem_filterMap.mpr ⟨(k, tt), hk, hc⟩))

theorem mem_premOf_last {pre : List (Line P S V M)} {st : Step P S V M} {l : Line P S V M}
    {tt : List (P × Term S)} (ha : st.isAnd = true) (hl : pre.getLast? = some l)
    (hc : l.step.conclusion = some tt) : tt ∈ premOf pre st := by
  unfold premOf
  rw [if_pos ha, hl]
  refine List.mem_append_right _ ?_
  show tt ∈ l.step.conclusion.toList
  rw [hc]
  exact List.mem_singleton_self tt

/-- all external facts named by the lines -/
def namedAll (lines : List (Line P S V M)) : List (External P S V M) :=
  lines.flatMap fun l => l.step.namedExternals

theorem namedAll_append (a b : List (Line P S V M)) : namedAll (a ++ b) = namedAll a ++ namedAll b := by
  simp [namedAll]

theorem namedAll_single (l : Line P S V M) : namedAll [l] = l.step.namedExternals := by
  simp [namedAll]

theorem mem_namedAll {lines : List (Line P S V M)} {e : External P S V M} :
    e ∈ namedAll lines ↔ ∃ l ∈ lines, e ∈ l.step.namedExternals := by
  simp [namedAll]

theorem allRefs_append (a b : List (Line P S V M)) : allRefs (a ++ b) = allRefs a ++ allRefs b := by
  simp [allRefs]

theorem allRefs_single (l : Line P S V M) : allRefs [l] = l.refs := by
  simp [allRefs]

theorem mem_allRefs {lines : List (Line P S V M)} {k : Nat} :
    k ∈ allRefs lines ↔ ∃ l ∈ lines, k ∈ l.refs := by
  simp [allRefs]

/-- number `k` resolves among `lines` to exactly one line, which concludes `tt` -/
def RefOK (lines : List (Line P S V M)) (k : Nat) (tt : List (P × Term S)) : Prop :=
  conclusionOfRef lines k = some tt ∧ (lines.filter fun l' => l'.refs.contains k).length = 1

theorem conclusionOfRef_append_of_some {a : List (Line P S V M)} {k : Nat} {tt : List (P × Term S)}
    (h : conclusionOfRef a k = some tt) (b : List (Line P S V M)) :
    conclusionOfRef (a ++ b) k = some tt := by
  unfold conclusionOfRef at h ⊢
  rw [List.find?_append]
  generalize a.find? (fun l => l.refs.contains k) = o at h ⊢
  cases o with
  | none => simp at h
  | some l => simpa using h

theorem RefOK.push {lines : List (Line P S V M)} {k : Nat} {tt : List (P × Term S)}
    (h : RefOK lines k tt) (st : Step P S V M) : RefOK (lines ++ [{ step := st, refs := [] }]) k tt := by
  refine ⟨conclusionOfRef_append_of_some h.1 _, ?_⟩
  rw [List.filter_append]
  simpa using h.2

theorem RefOK.exists_line {lines : List (Line P S V M)} {k : Nat} {tt : List (P × Term S)}
    (h : RefOK lines k tt) : ∃ l ∈ lines, k ∈ l.refs := by
  have h1 := h.1
  unfold conclusionOfRef at h1
  cases hf : lines.find? fun l => l.refs.contains k with
  | none => rw [hf] at h1; simp at h1
  | some l =>
    refine ⟨l, List.mem_of_find?_eq_some hf, ?_⟩
    have := List.find?_some hf
    simpa using this

theorem RefOK.congr_last {init : List (Line P S V M)} {l l' : Line P S V M} {k : Nat}
    {tt : List (P × Term S)} (hs : l'.step.conclusion = l.step.conclusion)
    (hr : l'.refs.contains k = l.refs.contains k) (h : RefOK (init ++ [l]) k tt) :
    RefOK (init ++ [l']) k tt := by
  unfold RefOK conclusionOfRef at h ⊢
  rw [List.find?_append, List.filter_append, List.length_append, List.find?_singleton,
    List.filter_cons, List.filter_nil] at h ⊢
  rw [hr]
  cases hk : l.refs.contains k <;> rw [hk] at h
  · exact h
  · refine ⟨?_, h.2⟩
    cases ho : List.find? (fun l => l.refs.contains k) init <;> rw [ho] at h
    · exact hs.trans h.1
    · exact h.1

theorem RefOK.addRef {init : List (Line P S V M)} {l : Line P S V M} {k n : Nat}
    {tt : List (P × Term S)} (hne : k ≠ n) (h : RefOK (init ++ [l]) k tt) :
    RefOK (init ++ [{ l with refs := l.refs ++ [n] }]) k tt :=
  h.congr_last (l := l) rfl (by simp [hne])

theorem RefOK.fresh {init : List (Line P S V M)} {l : Line P S V M} {n : Nat}
    {tt : List (P × Term S)} (hfresh : ∀ l' ∈ init, n ∉ l'.refs) (hc : l.step.conclusion = some tt) :
    RefOK (init ++ [{ l with refs := l.refs ++ [n] }]) n tt := by
  have hp : ∀ l' ∈ init, ¬ l'.refs.contains n = true := fun l' hl' hn =>
    hfresh l' hl' (List.contains_iff_mem.mp hn)
  have hl : (l.refs ++ [n]).contains n = true :=
    List.contains_iff_mem.mpr (List.mem_append_right _ (List.mem_singleton_self n))
  unfold RefOK conclusionOfRef
  rw [List.find?_append, List.filter_append, List.find?_eq_none.mpr hp, List.filter_eq_nil_iff.mpr hp,
    List.find?_singleton, List.filter_cons, List.filter_nil, if_pos hl, if_pos hl]
  exact ⟨hc, rfl⟩

end
end Pubgrub
