/-
The unit propagation loop stays within its fuel: the potential `2·rank + |buffer|` decreases with every
iteration, and conflict resolution needs at most `nextGlobalIndex + 1` units.  It keeps the invariants and
does not increase the measure.
-/
import PubgrubProofs.TerminationPropagate
import PubgrubProofs.TerminationTrigger

set_option linter.unusedSectionVars false

namespace Pubgrub
open VersionSet

section
variable {P S V M Pr : Type} [DecidableEq P] [VersionSet S V] [DecidableEq S] [DecidableEq V]
  [LawfulVersionSet S V]
variable {W : World P S V M} {root : P} {rv : V} (fw : FiniteWorld W root rv)

theorem MInv.afterConflict (ce : CanonEmpty S V) {st : State P S V M Pr} (hm : MInv fw st) {pkg : P} {rc : Nat}
    (hac : AfterConflict st pkg rc) (hacne : AfterConflictNE st pkg rc)
    (hmeet : ∃ inc c, st.store[rc]? = some inc ∧ inc.get pkg = some c ∧
      ∀ t, st.ps.terms pkg = some t → ∃ x : Option V, t.eval x = true ∧ c.eval x = true)
    {ps : PartialSolution P S V Pr} (hps : st.ps.addDerivation pkg rc st.store = .ok ps)
    (buffer : List P) (lvl : Nat) :
    MInv fw ({ st with buffer := buffer, ps := ps, contradicted := SmallMap.insert st.contradicted rc lvl } :
      State P S V M Pr) ∧
    (ps.currentDecisionLevel = st.ps.currentDecisionLevel ∧
      (∀ i, i < st.ps.currentDecisionLevel → comp fw ps i = comp fw st.ps i) ∧
      comp fw ps st.ps.currentDecisionLevel < comp fw st.ps st.ps.currentDecisionLevel) ∧
    ps.nextGlobalIndex = st.ps.nextGlobalIndex + 1 := by
  have hs := hm.s
  have hp := hm.p
  have ht := hm.t
  have hw := hp.wf
  obtain ⟨inc, hinc, hget, hoth⟩ := hac.stored
  obtain ⟨inc', t', hinc', hget', hnimp⟩ := hacne
  rw [hinc] at hinc'; injection hinc' with hinc'; subst hinc'
  obtain ⟨inc'', c, hinc'', hgetc, hmt⟩ := hmeet
  rw [hinc] at hinc''; injection hinc'' with hinc''; subst hinc''
  rw [hget'] at hgetc; injection hgetc with hgetc; subst hgetc
  have gi := hs.store rc inc hinc
  have hid : rc < st.store.length := (List.getElem?_eq_some_iff.1 hinc).1
  have htv : t'.Valid := Incompat.get_valid W root rv hs.store hinc hget'
  obtain ⟨inc2, t0, t2, pa', hinc2, ht0, hnone, hstep⟩ :=
    PartialSolution.addDerivation_step W root rv hs.store hw.wf hps
  rw [hinc] at hinc2; injection hinc2 with hinc2; subst hinc2
  refine ⟨⟨⟨hs.store, hs.root, hs.rv, PartialSolution.addDerivation_termsValid W root rv hs.store hs.ps hps⟩,
    hp.derive hid hps _ _, ?_, State.derivation_ne ce W root rv hs hinc hget' hnimp hm.ne hps,
    hm.k.derive fw hs hw.wf hps rfl rfl, hm.acc.derive hs hw hps rfl rfl⟩, ?_, hstep.next⟩
  · refine tinv_deriv W root rv hs hp ht hstep hinc ht0 hnone hoth ?_ rfl rfl
    intro h0
    have := hac.level
    omega
  · exact comp_addDerivation fw hw hs.ps hps hinc hget' htv (hm.k.get fw hinc hget')
      (fun o ho => hm.k.terms fw ho) hmt

/-- the package on top of the buffer has a trigger among its incompatibilities -/
def Trig (st : State P S V M Pr) : Prop :=
  ∃ cur ids id, st.buffer.getLast? = some cur ∧ SmallMap.get st.incompatibilities cur = some ids ∧ id ∈ ids ∧
    Trigger st cur id

namespace State

/-! The fuel of the loop is its potential `2 * rank + |buffer|`, plus a bound `C` of
`nextGlobalIndex + rank` for the conflict resolutions, plus 2. -/

/-- an iteration pops the buffer, which pays for it -/
theorem fuel_iteration {st st1 : State P S V M Pr} {cur : P} {C fuel : Nat}
    (hcur : st.buffer.getLast? = some cur)
    (hd : Desc fw ({ st with buffer := st.buffer.dropLast } : State P S V M Pr) st1)
    (hf : 2 * rank fw st.ps + st.buffer.length + C + 2 ≤ fuel + 1) :
    2 * rank fw st1.ps + st1.buffer.length + C + 2 ≤ fuel := by
  have hblen : st.buffer.dropLast.length + 1 = st.buffer.length := by
    obtain ⟨ys, hys⟩ := List.getLast?_eq_some_iff.1 hcur
    rw [hys]; simp
  have hpot : 2 * rank fw st1.ps + st1.buffer.length ≤ 2 * rank fw st.ps + st.buffer.dropLast.length := hd.pot
  omega

theorem fuel_conflict {g r b C fuel : Nat} (hC : g + r ≤ C) (hf : 2 * r + b + C + 2 ≤ fuel) :
    g + 1 ≤ fuel := by omega

/-- the derivation after a conflict starts with the buffer `[pkg]` and a smaller measure -/
theorem fuel_after_conflict {r' r b C fuel : Nat} (hr : r' < r) (hf : 2 * r + b + C + 2 ≤ fuel) :
    2 * r' + 1 + C + 2 ≤ fuel := by omega

theorem unitPropagationLoop_term (ce : CanonEmpty S V) (C : Nat) :
    ∀ (fuel : Nat) (st : State P S V M Pr), MInv fw st →
    st.ps.nextGlobalIndex + rank fw st.ps ≤ C →
    2 * rank fw st.ps + st.buffer.length + C + 2 ≤ fuel →
    Fueled (unitPropagationLoop fuel st) (fun x => x.2 = none → MInv fw x.1 ∧ Desc fw st x.1 ∧
      (Trig st → rank fw x.1.ps < rank fw st.ps)) := by
  intro fuel
  induction fuel with
  | zero => intro st _ _ hf; exact absurd hf (Nat.not_succ_le_zero _)
  | succ fuel ih =>
    intro st hm hC hf
    unfold unitPropagationLoop
    split
    · rename_i hnone
      refine Fueled.ok (fun _ => ⟨hm, Desc.refl fw st, ?_⟩)
      intro ⟨cur, ids, id, h1, _⟩
      rw [hnone] at h1; cases h1
    rename_i current hcur
    dsimp only
    split
    · exact Fueled.panic
    rename_i ids hids
    have hm0 : MInv fw ({ st with buffer := st.buffer.dropLast } : State P S V M Pr) :=
      hm.congr fw rfl rfl rfl rfl hm.p.cache
    split
    · rename_i e he
      exact Fueled.error_of_eq he (propagateIncompats_nooof _ _)
    · rename_i st1 he
      obtain ⟨hm1, hd1, _, htrig⟩ := propagateIncompats_term fw ce ids.reverse _ hm0 he
      refine (ih st1 hm1 (Nat.le_trans hd1.idx hC) (fuel_iteration fw hcur hd1 hf)).mono ?_
      intro x _ hx hn
      obtain ⟨h1, h2, _⟩ := hx hn
      refine ⟨h1, (hd1.of_dropLast fw).trans fw h2, ?_⟩
      intro ⟨cur, ids', id, k1, k2, k3, k4⟩
      obtain rfl : current = cur := Option.some.inj (hcur.symm.trans k1)
      obtain rfl : ids = ids' := Option.some.inj (hids.symm.trans k2)
      exact Nat.lt_of_le_of_lt h2.rk (htrig current id k4 (List.mem_reverse.2 k3) rfl)
    · rename_i st1 cid he
      obtain ⟨hm1, hd1, hsat, _⟩ := propagateIncompats_term fw ce ids.reverse _ hm0 he
      have hf1 := fuel_iteration fw hcur hd1 hf
      have hC1 : st1.ps.nextGlobalIndex + rank fw st1.ps ≤ C := Nat.le_trans hd1.idx hC
      obtain ⟨inc, hinc, hrel⟩ := hsat cid rfl
      have hs1 := hm1.s
      have hp1 := hm1.p
      have ht1 := hm1.t
      have hsat1 : st1.ps.Satisfies inc := PartialSolution.satisfies_of_relation W root rv hs1 hinc hrel
      have hex : ∃ inc, st1.store[cid]? = some inc ∧ st1.ps.Satisfies inc := ⟨inc, hinc, hsat1⟩
      have hcr := conflictResolution_term fw ce fuel st1 cid false st1.ps.nextGlobalIndex inc hm1 hinc hsat1
        (PartialSolution.satBefore_of_satisfies hp1.wf hsat1) (fuel_conflict hC1 hf1)
      have hsafe := conflictResolution_safe W root rv fuel st1 cid false hs1 hp1 ht1 hex
      have hcrne := conflictResolution_ne W root rv fuel st1 cid false hs1 hp1 ht1 hex hm1.ne
      split
      · rename_i e he2
        exact Fueled.error_of_eq he2 hcr.nooof
      · exact Fueled.ok (fun h => by cases h)
      · rename_i st2 pkg rc he2
        obtain ⟨hs2, _⟩ := conflictResolution_inv W root rv _ _ _ _ he2 hs1
        obtain ⟨hp2, _⟩ := conflictResolution_pinv _ _ _ _ he2 hp1
        obtain ⟨ht2, hac⟩ := hsafe.of_ok he2 pkg rc rfl
        obtain ⟨hne2, hacne⟩ := hcrne.of_ok he2 pkg rc rfl
        have hpost : CRPost fw st1.ps st2 pkg rc := hcr.of_ok he2 pkg rc rfl
        have hm2 : MInv fw st2 := ⟨hs2, hp2, ht2, hne2, hpost.k, hpost.acc⟩
        obtain ⟨inc2, hinc2, hget2, _⟩ := hac.stored
        obtain ⟨ps', hps⟩ := PartialSolution.addDerivation_ok hinc2 hget2 hac.undecided
        rw [hps]
        dsimp only
        obtain ⟨hm3, ⟨hlev, hlow, hcomp⟩, hnext⟩ := hm2.afterConflict fw ce hac hacne hpost.meet hps
          [pkg] ps'.currentDecisionLevel
        obtain ⟨prev, hbt, hprev⟩ := hpost.bt
        have hrank : rank fw ps' < rank fw st1.ps :=
          rank_backtrack_derive fw hp1.wf hbt hprev
            (Nat.lt_of_le_of_lt hprev (Nat.lt_of_succ_lt (Nat.lt_of_succ_le (hm1.level_lt fw)))) hlev hlow hcomp
        have hd3 : Desc fw st1 ({ st2 with
            buffer := [pkg], ps := ps'
            contradicted := SmallMap.insert st2.contradicted rc ps'.currentDecisionLevel } :
            State P S V M Pr) :=
          Desc.of_lt fw hrank (hnext.trans (congrArg (· + 1) hbt.next)) (Nat.succ_le_succ (Nat.zero_le _))
        refine (ih _ hm3 (Nat.le_trans hd3.idx hC1) (fuel_after_conflict hrank hf1)).mono ?_
        intro x _ hx hn
        obtain ⟨h1, h2, _⟩ := hx hn
        exact ⟨h1, ((hd1.of_dropLast fw).trans fw hd3).trans fw h2,
          fun _ => Nat.lt_of_le_of_lt h2.rk (Nat.lt_of_lt_of_le hrank hd1.rk)⟩

theorem unitPropagation_term (ce : CanonEmpty S V) (C : Nat) {fuel : Nat} {st : State P S V M Pr} (p : P)
    (hm : MInv fw st) (hC : st.ps.nextGlobalIndex + rank fw st.ps ≤ C)
    (hf : 2 * rank fw st.ps + C + 3 ≤ fuel) :
    Fueled (unitPropagation fuel st p) (fun x => x.2 = none → MInv fw x.1 ∧
      rank fw x.1.ps ≤ rank fw st.ps ∧ x.1.ps.nextGlobalIndex + rank fw x.1.ps ≤ C ∧
      (TrigAt st p → rank fw x.1.ps < rank fw st.ps)) := by
  unfold unitPropagation
  have hm0 : MInv fw ({ st with buffer := [p] } : State P S V M Pr) :=
    hm.congr fw rfl rfl rfl rfl hm.p.cache
  refine (unitPropagationLoop_term fw ce C fuel _ hm0 hC (by
    show 2 * rank fw st.ps + [p].length + C + 2 ≤ fuel
    simp only [List.length_cons, List.length_nil]; omega)).mono ?_
  intro x _ hx hn
  obtain ⟨h1, h2, h3⟩ := hx hn
  refine ⟨h1, h2.rk, Nat.le_trans h2.idx hC, ?_⟩
  intro ⟨ids, id, k1, k2, k3⟩
  exact h3 ⟨p, ids, id, rfl, k1, k2, k3⟩

end State
end
end Pubgrub
