/-
How the terms of the partial solution at each level (`termsAt`) change under `addDerivation`,
`addDecision` and `backtrack`.
-/
import PubgrubProofs.OwnSemantics

set_option linter.unusedSectionVars false

namespace Pubgrub
open VersionSet

section PS
variable {P S V M Pr : Type} [DecidableEq P] [VersionSet S V] [DecidableEq S] [LawfulVersionSet S V]

namespace PartialSolution

theorem termsAt_addDerivation_lt {ps ps' : PartialSolution P S V Pr} {q : P} {cause : Nat}
    {store : List (Incompat P S V M)} (h : ps.WF')
    (hr : ps.addDerivation q cause store = .ok ps') {l : Nat} (hl : l < ps.currentDecisionLevel) :
    ps'.termsAt l = ps.termsAt l := by
  funext p
  by_cases hp : p = q
  · subst hp
    obtain ⟨inc, t, _, _, hcase⟩ := addDerivation_spec hr
    rcases hcase with ⟨idx, pa, t0, hidx, hpa, ht0, rfl⟩ | ⟨hpa, rfl⟩
    · have hget := getElem_of_indexOf_getPA hidx hpa
      have hw := h.wf.entries idx p pa hget
      have hi := undecided_ge h.wf hget ht0
      unfold termsAt
      simp only [getPA]
      rw [SmallMap.get_set_same_key h.wf.keys hget, if_pos rfl]
      have hpa' : SmallMap.get ps.assignments p = some pa := hpa
      rw [hpa']
      simp only [Option.bind_some]
      rw [termAt_undecided_eq hw hi l]
      unfold PackageAssignments.termAt
      simp only
      rw [if_neg (Nat.not_le_of_lt hl), pop_append_above _ _ _ hl]
    · unfold termsAt
      rw [hpa]
      simp only [getPA] at hpa ⊢
      rw [SmallMap.get_append_none hpa]
      simp only [SmallMap.get, if_true, Option.bind_some, Option.bind_none]
      unfold PackageAssignments.termAt
      simp only
      rw [if_neg (Nat.not_le_of_lt hl), pop_all_above]
      · rfl
      · intro dd hdd
        rw [List.mem_singleton.1 hdd]; exact hl
  · unfold termsAt
    rw [addDerivation_getPA_ne h.wf hr hp]

theorem addDerivation_level {ps ps' : PartialSolution P S V Pr} {q : P} {cause : Nat}
    {store : List (Incompat P S V M)}
    (hr : ps.addDerivation q cause store = .ok ps') :
    ps'.currentDecisionLevel = ps.currentDecisionLevel := by
  obtain ⟨inc, t, _, _, hcase⟩ := addDerivation_spec hr
  rcases hcase with ⟨idx, pa, t0, hidx, hpa, ht0, rfl⟩ | ⟨hpa, rfl⟩ <;> rfl

theorem terms_addDerivation_self {ps ps' : PartialSolution P S V Pr} {q : P} {cause : Nat}
    {store : List (Incompat P S V M)} (h : ps.WF') (hv : ps.TermsValid)
    (hr : ps.addDerivation q cause store = .ok ps') :
    ∃ inc t o', store[cause]? = some inc ∧ inc.get q = some t ∧ ps'.terms q = some o' ∧
      (t.Valid → o'.Sub t.negate) ∧ (t.Valid → ∀ o, ps.terms q = some o → o'.Sub o) := by
  cases ho : ps.terms q with
  | some o =>
    obtain ⟨inc, t, hinc, ht, hnew⟩ := addDerivation_term_self h.wf hr ho
    refine ⟨inc, t, _, hinc, ht, hnew, ?_, ?_⟩
    · intro htv
      exact Term.sub_intersection_right o t.negate (termIntersection_valid hv ho) (Term.valid_negate t htv)
    · intro htv o2 ho2
      injection ho2 with ho2; subst ho2
      exact Term.sub_intersection_left o t.negate (termIntersection_valid hv ho) (Term.valid_negate t htv)
  | none =>
    obtain ⟨inc, t, hinc, ht, hcase⟩ := addDerivation_spec hr
    have hpa : ps.getPA q = none := by
      simp only [terms, termIntersectionForPackage, Option.map_eq_none_iff] at ho; exact ho
    rcases hcase with ⟨idx, pa, t0, hidx, hpa', ht0, rfl⟩ | ⟨_, rfl⟩
    · rw [hpa] at hpa'; cases hpa'
    · refine ⟨inc, t, t.negate, hinc, ht, ?_, fun _ => Term.Sub.refl _, ?_⟩
      · simp only [terms, termIntersectionForPackage, getPA] at hpa ⊢
        rw [SmallMap.get_append_none hpa]
        simp [SmallMap.get, AssignInter.term]
      · intro _ o2 ho2; cases ho2

theorem terms_addDerivation_ne {ps ps' : PartialSolution P S V Pr} {q : P} {cause : Nat}
    {store : List (Incompat P S V M)} (h : ps.WF')
    (hr : ps.addDerivation q cause store = .ok ps') {p : P} (hp : p ≠ q) :
    ps'.terms p = ps.terms p := by
  unfold terms termIntersectionForPackage
  rw [addDerivation_getPA_ne h.wf hr hp]

theorem termsLE_addDerivation (W : World P S V M) (root : P) (rv : V)
    {ps ps' : PartialSolution P S V Pr} {q : P} {cause : Nat}
    {store : List (Incompat P S V M)} (hs : StoreInv W root rv store) (h : ps.WF') (hv : ps.TermsValid)
    (hr : ps.addDerivation q cause store = .ok ps') : TermsLE ps'.terms ps.terms := by
  intro p o ho
  by_cases hp : p = q
  · subst hp
    obtain ⟨inc, t, o', hinc, ht, hnew, _, h2⟩ := terms_addDerivation_self h hv hr
    exact ⟨o', hnew, h2 (Incompat.get_valid W root rv hs hinc ht) o ho⟩
  · exact ⟨o, by rw [terms_addDerivation_ne h hr hp]; exact ho, Term.Sub.refl o⟩

theorem addDecision_getPA {ps ps' : PartialSolution P S V Pr} {debug : Bool} {p : P} {v : V}
    (h : ps.WF) (hr : addDecision debug ps p v = .ok ps') (hw' : ps'.WF)
    {t : Term S} {pa : PackageAssignments S V} (hpa : ps.getPA p = some pa)
    (ht : pa.inter = .derivations t) (q : P) :
    ps'.getPA q =
      if q = p then some (pa.decide ps.currentDecisionLevel ps.nextGlobalIndex v) else ps.getPA q := by
  obtain ⟨oldIdx, hget, hge, e1, e2, e3, e4, e5, hk⟩ := addDecision_spec h hr hpa ht
  by_cases hq : q = p
  · subst hq
    rw [if_pos rfl]
    apply getPA_of_getElem hw' (i := ps.currentDecisionLevel)
    rw [hk, if_pos rfl]
  · rw [if_neg hq]
    cases hqa : ps.getPA q with
    | some qa =>
      obtain ⟨i, _, hi⟩ := getElem_of_getPA hqa
      have hio : i ≠ oldIdx := by
        intro e; subst e; rw [hget] at hi; injection hi with hi; injection hi with hi; exact hq hi.symm
      by_cases hiL : i = ps.currentDecisionLevel
      · subst hiL
        apply getPA_of_getElem hw' (i := oldIdx)
        rw [hk, if_neg (fun e => hio e.symm), if_pos rfl]; exact hi
      · apply getPA_of_getElem hw' (i := i)
        rw [hk, if_neg hiL, if_neg hio]; exact hi
    | none =>
      cases hqa' : ps'.getPA q with
      | none => rfl
      | some qa' =>
        exfalso
        obtain ⟨k, _, hk'⟩ := getElem_of_getPA hqa'
        rw [hk] at hk'
        split at hk'
        · injection hk' with hk'; injection hk' with hk'; exact hq hk'.symm
        · split at hk'
          · rw [getPA_of_getElem h hk'] at hqa; cases hqa
          · rw [getPA_of_getElem h hk'] at hqa; cases hqa

theorem addDecision_level {ps ps' : PartialSolution P S V Pr} {debug : Bool} {p : P} {v : V}
    (h : ps.WF) (hr : addDecision debug ps p v = .ok ps')
    {t : Term S} {pa : PackageAssignments S V} (hpa : ps.getPA p = some pa)
    (ht : pa.inter = .derivations t) :
    ps'.currentDecisionLevel = ps.currentDecisionLevel + 1 := by
  obtain ⟨oldIdx, hget, hge, e1, _⟩ := addDecision_spec h hr hpa ht
  exact e1

theorem termsAt_addDecision_le {ps ps' : PartialSolution P S V Pr} {debug : Bool} {p : P} {v : V}
    (h : ps.WF) (hr : addDecision debug ps p v = .ok ps') (hw' : ps'.WF)
    {t : Term S} {pa : PackageAssignments S V} (hpa : ps.getPA p = some pa)
    (ht : pa.inter = .derivations t) {l : Nat} (hl : l ≤ ps.currentDecisionLevel) :
    ps'.termsAt l = ps.termsAt l := by
  funext q
  unfold termsAt
  rw [addDecision_getPA h hr hw' hpa ht q]
  by_cases hq : q = p
  · subst hq
    rw [if_pos rfl, hpa]
    simp only [Option.bind_some]
    obtain ⟨i, _, hi⟩ := getElem_of_getPA hpa
    rw [termAt_undecided_eq (h.entries i q pa hi) (undecided_ge h hi ht) l]
    unfold PackageAssignments.termAt PackageAssignments.decide
    simp only
    rw [if_neg (by omega)]
  · rw [if_neg hq]

theorem terms_addDecision {ps ps' : PartialSolution P S V Pr} {debug : Bool} {p : P} {v : V}
    (h : ps.WF) (hr : addDecision debug ps p v = .ok ps') (hw' : ps'.WF)
    {t : Term S} {pa : PackageAssignments S V} (hpa : ps.getPA p = some pa)
    (ht : pa.inter = .derivations t) (q : P) :
    ps'.terms q = if q = p then some (Term.exact v) else ps.terms q := by
  unfold terms termIntersectionForPackage
  rw [addDecision_getPA h hr hw' hpa ht q]
  by_cases hq : q = p
  · rw [if_pos hq, if_pos hq]; rfl
  · rw [if_neg hq, if_neg hq]

theorem termsLE_addDecision {ps ps' : PartialSolution P S V Pr} {debug : Bool} {p : P} {v : V}
    (h : ps.WF) (hr : addDecision debug ps p v = .ok ps') (hw' : ps'.WF)
    {t : Term S} {pa : PackageAssignments S V} (hpa : ps.getPA p = some pa)
    (ht : pa.inter = .derivations t) (hv : t.contains v = true) :
    TermsLE ps'.terms ps.terms := by
  intro q o ho
  rw [terms_addDecision h hr hw' hpa ht q]
  by_cases hq : q = p
  · subst hq
    rw [if_pos rfl]
    refine ⟨_, rfl, ?_⟩
    have : ps.terms q = some t := by
      simp only [terms, termIntersectionForPackage, hpa, Option.map_some, ht, AssignInter.term]
    rw [this] at ho; injection ho with ho; subst ho
    exact Term.sub_exact_of_contains hv
  · rw [if_neg hq]
    exact ⟨o, ho, Term.Sub.refl o⟩

theorem btG_cases (dl : Nat) (p : P) (pa : PackageAssignments S V) :
    (pa.smallest > dl ∧ btG dl (p, pa) = none) ∨
    (¬ pa.smallest > dl ∧ pa.highest ≤ dl ∧ btG dl (p, pa) = some (p, pa)) ∨
    (¬ pa.smallest > dl ∧ ¬ pa.highest ≤ dl ∧
      (((popWhileAbove dl pa.dated).getLast? = none ∧ btG dl (p, pa) = none) ∨
       ∃ last, (popWhileAbove dl pa.dated).getLast? = some last ∧
        btG dl (p, pa) = some (p, { pa with dated := popWhileAbove dl pa.dated,
                                             highest := last.decisionLevel,
                                             inter := .derivations last.accumulated }))) := by
  unfold btG btF
  simp only
  by_cases h1 : pa.smallest > dl
  · left; rw [if_pos h1]; exact ⟨h1, rfl⟩
  · right
    rw [if_neg h1]
    by_cases h2 : pa.highest ≤ dl
    · left; rw [if_pos h2]; exact ⟨h1, h2, rfl⟩
    · right
      rw [if_neg h2]
      refine ⟨h1, h2, ?_⟩
      cases hl : (popWhileAbove dl pa.dated).getLast? with
      | none => left; simp [unwrapOr, bind, Except.bind, optOfR]
      | some last => right; exact ⟨last, rfl, by simp [unwrapOr, bind, Except.bind, optOfR, pure, Except.pure]⟩

theorem backtrack_getPA {ps ps' : PartialSolution P S V Pr} {dl : Nat} (h : ps.WF)
    (hr : ps.backtrack dl = .ok ps') (q : P) :
    ps'.getPA q = (ps.getPA q).bind (fun pa => (btG dl (q, pa)).map Prod.snd) := by
  rw [backtrack_eq] at hr
  obtain ⟨asg, hasg, hr⟩ := bind_eq_ok hr
  simp only [pure, Except.pure] at hr
  injection hr with hr; subst hr
  have hA : asg = ps.assignments.filterMap (btG dl) := filterMapM_ok_eq _ _ _ hasg
  subst hA
  exact SmallMap.get_filterMap (btG dl) (btG_key dl) ps.assignments h.keys q

theorem backtrack_level {ps ps' : PartialSolution P S V Pr} {dl : Nat}
    (hr : ps.backtrack dl = .ok ps') : ps'.currentDecisionLevel = dl := by
  rw [backtrack_eq] at hr
  obtain ⟨asg, hasg, hr⟩ := bind_eq_ok hr
  simp only [pure, Except.pure] at hr
  injection hr with hr; subst hr; rfl

theorem termAt_btG {pa : PackageAssignments S V} {dl next i : Nat} (hw : pa.WFAt dl next i)
    (hx : pa.WFX) (p : P) {l l' : Nat} (hl : l ≤ l') :
    ((btG l' (p, pa)).map Prod.snd).bind (·.termAt l) = pa.termAt l := by
  rcases btG_cases l' p pa with ⟨h1, e⟩ | ⟨h1, h2, e⟩ | ⟨h1, h2, ⟨h3, e⟩ | ⟨last, h3, e⟩⟩
  · rw [e]
    simp only [Option.map_none, Option.bind_none]
    unfold PackageAssignments.termAt
    have hsm : l < pa.smallest := Nat.lt_of_le_of_lt hl h1
    rw [if_neg (Nat.not_le_of_lt (Nat.lt_of_lt_of_le hsm hw.range)), pop_all_above]
    · rfl
    · intro dd hdd
      obtain ⟨f, hf1, hf2⟩ := hx.head
      have hlev := hw.levels
      cases hd : pa.dated with
      | nil => rw [hd] at hdd; cases hdd
      | cons a rest =>
        rw [hd] at hdd hf1 hlev
        simp only [List.head?_cons, Option.some.injEq] at hf1
        subst hf1
        simp only [List.map_cons, List.pairwise_cons, List.mem_map, forall_exists_index, and_imp,
          forall_apply_eq_imp_iff₂] at hlev
        rcases List.mem_cons.1 hdd with rfl | hdd
        · exact hf2 ▸ hsm
        · exact Nat.lt_of_lt_of_le (hf2 ▸ hsm) (hlev.1 dd hdd)
  · rw [e]; rfl
  · rw [e]
    simp only [Option.map_none, Option.bind_none]
    unfold PackageAssignments.termAt
    have hpp : popWhileAbove l pa.dated = popWhileAbove l (popWhileAbove l' pa.dated) :=
      (pop_pop l l' hl pa.dated).symm
    rw [if_neg (fun h => h2 (Nat.le_trans h hl)), hpp, List.getLast?_eq_none_iff.1 h3]
    rfl
  · rw [e]
    simp only [Option.map_some, Option.bind_some]
    unfold PackageAssignments.termAt
    simp only
    have hpp : popWhileAbove l pa.dated = popWhileAbove l (popWhileAbove l' pa.dated) :=
      (pop_pop l l' hl pa.dated).symm
    rw [if_neg (show ¬ pa.highest ≤ l from fun h => h2 (Nat.le_trans h hl)), hpp]
    split
    · rename_i hle
      rw [pop_of_last_le l _ last h3 hle, h3]
      rfl
    · rfl

theorem termsAt_backtrack {ps ps' : PartialSolution P S V Pr} {l l' : Nat} (h : ps.WF')
    (hr : ps.backtrack l' = .ok ps') (hl : l ≤ l') : ps'.termsAt l = ps.termsAt l := by
  funext q
  unfold termsAt
  rw [backtrack_getPA h.wf hr q]
  cases hpa : ps.getPA q with
  | none => rfl
  | some pa =>
    simp only [Option.bind_some]
    obtain ⟨i, _, hi⟩ := getElem_of_getPA hpa
    exact termAt_btG (h.wf.entries i q pa hi) (h.wfx _ (List.mem_of_getElem? hi)) q hl

theorem terms_backtrack {ps psl : PartialSolution P S V Pr} {l : Nat} (h : ps.WF')
    (hl : l ≤ ps.currentDecisionLevel) (hr : ps.backtrack l = .ok psl) : psl.terms = ps.termsAt l := by
  have hw' := (backtrack_wf' h hl hr).1
  have hlev := backtrack_level hr
  rw [← termsAt_backtrack h hr (Nat.le_refl l), termsAt_top hw'.wf (by rw [hlev])]

theorem backtrack_decided {ps ps' : PartialSolution P S V Pr} {dl : Nat} (h : ps.WF)
    (hr : ps.backtrack dl = .ok ps') {q : P} {pa' : PackageAssignments S V} {g : Nat} {v : V} {t : Term S}
    (hpa' : ps'.getPA q = some pa') (hd : pa'.inter = .decision g v t) :
    ps.getPA q = some pa' := by
  rw [backtrack_getPA h hr q] at hpa'
  cases hpa : ps.getPA q with
  | none => rw [hpa] at hpa'; cases hpa'
  | some pa =>
    rw [hpa] at hpa'
    simp only [Option.bind_some] at hpa'
    rcases btG_cases dl q pa with ⟨h1, e⟩ | ⟨h1, h2, e⟩ | ⟨h1, h2, ⟨h3, e⟩ | ⟨last, h3, e⟩⟩
    · rw [e] at hpa'; cases hpa'
    · rw [e] at hpa'
      simp only [Option.map_some, Option.some.injEq] at hpa'
      subst hpa'
      rfl
    · rw [e] at hpa'; cases hpa'
    · rw [e] at hpa'
      simp only [Option.map_some, Option.some.injEq] at hpa'
      subst hpa'
      cases hd

end PartialSolution
end PS
end Pubgrub
