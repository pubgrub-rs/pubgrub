/-
List lemmas about `after` / `runFrom` / `trace`, the invariant `Coherent` relating the pending request to
the phase of the coroutine, and what one step does to `added` and to the phase.
-/
import PubgrubProofs.StepSpec

set_option linter.unusedSectionVars false

namespace Pubgrub
open VersionSet

variable {P S V M Pr E : Type} [DecidableEq P] [VersionSet S V] [DecidableEq S] [DecidableEq V]
  [LE Pr] [DecidableLE Pr]

namespace Solver

abbrev SR (P S V M Pr E : Type) := SolverState P S V M Pr × Request P S V M Pr E

theorem after_nil (x : SR P S V M Pr E) : after x [] = x := by
  cases x; rfl

theorem after_cons (x : SR P S V M Pr E) (a : Answer P S V M Pr E) (as : List (Answer P S V M Pr E)) :
    after x (a :: as) = after (step x.1 a) as := by
  cases x; rfl

theorem runFrom_nil (x : SR P S V M Pr E) : runFrom x [] = [] := by
  cases x; rfl

theorem runFrom_cons (x : SR P S V M Pr E) (a : Answer P S V M Pr E) (as : List (Answer P S V M Pr E)) :
    runFrom x (a :: as) = (step x.1 a).2 :: runFrom (step x.1 a) as := by
  cases x; rfl

theorem after_append (x : SR P S V M Pr E) (as bs : List (Answer P S V M Pr E)) :
    after x (as ++ bs) = after (after x as) bs := by
  induction as generalizing x with
  | nil => simp [after_nil]
  | cons a as ih => simp [after_cons, ih]

theorem after_take (x : SR P S V M Pr E) (as : List (Answer P S V M Pr E)) {i j : Nat} (h : i ≤ j) :
    after x (as.take j) = after (after x (as.take i)) ((as.take j).drop i) := by
  rw [← after_append]
  conv_lhs => rw [← List.take_append_drop i (as.take j), List.take_take, Nat.min_eq_left h]

theorem after_snoc (x : SR P S V M Pr E) (as : List (Answer P S V M Pr E)) (a : Answer P S V M Pr E) :
    after x (as ++ [a]) = step (after x as).1 a := by
  rw [after_append, after_cons, after_nil]

theorem after_induction {C : SR P S V M Pr E → Prop} (hstep : ∀ x a, C x → C (step x.1 a))
    (x : SR P S V M Pr E) (hx : C x) (as : List (Answer P S V M Pr E)) : C (after x as) := by
  induction as generalizing x with
  | nil => rwa [after_nil]
  | cons a as ih => rw [after_cons]; exact ih _ (hstep x a hx)

theorem runFrom_append (x : SR P S V M Pr E) (as bs : List (Answer P S V M Pr E)) :
    runFrom x (as ++ bs) = runFrom x as ++ runFrom (after x as) bs := by
  induction as generalizing x with
  | nil => simp [after_nil, runFrom_nil]
  | cons a as ih => simp [after_cons, runFrom_cons, ih]

theorem runFrom_length (x : SR P S V M Pr E) (as : List (Answer P S V M Pr E)) :
    (runFrom x as).length = as.length := by
  induction as generalizing x with
  | nil => simp [runFrom_nil]
  | cons a as ih => simp [runFrom_cons, ih]

/-- the trace from an arbitrary point of the run -/
def traceFrom (x : SR P S V M Pr E) (as : List (Answer P S V M Pr E)) : List (Request P S V M Pr E) :=
  x.2 :: runFrom x as

theorem trace_eq (debug : Bool) (fuel : Nat) (root : P) (rv : V) (as : List (Answer P S V M Pr E)) :
    trace debug fuel root rv as = traceFrom (start debug fuel root rv) as := rfl

theorem traceFrom_length (x : SR P S V M Pr E) (as : List (Answer P S V M Pr E)) :
    (traceFrom x as).length = as.length + 1 := by
  simp [traceFrom, runFrom_length]

theorem traceFrom_getElem? (x : SR P S V M Pr E) (as : List (Answer P S V M Pr E)) (k : Nat)
    (hk : k ≤ as.length) : (traceFrom x as)[k]? = some (after x (as.take k)).2 := by
  induction as generalizing x k with
  | nil =>
    obtain rfl : k = 0 := by simpa using hk
    simp [traceFrom, after_nil]
  | cons a as ih =>
    cases k with
    | zero => simp [traceFrom, after_nil]
    | succ k => simpa [traceFrom, runFrom_cons, after_cons] using ih (step x.1 a) k (by simpa using hk)

theorem traceFrom_getElem?_eq_some (x : SR P S V M Pr E) (as : List (Answer P S V M Pr E)) (k : Nat)
    (r : Request P S V M Pr E) :
    (traceFrom x as)[k]? = some r ↔ k ≤ as.length ∧ (after x (as.take k)).2 = r := by
  by_cases hk : k ≤ as.length
  · rw [traceFrom_getElem? x as k hk]; simp [hk]
  · rw [List.getElem?_eq_none (by rw [traceFrom_length]; omega)]; simp [hk]

theorem take_succ_snoc {α : Type} (l : List α) (k : Nat) (hk : k < l.length) :
    l.take (k + 1) = l.take k ++ [l[k]] := by
  exact List.take_succ_eq_append_getElem hk

/-- the pending request fits the phase -/
def Coherent (x : SR P S V M Pr E) : Prop :=
  match x.1.phase with
  | .cancel => x.2 = .shouldCancel
  | .prioritizing cur _ _ => x.2 = .prioritize cur.1 cur.2
  | .picking _ => ∃ q, x.2 = .pick q
  | .choosing p t => ∃ set, x.2 = .chooseVersion p set ∧ t = .pos set
  | .fetching p v => x.2 = .getDependencies p v
  | .finished => x.2.isFinal = true

theorem coherent_start (debug : Bool) (fuel : Nat) (root : P) (rv : V) :
    Coherent (start (M := M) (Pr := Pr) (E := E) (S := S) debug fuel root rv) := by
  simp [Coherent, start]

theorem Coherent.phase {x : SR P S V M Pr E} (h : Coherent x) :
    match x.2 with
    | .shouldCancel => x.1.phase = .cancel
    | .chooseVersion p set => x.1.phase = .choosing p (.pos set)
    | .getDependencies p v => x.1.phase = .fetching p v
    | .prioritize .. | .pick _ => True
    | _ => x.1.phase = .finished := by
  obtain ⟨s, r⟩ := x
  simp only [Coherent] at h
  split at h
  · subst h; assumption
  · subst h; trivial
  · obtain ⟨q, rfl⟩ := h; trivial
  · obtain ⟨set, rfl, rfl⟩ := h; assumption
  · subst h; assumption
  · cases r <;> first | assumption | cases h

theorem coherent_final {x : SR P S V M Pr E} (hx : Coherent x) (h : x.2.isFinal = true) :
    x.1.phase = .finished := by
  obtain ⟨s, r⟩ := x
  have := hx.phase
  cases r <;> first | exact this | cases h

theorem StepTo.coherent {s : SolverState P S V M Pr} {a : Answer P S V M Pr E} {x : SR P S V M Pr E}
    (h : StepTo s a x) : Coherent x := by
  induction h
  case toChoose h => exact ⟨_, rfl, unwrapPositive_ok h⟩
  all_goals simp [Coherent, finish, loopAgain, Request.isFinal, *]

theorem coherent_step (s : SolverState P S V M Pr) (a : Answer P S V M Pr E) : Coherent (step s a) :=
  (step_spec s a).coherent

theorem step_finished (s : SolverState P S V M Pr) (a : Answer P S V M Pr E)
    (h : s.phase = .finished) : step s a = (s, .protocolError "already finished") := by
  -- `simp` rather than `unfold step; rw [h]`: it leaves the equations of `step`'s matcher in the
  -- environment, where every later `simp [step]` finds them instead of deriving them again
  simp only [step, h]

theorem step_cancel_error (s : SolverState P S V M Pr) (e : E)
    (h : s.phase = .cancel) : step s (.error e) = finish s (.errorInShouldCancel e) := by
  unfold step; rw [h]

theorem step_choosing_error (s : SolverState P S V M Pr) (e : E) (p : P) (t : Term S)
    (h : s.phase = .choosing p t) : step s (.error e) = finish s (.errorChoosingPackageVersion e) := by
  unfold step; rw [h]

theorem step_fetching_error (s : SolverState P S V M Pr) (e : E) (p : P) (v : V)
    (h : s.phase = .fetching p v) : step s (.error e) = finish s (.errorRetrievingDependencies p v e) := by
  unfold step; rw [h]

theorem step_choosing_out (s : SolverState P S V M Pr) (p : P) (t : Term S) (v : V)
    (h : s.phase = .choosing p t) (hv : t.contains v = false) :
    step (E := E) s (.version (some v)) =
      finish s (.failure "choose_package_version picked an incompatible version") := by
  unfold step; rw [h]; simp only [hv, Bool.not_false, if_true]

theorem StepTo.getDeps {s : SolverState P S V M Pr} {a : Answer P S V M Pr E} {x : SR P S V M Pr E}
    (h : StepTo s a x) {p : P} {v : V} (hx : x.2 = .getDependencies p v) :
    (∃ t, s.phase = .choosing p t) ∧ a = .version (some v) ∧ (p, v) ∉ s.added ∧ (p, v) ∈ x.1.added := by
  induction h
  case toFetch hph _ hn => cases hx; exact ⟨⟨_, hph⟩, rfl, by simpa using hn, by simp⟩
  all_goals cases hx

theorem StepTo.added_mono {s : SolverState P S V M Pr} {a : Answer P S V M Pr E} {x : SR P S V M Pr E}
    (h : StepTo s a x) {y : P × V} (hy : y ∈ s.added) : y ∈ x.1.added := by
  induction h
  case toFetch => exact List.mem_append_left _ hy
  all_goals exact hy

/-- phases from which no `choose_version` request can be issued without passing through `cancel` -/
def Late (x : SR P S V M Pr E) : Prop :=
  (∃ p t, x.1.phase = .choosing p t) ∨ (∃ p v, x.1.phase = .fetching p v) ∨ x.1.phase = .finished

theorem StepTo.late {s : SolverState P S V M Pr} {a : Answer P S V M Pr E} {x : SR P S V M Pr E}
    (h : StepTo s a x)
    (hl : (∃ p t, s.phase = .choosing p t) ∨ (∃ p v, s.phase = .fetching p v) ∨ s.phase = .finished) :
    x.1.phase = .cancel ∨ (∃ p v, x.1.phase = .fetching p v) ∨ x.1.phase = .finished := by
  induction h
  case finished h => exact .inr (.inr h)
  case toFetch => exact .inr (.inl ⟨_, _, rfl⟩)
  -- the leaves that go on to `prioritize`, `pick` or `choose_version` do not start from a late phase
  case nothingToPrioritize hph _ _ | firstPrioritize hph _ _ | lastPriority hph | nextPriority hph |
      toChoose hph _ _ _ => simp [hph] at hl
  all_goals first | exact .inr (.inr rfl) | exact .inl rfl

theorem coherent_run (debug : Bool) (fuel : Nat) (root : P) (rv : V) (as : List (Answer P S V M Pr E)) :
    Coherent (after (start debug fuel root rv) as) :=
  after_induction (fun _ _ _ => coherent_step _ _) _ (coherent_start debug fuel root rv) as

/-- `resolve` has returned -/
def Done (x : SR P S V M Pr E) : Prop := x.1.phase = .finished ∧ x.2.isFinal = true

theorem done_step (s : SolverState P S V M Pr) (a : Answer P S V M Pr E) (h : s.phase = .finished) :
    Done (step s a) := by
  rw [step_finished s a h]; exact ⟨h, rfl⟩

theorem done_after (x : SR P S V M Pr E) (hx : Done x) (as : List (Answer P S V M Pr E)) :
    Done (after x as) :=
  after_induction (fun _ _ h => done_step _ _ h.1) x hx as

theorem done_finish (s : SolverState P S V M Pr) (r : Request P S V M Pr E) (h : r.isFinal = true) :
    Done (finish s r) := ⟨rfl, h⟩

theorem added_mono_after (x : SR P S V M Pr E) (as : List (Answer P S V M Pr E)) (y : P × V)
    (h : y ∈ x.1.added) : y ∈ (after x as).1.added :=
  after_induction (C := fun z => y ∈ z.1.added) (fun _ _ h => (step_spec _ _).added_mono h) x h as

theorem late_run (x : SR P S V M Pr E) (hx : Late x) (l : List (Answer P S V M Pr E)) (hl : l ≠ [])
    (q : P) (t : S) (h : (after x l).2 = .chooseVersion q t) :
    ∃ m, 0 < m ∧ m < l.length ∧ (after x (l.take m)).2 = .shouldCancel := by
  induction l generalizing x with
  | nil => exact absurd rfl hl
  | cons a l ih =>
    rw [after_cons] at h
    have hst := step_spec (E := E) x.1 a
    have hco := hst.coherent
    rcases hst.late hx with hc | hf
    · -- back at the top of the loop
      have hreq : (step x.1 a).2 = .shouldCancel := by simpa only [Coherent, hc] using hco
      cases l with
      | nil => rw [after_nil, hreq] at h; cases h
      | cons b l => exact ⟨1, by omega, by simp, by simp [after_cons, after_nil, hreq]⟩
    · cases l with
      | nil =>
        -- a `choose_version` request is not pending in phase `fetching` or `finished`
        have hph := hco.phase
        rw [after_nil] at h
        simp only [h] at hph
        rcases hf with ⟨p, v, hf⟩ | hf <;> rw [hf] at hph <;> cases hph
      | cons b l =>
        obtain ⟨m, hm0, hm, hreq⟩ := ih _ (.inr hf) (by simp) h
        exact ⟨m + 1, by omega, by simpa using hm, by simpa [after_cons] using hreq⟩

end Solver
end Pubgrub
