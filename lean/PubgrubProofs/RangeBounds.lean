/-
Pure `Range` facts for `DenseTestPoints.lean` (any linear order, arbitrary segment
lists — no well-formedness):
* `BoundsIn B r`: every bound value of the segment list `r` satisfies `B`;  the results of
  `empty / full / singleton / complement / intersection / union` have their bound values among the bound
  values of the inputs;
* membership of a point in a segment list with `BoundsIn B` depends only on the comparison profile
  (`<`, `=`) of the point with the values satisfying `B`.
-/
import PubgrubProofs.RangeHom

set_option linter.unusedSectionVars false

namespace Pubgrub
namespace Range
open Pubgrub.Bound

variable {V : Type} [LinearOrder V]

/-- the value of a bound (if any) satisfies `B` -/
def bIn (B : V → Prop) : Bound V → Prop
  | .unb => True
  | .incl v => B v
  | .excl v => B v

/-- every bound value of the segment list satisfies `B` -/
def BoundsIn (B : V → Prop) (r : Range V) : Prop := ∀ seg ∈ r, bIn B seg.1 ∧ bIn B seg.2

@[simp] theorem bIn_unb (B : V → Prop) : bIn B (unb : Bound V) := trivial
@[simp] theorem bIn_incl (B : V → Prop) (v : V) : bIn B (incl v) ↔ B v := Iff.rfl
@[simp] theorem bIn_excl (B : V → Prop) (v : V) : bIn B (excl v) ↔ B v := Iff.rfl

theorem boundsIn_nil (B : V → Prop) : BoundsIn B ([] : Range V) := by
  intro seg h; cases h

theorem boundsIn_cons (B : V → Prop) (s : Seg V) (t : Range V) :
    BoundsIn B (s :: t) ↔ (bIn B s.1 ∧ bIn B s.2) ∧ BoundsIn B t :=
  List.forall_mem_cons

theorem boundsIn_append (B : V → Prop) (a b : Range V) :
    BoundsIn B (a ++ b) ↔ BoundsIn B a ∧ BoundsIn B b := by
  simp only [BoundsIn, List.mem_append]
  constructor
  · intro h; exact ⟨fun s hs => h s (Or.inl hs), fun s hs => h s (Or.inr hs)⟩
  · rintro ⟨h1, h2⟩ s (hs | hs)
    · exact h1 s hs
    · exact h2 s hs

theorem boundsIn_empty (B : V → Prop) : BoundsIn B (Range.empty : Range V) := boundsIn_nil B

theorem boundsIn_full (B : V → Prop) : BoundsIn B (Range.full : Range V) :=
  (boundsIn_cons B _ _).2 ⟨⟨trivial, trivial⟩, boundsIn_nil B⟩

theorem boundsIn_singleton (B : V → Prop) (v : V) (hv : B v) :
    BoundsIn B (Range.singleton v : Range V) :=
  (boundsIn_cons B _ _).2 ⟨⟨hv, hv⟩, boundsIn_nil B⟩

theorem bIn_flipB (B : V → Prop) (b : Bound V) : bIn B (flipB b) ↔ bIn B b := by
  cases b <;> simp [flipB]

theorem boundsIn_negateSegments (B : V → Prop) (s : Bound V) (t : Range V) (hs : bIn B s)
    (ht : BoundsIn B t) : BoundsIn B (negateSegments s t) := by
  induction t generalizing s with
  | nil =>
    cases s <;> simp_all [negateSegments, boundsIn_cons, boundsIn_nil]
  | cons x t ih =>
    obtain ⟨v1, v2⟩ := x
    rw [boundsIn_cons] at ht
    simp only [negateSegments, boundsIn_cons, bIn_flipB]
    exact ⟨⟨hs, ht.1.1⟩, ih _ ((bIn_flipB B v2).2 ht.1.2) ht.2⟩

theorem boundsIn_complement (B : V → Prop) (r : Range V) (hr : BoundsIn B r) :
    BoundsIn B (complement r) := by
  have hn := boundsIn_negateSegments B
  match r, hr with
  | [], _ => exact boundsIn_full B
  | (unb, unb) :: _, _ => exact boundsIn_empty B
  | (incl v, unb) :: _, hr =>
    exact (boundsIn_cons B _ _).2 ⟨⟨trivial, ((boundsIn_cons B _ _).1 hr).1.1⟩, boundsIn_nil B⟩
  | (excl v, unb) :: _, hr =>
    exact (boundsIn_cons B _ _).2 ⟨⟨trivial, ((boundsIn_cons B _ _).1 hr).1.1⟩, boundsIn_nil B⟩
  | (unb, incl v) :: t, hr =>
    rw [boundsIn_cons] at hr
    exact hn (excl v) t hr.1.2 hr.2
  | (unb, excl v) :: t, hr =>
    rw [boundsIn_cons] at hr
    exact hn (incl v) t hr.1.2 hr.2
  | (incl a, incl b) :: t, hr => exact hn unb _ trivial hr
  | (incl a, excl b) :: t, hr => exact hn unb _ trivial hr
  | (excl a, incl b) :: t, hr => exact hn unb _ trivial hr
  | (excl a, excl b) :: t, hr => exact hn unb _ trivial hr

theorem bIn_interStart (B : V → Prop) (a b : Bound V) (ha : bIn B a) (hb : bIn B b) :
    bIn B (interStart a b) := by
  cases a <;> cases b <;> simp only [interStart] <;> (try split_ifs) <;> assumption

theorem boundsIn_intersection (B : V → Prop) (a b : Range V) (ha : BoundsIn B a)
    (hb : BoundsIn B b) : BoundsIn B (intersection a b) := by
  fun_induction intersection a b with
  | case1 ls le l rs re r h1 h2 ih =>
    rw [boundsIn_cons] at ha hb ⊢
    exact ⟨⟨bIn_interStart B _ _ ha.1.1 hb.1.1, ha.1.2⟩, ih ha.2 ((boundsIn_cons B _ _).2 hb)⟩
  | case2 ls le l rs re r h1 h2 ih =>
    rw [boundsIn_cons] at ha
    exact ih ha.2 hb
  | case3 ls le l rs re r h1 h2 ih =>
    rw [boundsIn_cons] at ha hb ⊢
    exact ⟨⟨bIn_interStart B _ _ ha.1.1 hb.1.1, hb.1.2⟩, ih ((boundsIn_cons B _ _).2 ha) hb.2⟩
  | case4 ls le l rs re r h1 h2 ih =>
    rw [boundsIn_cons] at hb
    exact ih ha hb.2
  | case5 b => exact boundsIn_nil B
  | case6 a => exact boundsIn_nil B

theorem bIn_unionEnd (B : V → Prop) (a b : Bound V) (ha : bIn B a) (hb : bIn B b) :
    bIn B (unionEnd a b) := by
  cases a <;> cases b <;> simp only [unionEnd] <;> (try split_ifs) <;> assumption

/-- the accumulator of the union sweep has its bound values in `B` -/
def accIn (B : V → Prop) (acc : Option (Seg V)) : Prop :=
  ∀ a, acc = some a → bIn B a.1 ∧ bIn B a.2

theorem unionAccum_in (B : V → Prop) (acc : Option (Seg V)) (s : Seg V) (hacc : accIn B acc)
    (hs : bIn B s.1 ∧ bIn B s.2) :
    BoundsIn B (unionAccum acc s).1 ∧ accIn B (some (unionAccum acc s).2) := by
  cases acc with
  | none =>
    refine ⟨boundsIn_nil B, ?_⟩
    intro a ha; cases ha; exact hs
  | some a =>
    have ha := hacc a rfl
    simp only [unionAccum]
    split_ifs
    · refine ⟨by simp [boundsIn_cons, boundsIn_nil, ha], ?_⟩
      intro a' ha'; cases ha'; exact hs
    · refine ⟨boundsIn_nil B, ?_⟩
      intro a' ha'; cases ha'
      exact ⟨ha.1, bIn_unionEnd B _ _ ha.2 hs.2⟩

theorem boundsIn_unionGo (B : V → Prop) (acc : Option (Seg V)) (a b : Range V)
    (hacc : accIn B acc) (ha : BoundsIn B a) (hb : BoundsIn B b) :
    BoundsIn B (unionGo acc a b) := by
  fun_induction unionGo acc a b with
  | case1 acc l ls r rs h ih =>
    rw [boundsIn_cons] at ha
    obtain ⟨h1, h2⟩ := unionAccum_in B acc l hacc ha.1
    exact (boundsIn_append B _ _).2 ⟨h1, ih h2 ha.2 hb⟩
  | case2 acc l ls r rs h ih =>
    rw [boundsIn_cons] at hb
    obtain ⟨h1, h2⟩ := unionAccum_in B acc r hacc hb.1
    exact (boundsIn_append B _ _).2 ⟨h1, ih h2 ha hb.2⟩
  | case3 acc l ls ih =>
    rw [boundsIn_cons] at ha
    obtain ⟨h1, h2⟩ := unionAccum_in B acc l hacc ha.1
    exact (boundsIn_append B _ _).2 ⟨h1, ih h2 ha.2 hb⟩
  | case4 acc r rs ih =>
    rw [boundsIn_cons] at hb
    obtain ⟨h1, h2⟩ := unionAccum_in B acc r hacc hb.1
    exact (boundsIn_append B _ _).2 ⟨h1, ih h2 ha hb.2⟩
  | case5 a =>
    have := hacc a rfl
    simp [boundsIn_cons, boundsIn_nil, this]
  | case6 => exact boundsIn_nil B

theorem boundsIn_union (B : V → Prop) (a b : Range V) (ha : BoundsIn B a) (hb : BoundsIn B b) :
    BoundsIn B (union a b) :=
  boundsIn_unionGo B none a b (by intro a h; cases h) ha hb

def bvals : Bound V → List V
  | .unb => []
  | .incl v => [v]
  | .excl v => [v]

def boundVals (r : Range V) : List V := r.flatMap fun seg => bvals seg.1 ++ bvals seg.2

theorem bIn_mapBound {V' : Type} [LinearOrder V'] (ι : V → V') (B : V' → Prop) (b : Bound V)
    (h : ∀ v ∈ bvals b, B (ι v)) : bIn B (mapBound ι b) := by
  cases b <;> simp_all [bvals]

theorem boundsIn_mapR {V' : Type} [LinearOrder V'] (ι : V → V') (B : V' → Prop) (r : Range V)
    (h : ∀ v ∈ boundVals r, B (ι v)) : BoundsIn B (mapR ι r) := by
  intro seg hseg
  simp only [mapR, List.mem_map] at hseg
  obtain ⟨s, hs, rfl⟩ := hseg
  constructor
  · apply bIn_mapBound
    intro v hv
    exact h v (List.mem_flatMap.2 ⟨s, hs, List.mem_append_left _ hv⟩)
  · apply bIn_mapBound
    intro v hv
    exact h v (List.mem_flatMap.2 ⟨s, hs, List.mem_append_right _ hv⟩)

/-- `d` and `d'` compare in the same way with every value satisfying `B` -/
def SameProfile (B : V → Prop) (d d' : V) : Prop :=
  ∀ b, B b → (d < b ↔ d' < b) ∧ (d = b ↔ d' = b)

theorem SameProfile.le {B : V → Prop} {d d' : V} (h : SameProfile B d d') (b : V) (hb : B b) :
    d ≤ b ↔ d' ≤ b := by
  obtain ⟨h1, h2⟩ := h b hb
  rw [le_iff_lt_or_eq, le_iff_lt_or_eq, h1, h2]

def belowLower (v : V) : Bound V → Bool
  | excl s => v ≤ s
  | incl s => v < s
  | unb => false

def belowUpper (v : V) : Bound V → Bool
  | unb => true
  | incl e => v ≤ e
  | excl e => v < e

theorem withinBounds_eq (v : V) (seg : Seg V) :
    withinBounds v seg =
      if belowLower v seg.1 then .lt else if belowUpper v seg.2 then .eq else .gt := by
  obtain ⟨s, e⟩ := seg
  cases s <;> cases e <;> rfl

theorem belowLower_profile (B : V → Prop) (d d' : V) (h : SameProfile B d d') (s : Bound V)
    (hs : bIn B s) : belowLower d s = belowLower d' s := by
  cases s with
  | unb => rfl
  | incl v => simp only [belowLower, (h v hs).1]
  | excl v => simp only [belowLower, h.le v hs]

theorem belowUpper_profile (B : V → Prop) (d d' : V) (h : SameProfile B d d') (s : Bound V)
    (hs : bIn B s) : belowUpper d s = belowUpper d' s := by
  cases s with
  | unb => rfl
  | incl v => simp only [belowUpper, h.le v hs]
  | excl v => simp only [belowUpper, (h v hs).1]

theorem withinBounds_profile (B : V → Prop) (d d' : V) (h : SameProfile B d d') (seg : Seg V)
    (hs : bIn B seg.1 ∧ bIn B seg.2) : withinBounds d seg = withinBounds d' seg := by
  rw [withinBounds_eq, withinBounds_eq, belowLower_profile B d d' h _ hs.1,
    belowUpper_profile B d d' h _ hs.2]

theorem contains_profile (B : V → Prop) (d d' : V) (h : SameProfile B d d') (r : Range V)
    (hr : BoundsIn B r) : contains r d = contains r d' := by
  induction r with
  | nil => rfl
  | cons s t ih =>
    rw [boundsIn_cons] at hr
    simp only [contains, List.any_cons] at ih ⊢
    rw [ih hr.2, withinBounds_profile B d d' h s hr.1]

end Range
end Pubgrub
