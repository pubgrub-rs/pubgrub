/-
The chain invariant of the dated derivations (each accumulated term is the intersection of the
previous one with the negated cause term) and its preservation by the operations of the partial
solution.  Property C04 rests on it.
-/
import PubgrubProofs.SatDefs
import PubgrubProofs.PSInvariant

set_option linter.unusedSectionVars false

namespace Pubgrub
open VersionSet

section Chain
variable {P S V M Pr : Type} [DecidableEq P] [VersionSet S V] [DecidableEq S]
  [LawfulVersionSet S V]

/-- one link of the chain: `dd` was made from the previous accumulated term `prev` (if any) and the
term of its cause for the package -/
def DDChainLink (store : List (Incompat P S V M)) (p : P) (prev : Option (Term S))
    (dd : DatedDerivation S) : Prop :=
  ∃ inc t, store[dd.cause]? = some inc ∧ inc.get p = some t ∧
    dd.accumulated = (match prev with
      | none => t.negate
      | some a => a.intersection t.negate)

/-- the dated derivations of a package form a chain -/
def DDChainFrom (store : List (Incompat P S V M)) (p : P) :
    Option (Term S) → List (DatedDerivation S) → Prop
  | _, [] => True
  | prev, dd :: rest => DDChainLink store p prev dd ∧ DDChainFrom store p (some dd.accumulated) rest

/-- the accumulated term the next derivation starts from -/
def ddLastAcc (prev : Option (Term S)) (l : List (DatedDerivation S)) : Option (Term S) :=
  match l.getLast? with
  | some dd => some dd.accumulated
  | none => prev

theorem ddLastAcc_cons (prev : Option (Term S)) (dd : DatedDerivation S) (l : List (DatedDerivation S)) :
    ddLastAcc prev (dd :: l) = ddLastAcc (some dd.accumulated) l := by
  unfold ddLastAcc
  cases l with
  | nil => simp
  | cons b l =>
    rw [List.getLast?_cons_cons]
    cases h : (b :: l).getLast? with
    | none => simp at h
    | some x => rfl

theorem ddChainFrom_append (store : List (Incompat P S V M)) (p : P) :
    ∀ (l l2 : List (DatedDerivation S)) (prev : Option (Term S)),
    DDChainFrom store p prev (l ++ l2) ↔ DDChainFrom store p prev l ∧ DDChainFrom store p (ddLastAcc prev l) l2 := by
  intro l
  induction l with
  | nil => intro l2 prev; simp [DDChainFrom, ddLastAcc]
  | cons dd l ih =>
    intro l2 prev
    simp only [List.cons_append, DDChainFrom, ih, ddLastAcc_cons, and_assoc]

theorem DDChainLink.mono {store store' : List (Incompat P S V M)}
    (hm : ∀ (j : Nat) x, store[j]? = some x → store'[j]? = some x) {p : P} {prev : Option (Term S)}
    {dd : DatedDerivation S} (h : DDChainLink store p prev dd) : DDChainLink store' p prev dd := by
  obtain ⟨inc, t, h1, h2, h3⟩ := h
  exact ⟨inc, t, hm _ _ h1, h2, h3⟩

theorem DDChainFrom.mono {store store' : List (Incompat P S V M)}
    (hm : ∀ (j : Nat) x, store[j]? = some x → store'[j]? = some x) {p : P} :
    ∀ {l : List (DatedDerivation S)} {prev : Option (Term S)},
    DDChainFrom store p prev l → DDChainFrom store' p prev l := by
  intro l
  induction l with
  | nil => intro _ _; trivial
  | cons dd l ih => intro prev h; exact ⟨h.1.mono hm, ih h.2⟩

/-- the chain invariant of one entry of `package_assignments` -/
structure PADDChain (store : List (Incompat P S V M)) (p : P) (pa : PackageAssignments S V) : Prop where
  chain : DDChainFrom store p none pa.dated
  /-- the current term of an undecided package is the last accumulated term -/
  cur : ∀ t0, pa.inter = .derivations t0 → ∃ l, pa.dated.getLast? = some l ∧ l.accumulated = t0
  /-- a package is only decided when its term is positive -/
  dec : ∀ g v t, pa.inter = .decision g v t →
    ∃ l, pa.dated.getLast? = some l ∧ l.accumulated.isPositive = true

theorem PADDChain.mono {store store' : List (Incompat P S V M)}
    (hm : ∀ (j : Nat) x, store[j]? = some x → store'[j]? = some x) {p : P} {pa : PackageAssignments S V}
    (h : PADDChain store p pa) : PADDChain store' p pa :=
  ⟨h.chain.mono hm, h.cur, h.dec⟩

def DDChainA (store : List (Incompat P S V M)) (asg : List (P × PackageAssignments S V)) : Prop :=
  ∀ kv ∈ asg, PADDChain store kv.1 kv.2

def State.DDChainInv (st : State P S V M Pr) : Prop := DDChainA st.store st.ps.assignments

theorem DDChainA.mono {store store' : List (Incompat P S V M)}
    (hm : ∀ (j : Nat) x, store[j]? = some x → store'[j]? = some x) {asg : List (P × PackageAssignments S V)}
    (h : DDChainA store asg) : DDChainA store' asg :=
  fun kv hkv => (h kv hkv).mono hm

namespace PartialSolution

theorem addDerivation_ddchain {ps ps' : PartialSolution P S V Pr} {p : P} {cause : Nat}
    {store : List (Incompat P S V M)} (h : DDChainA store ps.assignments)
    (hr : ps.addDerivation p cause store = .ok ps') : DDChainA store ps'.assignments := by
  obtain ⟨inc, t, hinc, ht, hc⟩ := addDerivation_spec hr
  rcases hc with ⟨idx, pa, t0, hidx, hpa, ht0, rfl⟩ | ⟨hnone, rfl⟩
  · intro kv hkv
    simp only at hkv
    rcases List.mem_or_eq_of_mem_set hkv with hkv | rfl
    · exact h kv hkv
    · have hold := h (p, pa) (SmallMap.mem_of_get hpa)
      obtain ⟨l, hl, hla⟩ := hold.cur t0 ht0
      refine ⟨?_, ?_, ?_⟩
      · simp only
        rw [ddChainFrom_append]
        refine ⟨hold.chain, ?_, trivial⟩
        refine ⟨inc, t, hinc, ht, ?_⟩
        simp only [ddLastAcc, hl, hla]
      · intro t1 ht1
        simp only [AssignInter.derivations.injEq] at ht1
        subst ht1
        exact ⟨_, List.getLast?_concat, rfl⟩
      · intro g v t1 ht1
        simp at ht1
  · intro kv hkv
    simp only [List.mem_append, List.mem_singleton] at hkv
    rcases hkv with hkv | rfl
    · exact h kv hkv
    · refine ⟨?_, ?_, ?_⟩
      · exact ⟨⟨inc, t, hinc, ht, rfl⟩, trivial⟩
      · intro t1 ht1
        simp only [AssignInter.derivations.injEq] at ht1
        subst ht1
        exact ⟨_, List.getLast?_singleton, rfl⟩
      · intro g v t1 ht1
        simp at ht1

theorem backtrack_ddchain {ps ps' : PartialSolution P S V Pr} {dl : Nat}
    {store : List (Incompat P S V M)} (h : DDChainA store ps.assignments)
    (hr : ps.backtrack dl = .ok ps') : DDChainA store ps'.assignments := by
  unfold backtrack at hr
  simp only [bind, Except.bind, pure, Except.pure] at hr
  split at hr
  · cases hr
  rename_i asg hasg
  injection hr with hr; subst hr
  intro kv hkv
  obtain ⟨x, hx, hfx⟩ := filterMapM_ok_mem _ _ _ hasg kv hkv
  obtain ⟨p, pa⟩ := x
  have hpa := h _ hx
  simp only at hfx
  split at hfx
  · cases hfx
  split at hfx
  · injection hfx with hfx; injection hfx with hfx; subst hfx; exact hpa
  split at hfx
  · cases hfx
  rename_i last hlast
  injection hfx with hfx; injection hfx with hfx; subst hfx
  obtain ⟨suf, hsuf⟩ := popWhileAbove_prefix dl pa.dated
  refine ⟨?_, ?_, ?_⟩
  · have := hpa.chain
    rw [hsuf, ddChainFrom_append] at this
    exact this.1
  · intro t1 ht1
    simp only [AssignInter.derivations.injEq] at ht1
    exact ⟨last, unwrapOr_ok hlast, ht1⟩
  · intro g v t1 ht1
    simp at ht1

theorem addDecision_ddchain {ps ps' : PartialSolution P S V Pr} {debug : Bool} {p : P} {v : V}
    {store : List (Incompat P S V M)} (hw : ps.WF) (h : DDChainA store ps.assignments)
    (hpos : ∃ pa s, ps.getPA p = some pa ∧ pa.inter = .derivations (.pos s))
    (hr : addDecision debug ps p v = .ok ps') : DDChainA store ps'.assignments := by
  obtain ⟨pa, s, hpa, hinter⟩ := hpos
  obtain ⟨oldIdx, hold, _, _, _, _, _, _, hk⟩ := addDecision_spec hw hr hpa hinter
  intro kv hkv
  obtain ⟨k, hkk⟩ := List.getElem?_of_mem hkv
  rw [hk k] at hkk
  split at hkk
  · injection hkk with hkk; subst hkk
    have hpc := h (p, pa) (SmallMap.mem_of_get hpa)
    obtain ⟨l, hl, hla⟩ := hpc.cur _ hinter
    refine ⟨hpc.chain, ?_, ?_⟩
    · intro t0 ht0; simp [PackageAssignments.decide] at ht0
    · intro g w t1 _
      exact ⟨l, hl, by rw [hla]; rfl⟩
  · split at hkk
    · exact h kv (List.mem_of_getElem? hkk)
    · exact h kv (List.mem_of_getElem? hkk)

end PartialSolution

theorem State.DDChainInv.of_prefix {st st' : State P S V M Pr} (h : st.DDChainInv)
    (hm : ∀ (j : Nat) x, st.store[j]? = some x → st'.store[j]? = some x) (hps : st'.ps = st.ps) :
    st'.DDChainInv := by
  unfold State.DDChainInv
  rw [hps]
  exact DDChainA.mono hm h

theorem Term.c04_isPositive_intersection_left (a b : Term S) (ha : a.isPositive = true) :
    (a.intersection b).isPositive = true := by
  cases a <;> cases b <;> simp_all [Term.intersection, Term.isPositive]

theorem Term.c04_isPositive_intersection_neg (a b : Term S) (ha : a.isPositive = false)
    (hb : b.isPositive = false) : (a.intersection b).isPositive = false := by
  cases a <;> cases b <;> simp_all [Term.intersection, Term.isPositive]

theorem c04_exists_first {α : Type} (q : α → Bool) :
    ∀ (l : List α), (∃ x ∈ l, q x = true) →
      ∃ pre x suf, l = pre ++ x :: suf ∧ q x = true ∧ ∀ e ∈ pre, q e = false := by
  intro l
  induction l with
  | nil => intro ⟨x, hx, _⟩; simp at hx
  | cons a l ih =>
    intro ⟨x, hx, hq⟩
    cases ha : q a with
    | true => exact ⟨[], a, l, rfl, ha, by simp⟩
    | false =>
      rcases List.mem_cons.1 hx with rfl | hx
      · rw [ha] at hq; cases hq
      · obtain ⟨pre, y, suf, e, hy, hpre⟩ := ih ⟨x, hx, hq⟩
        refine ⟨a :: pre, y, suf, by rw [e]; rfl, hy, ?_⟩
        intro e' he'
        rcases List.mem_cons.1 he' with rfl | he'
        · exact ha
        · exact hpre e' he'

theorem ddchain_firstPos (store : List (Incompat P S V M)) (p : P) :
    ∀ (pre : List (DatedDerivation S)) (prev : Option (Term S)) (dd : DatedDerivation S)
      (suf : List (DatedDerivation S)),
    DDChainFrom store p prev (pre ++ dd :: suf) → (∀ a, prev = some a → a.isPositive = false) →
    (∀ e ∈ pre, e.accumulated.isPositive = false) → dd.accumulated.isPositive = true →
    ∃ inc u, store[dd.cause]? = some inc ∧ inc.get p = some (.neg u) := by
  intro pre
  induction pre with
  | nil =>
    intro prev dd suf h hprev _ hdd
    obtain ⟨⟨inc, t, h1, h2, h3⟩, _⟩ := h
    cases t with
    | neg u => exact ⟨inc, u, h1, h2⟩
    | pos s =>
      exfalso
      cases prev with
      | none => simp only at h3; rw [h3] at hdd; simp [Term.negate, Term.isPositive] at hdd
      | some a =>
        simp only at h3
        rw [h3, Term.c04_isPositive_intersection_neg a _ (hprev a rfl) (by simp [Term.negate, Term.isPositive])] at hdd
        cases hdd
  | cons e pre ih =>
    intro prev dd suf h hprev hpre hdd
    refine ih (some e.accumulated) dd suf h.2 ?_ (fun e' he' => hpre e' (List.mem_cons_of_mem _ he')) hdd
    intro a ha
    injection ha with ha; subst ha
    exact hpre e List.mem_cons_self

theorem ddchain_pos_all (store : List (Incompat P S V M)) (p : P) :
    ∀ (l : List (DatedDerivation S)) (a : Term S), DDChainFrom store p (some a) l →
      a.isPositive = true → ∀ e ∈ l, e.accumulated.isPositive = true := by
  intro l
  induction l with
  | nil => intro a _ _ e he; simp at he
  | cons dd l ih =>
    intro a h ha e he
    obtain ⟨⟨inc, t, h1, h2, h3⟩, hrest⟩ := h
    simp only at h3
    have hdd : dd.accumulated.isPositive = true := by
      rw [h3]; exact Term.c04_isPositive_intersection_left _ _ ha
    rcases List.mem_cons.1 he with rfl | he
    · exact hdd
    · exact ih _ hrest hdd e he

theorem ddchain_pos_pairwise (store : List (Incompat P S V M)) (p : P) :
    ∀ (l : List (DatedDerivation S)) (prev : Option (Term S)), DDChainFrom store p prev l →
      l.Pairwise (fun a b => a.accumulated.isPositive = true → b.accumulated.isPositive = true) := by
  intro l
  induction l with
  | nil => intro _ _; exact List.Pairwise.nil
  | cons dd l ih =>
    intro prev h
    exact List.pairwise_cons.2 ⟨fun b hb ha => ddchain_pos_all store p l _ h.2 ha b hb, ih _ h.2⟩

theorem ddchain_shrink_all (store : List (Incompat P S V M)) (p : P)
    (hv : ∀ (id : Nat) inc t, store[id]? = some inc → inc.get p = some t → t.Valid) :
    ∀ (l : List (DatedDerivation S)) (a : Term S), DDChainFrom store p (some a) l → a.Valid →
      (∀ e ∈ l, e.accumulated.Valid) →
      ∀ e ∈ l, ∀ v : V, e.accumulated.contains v = true → a.contains v = true := by
  intro l
  induction l with
  | nil => intro a _ _ _ e he; simp at he
  | cons dd l ih =>
    intro a h ha hval e he v hev
    obtain ⟨⟨inc, t, h1, h2, h3⟩, hrest⟩ := h
    simp only at h3
    have hdd : dd.accumulated.contains v = true → a.contains v = true := by
      intro hc
      rw [h3, Term.contains_eq_eval, Term.eval_intersection _ _ ha (Term.valid_negate _ (hv _ _ _ h1 h2)),
        Bool.and_eq_true] at hc
      rw [Term.contains_eq_eval]; exact hc.1
    rcases List.mem_cons.1 he with rfl | he
    · exact hdd hev
    · exact hdd (ih _ hrest (hval dd List.mem_cons_self)
        (fun e' he' => hval e' (List.mem_cons_of_mem _ he')) e he v hev)

theorem ddchain_shrink_pairwise (store : List (Incompat P S V M)) (p : P)
    (hv : ∀ (id : Nat) inc t, store[id]? = some inc → inc.get p = some t → t.Valid) :
    ∀ (l : List (DatedDerivation S)) (prev : Option (Term S)), DDChainFrom store p prev l →
      (∀ e ∈ l, e.accumulated.Valid) →
      l.Pairwise (fun a b => ∀ v : V, b.accumulated.contains v = true → a.accumulated.contains v = true) := by
  intro l
  induction l with
  | nil => intro _ _ _; exact List.Pairwise.nil
  | cons dd l ih =>
    intro prev h hval
    refine List.pairwise_cons.2 ⟨?_, ih _ h.2 (fun e' he' => hval e' (List.mem_cons_of_mem _ he'))⟩
    intro b hb v hbv
    exact ddchain_shrink_all store p hv l _ h.2 (hval dd List.mem_cons_self)
      (fun e' he' => hval e' (List.mem_cons_of_mem _ he')) b hb v hbv

theorem c04_termBefore_cases {pa : PackageAssignments S V} {g : Nat} {t : Term S}
    (h : pa.termBefore g = some t) :
    (∃ gd v, pa.inter = .decision gd v t ∧ gd < g) ∨
    (∃ dd ∈ pa.dated, dd.globalIndex < g ∧ dd.accumulated = t) := by
  have hd : ((pa.dated.filter fun dd => dd.globalIndex < g).getLast?).map (·.accumulated) = some t →
      ∃ dd ∈ pa.dated, dd.globalIndex < g ∧ dd.accumulated = t := by
    intro hm
    rw [Option.map_eq_some_iff] at hm
    obtain ⟨dd, hdd, hacc⟩ := hm
    have := List.mem_of_getLast? hdd
    rw [List.mem_filter] at this
    exact ⟨dd, this.1, by simpa using this.2, hacc⟩
  unfold PackageAssignments.termBefore at h
  simp only at h
  split at h
  · rename_i gd v t' hint
    split at h
    · rename_i hlt
      injection h with h; subst h
      exact Or.inl ⟨gd, v, hint, hlt⟩
    · exact Or.inr (hd h)
  · exact Or.inr (hd h)

theorem c04_indices_split {l pre suf : List (DatedDerivation S)} {x : DatedDerivation S}
    (h : (l.map (·.globalIndex)).Pairwise (· < ·)) (e : l = pre ++ x :: suf) :
    (∀ a ∈ pre, a.globalIndex < x.globalIndex) ∧ (∀ a ∈ suf, x.globalIndex < a.globalIndex) := by
  subst e
  rw [List.pairwise_map, List.pairwise_append, List.pairwise_cons] at h
  exact ⟨fun a ha => h.2.2 a ha x List.mem_cons_self, fun a ha => h.2.1.1 a ha⟩

end Chain
end Pubgrub
