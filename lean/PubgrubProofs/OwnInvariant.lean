/-
Property C01: a returned solution satisfies every dependency of every selected version
(`solution_valid`).

* The syntactic form of Inv-Own (`State.OwnInv`, phrased with `relation … = .contradicted _`) is
  false for an abstract `LawfulVersionSet`: see
  `Cex.stable_invariants_counterexample` in `PubgrubProofs/OwnInvariantCex.lean` (a lawful set type
  with non-canonical equality; `relation_with` answers `Satisfied` for a member-free term before it
  looks at disjointness, so `.contradicted` is not stable under shrinking of the terms).
  `stable_invariants_sem` states Inv-Own, cache soundness and index completeness with the semantic notion
  `Incompat.SContra` ("some term of the clause is disjoint, as a set of choices, from the term the
  partial solution holds for its package") — `State.OwnInvSem`, `State.CacheSoundSem`
  (`OwnSemantics.lean`), `State.IndexComplete`.

Structure of the proof:
  `OwnSemantics`    semantic notions and their monotonicity; the term of a package at a lower level;
  `OwnTermsAt`      `termsAt` under `addDerivation` / `addDecision` / `backtrack`;
  `OwnBundle`       the bundle `Sem` (store invariant, I-PS, Inv-Own with waived obligations, cache, root
                    clause, index bound), a generic transport lemma, cache insertion and derivation;
  `OwnTransport`    backtrack, decision, growth of store and index; owned clauses of decided packages are
                    never `Inconclusive`;
  `OwnMerge`        `mergeIncompatibility`: bundle and index completeness (with a window of unmerged ids);
  `OwnPropagation`  `propagateIncompats`, `conflictResolution`, `unitPropagationLoop`: the clauses of the
                    package for which `unitPropagation` is called are examined first, which discharges the
                    waived obligations;
  `OwnAddIncompat`  `addIncompatibility`, `addIncompatibilityFromDependencies`;
  `OwnStep`         the first propagation; the run-level invariant `JInv` and its preservation by
                    `Solver.step`.
-/
import PubgrubProofs.OwnDefs
import PubgrubProofs.PSInvariant
import PubgrubProofs.OwnStep
import PubgrubProofs.OwnInvariantCex

set_option linter.unusedSectionVars false

namespace Pubgrub
open VersionSet

variable {P S V M Pr E : Type} [DecidableEq P] [VersionSet S V] [DecidableEq S] [DecidableEq V]
  [LE Pr] [DecidableLE Pr] [LawfulVersionSet S V]

theorem reachable_jinv (W : World P S V M) (hW : W.SetsValid) (debug : Bool) (fuel : Nat)
    (root : P) (rv : V) (x : SolverState P S V M Pr × Request P S V M Pr E)
    (h : Reachable W debug fuel root rv x) : JInv W debug fuel root rv x := by
  induction h with
  | start => exact Or.inl rfl
  | step hreach ha ih =>
    exact jinv_step W hW debug fuel root rv _ _ _ (reachable_rinv W hW debug fuel root rv _ hreach)
      (reachable_rinv' W hW debug fuel root rv _ hreach) ih ha

theorem stable_jmain (W : World P S V M) (hW : W.SetsValid) (debug : Bool) (fuel : Nat)
    (root : P) (rv : V) (s : SolverState P S V M Pr) (req : Request P S V M Pr E)
    (h : Reachable W debug fuel root rv (s, req))
    (hstable : (∃ q, req = .pick q) ∨ (∃ sel, req = .solution sel)) :
    JMain W root rv s ∧ s.st.DDChainInv ∧ s.phase ≠ .cancel := by
  have hc := reachable_coherent W debug fuel root rv _ h
  have hnc : s.phase ≠ .cancel := by
    intro hph
    unfold Solver.Coherent at hc
    simp only [hph] at hc
    rcases hstable with ⟨q, rfl⟩ | ⟨sel, rfl⟩ <;> cases hc
  suffices hm : JMain W root rv s ∧ s.st.DDChainInv from ⟨hm.1, hm.2, hnc⟩
  rcases reachable_jinv W hW debug fuel root rv _ h with hj | ⟨hph, hns⟩ | hj
  · exfalso
    rcases hstable with ⟨q, rfl⟩ | ⟨sel, rfl⟩ <;> simp [Solver.start] at hj
  · exfalso
    rcases hstable with ⟨q, rfl⟩ | ⟨sel, rfl⟩
    · unfold Solver.Coherent at hc
      simp only at hph
      simp only [hph] at hc
      cases hc
    · exact hns sel rfl
  · exact hj

theorem State.ownInvSem_of_ownSemG {st : State P S V M Pr} (hw : st.ps.WF') (h : st.OwnSemG noWaive) :
    st.OwnInvSem := by
  intro i p pa hi hlt l hl1 hl2 psl hb id hid inc hinc ho
  obtain ⟨g, v, e1, e2, _⟩ := (hw.wf.entries i p pa hi).decided hlt
  rw [PartialSolution.terms_backtrack hw hl2 hb]
  exact h p pa g v _ (PartialSolution.getPA_of_getElem hw.wf hi) e1 l (by omega) hl2 id hid inc hinc ho
    (fun _ hf => hf)

theorem State.cacheSoundSem_of_cacheSem {st : State P S V M Pr} (hp : PInv st) (h : st.CacheSem) :
    st.CacheSoundSem := by
  intro id l hm
  obtain ⟨hl, hc⟩ := h id l hm
  refine ⟨hl, hp.cache _ hm, ?_⟩
  intro psl hb inc hinc
  rw [PartialSolution.terms_backtrack hp.wf hl hb]
  exact hc inc hinc l (Nat.le_refl _) hl

/-- the semantic counterpart of the syntactic stable invariants (`State.OwnInv`, `State.CacheSound`):
whenever the solver is about to pop the queue or has just returned a solution, Inv-Own, cache soundness (both with "excluded" =
`Incompat.SContra` in place of `relation … = .contradicted _`) and index completeness hold -/
theorem stable_invariants_sem (W : World P S V M) (hW : W.SetsValid) (debug : Bool) (fuel : Nat)
    (root : P) (rv : V) (s : SolverState P S V M Pr) (req : Request P S V M Pr E)
    (h : Reachable W debug fuel root rv (s, req))
    (hstable : (∃ q, req = .pick q) ∨ (∃ sel, req = .solution sel)) :
    s.st.OwnInvSem ∧ s.st.CacheSoundSem ∧ s.st.IndexComplete := by
  obtain ⟨hj, _, hnc⟩ := stable_jmain W hW debug fuel root rv s req h hstable
  have hsem := Sem.reWaive W root rv hj.sem (waive' := noWaive) (fun _ _ _ hw => absurd hw.1 hnc)
  exact ⟨State.ownInvSem_of_ownSemG hsem.pinv.wf hsem.own,
    State.cacheSoundSem_of_cacheSem hsem.pinv hsem.cache, hj.ic⟩

theorem reachable_of_wb (W : World P S V M) (debug : Bool) (fuel : Nat)
    (root : P) (rv : V) (x : SolverState P S V M Pr × Request P S V M Pr E)
    (h : ReachableWB W debug fuel root rv x) : Reachable W debug fuel root rv x := by
  induction h with
  | start => exact .start
  | step _ ha _ ih => exact .step ih ha

theorem PartialSolution.decided_of_disj_neg {ps : PartialSolution P S V Pr} (hw : ps.WF)
    (hno : ∀ p pa set, ps.getPA p = some pa → pa.inter ≠ .derivations (.pos set))
    {q : P} {u : S} {o : Term S} (ho : ps.terms q = some o) (hd : (Term.neg u).Disj o) :
    ∃ qa g w t, ps.getPA q = some qa ∧ qa.inter = .decision g w t ∧ contains u w = true := by
  simp only [PartialSolution.terms, PartialSolution.termIntersectionForPackage, Option.map_eq_some_iff] at ho
  obtain ⟨qa, hqa, rfl⟩ := ho
  cases hi : qa.inter with
  | decision g w t =>
    refine ⟨qa, g, w, t, hqa, hi, ?_⟩
    rw [hi, AssignInter.term, (PartialSolution.terms_of_decided hw hqa hi).2] at hd
    cases hc : contains u w with
    | true => rfl
    | false => exact absurd ⟨by simp [Term.eval, hc], (Term.eval_exact w (some w)).2 rfl⟩ (hd (some w))
  | derivations t =>
    rw [hi] at hd
    cases t with
    | pos s => exact absurd hi (hno q qa s hqa)
    | neg s => exact absurd ⟨rfl, rfl⟩ (hd none)

theorem Incompat.disj_neg_of_fromDependency {f : P → Option (Term S)} {p q : P} {s t : S} {v : V}
    (vs : LawfulVersionSet.Valid V s) (vt : LawfulVersionSet.Valid V t)
    (hp : f p = some (Term.exact v)) (hs : contains s v = true)
    (hc : (Incompat.fromDependency (M := M) p s (q, t)).SContra f) :
    ∃ o, f q = some o ∧ (Term.neg t).Disj o := by
  obtain ⟨q', tq, o, hm, hf, hd⟩ := hc
  -- a positive term on `p` that holds `v` is not the excluded one
  have hpos : ∀ u : S, contains u v = true → ¬ (Term.pos u).Disj (Term.exact v : Term S) :=
    fun u hu hdj => hdj (some v) ⟨hu, (Term.eval_exact v (some v)).2 rfl⟩
  unfold Incompat.fromDependency at hm
  simp only at hm
  split at hm
  · rename_i hqp
    subst hqp
    simp only [List.mem_singleton, Prod.mk.injEq] at hm
    obtain ⟨rfl, rfl⟩ := hm
    rw [hp] at hf; injection hf with hf; subst hf
    refine ⟨_, hp, fun c hc => ?_⟩
    have := (Term.eval_exact v c).1 hc.2
    subst this
    apply hpos _ _ hd
    rw [LawfulVersionSet.contains_intersection _ _ _ vs (LawfulVersionSet.valid_complement _ vt),
      LawfulVersionSet.contains_complement _ _ vt, hs]
    exact hc.1
  · split at hm
    · simp only [List.mem_singleton, Prod.mk.injEq] at hm
      obtain ⟨rfl, rfl⟩ := hm
      rw [hp] at hf; injection hf with hf; subst hf
      exact absurd hd (hpos _ hs)
    · simp only [List.mem_cons, Prod.mk.injEq, List.not_mem_nil, or_false] at hm
      rcases hm with ⟨rfl, rfl⟩ | ⟨rfl, rfl⟩
      · rw [hp] at hf; injection hf with hf; subst hf
        exact absurd hd (hpos _ hs)
      · exact ⟨o, hf, hd⟩

theorem solution_get_iff (W : World P S V M) (hW : W.SetsValid) (debug : Bool) (fuel : Nat)
    (root : P) (rv : V) (s : SolverState P S V M Pr) (sel : List (P × V))
    (hr : Reachable (E := E) W debug fuel root rv (s, .solution sel)) (p : P) (v : V) :
    SmallMap.get sel p = some v ↔ ∃ pa g t, s.st.ps.getPA p = some pa ∧ pa.inter = .decision g v t := by
  obtain ⟨_, _, hsel⟩ := solution_exit W hW debug fuel root rv s sel hr
  constructor
  · intro hg; exact (hsel p v).1 (SmallMap.mem_of_get hg)
  · intro hd
    have hm := (hsel p v).2 hd
    cases hg : SmallMap.get sel p with
    | none => exact absurd hm ((SmallMap.get_eq_none_iff sel p).1 hg v)
    | some v' =>
      obtain ⟨pa', g', t', e1, e2⟩ := (hsel p v').1 (SmallMap.mem_of_get hg)
      obtain ⟨pa, g, t, e3, e4⟩ := hd
      rw [e1] at e3; injection e3 with e3; subst e3
      rw [e2] at e4; injection e4 with _ e4 _
      rw [e4]

/-- C01: whenever `resolve` returns `Ok(solution)` (well-behaved provider: no callback errors,
`choose_version` answers inside the set it was given, answers consistent with the world), the
solution contains the root at the requested version, every selected (package, version) was offered by
the provider, was returned by `choose_version` in this run (`s.added`) and has available dependencies,
and every dependency (q, set) of every selected version — a dependency on the package itself
included — has q selected at a version contained in set -/
theorem solution_valid (W : World P S V M) (hW : W.SetsValid) (debug : Bool) (fuel : Nat)
    (root : P) (rv : V) (s : SolverState P S V M Pr) (sel : List (P × V))
    (h : ReachableWB (E := E) W debug fuel root rv (s, .solution sel)) :
    IsSolution W root rv (fun p => SmallMap.get sel p) ∧
      (∀ p v, SmallMap.get sel p = some v → (p, v) ∈ s.added) := by
  have hreach := reachable_of_wb W debug fuel root rv _ h
  obtain ⟨hw, hno, _⟩ := solution_exit W hW debug fuel root rv s sel hreach
  obtain ⟨hj, _, hnc⟩ := stable_jmain W hW debug fuel root rv s _ hreach (Or.inr ⟨sel, rfl⟩)
  have hsem := Sem.reWaive W root rv hj.sem (waive' := noWaive) (fun _ _ _ hw => absurd hw.1 hnc)
  have hfin : s.phase = .finished :=
    Solver.coherent_final (reachable_coherent W debug fuel root rv _ hreach) rfl
  have htop := PartialSolution.termsAt_top hw (Nat.le_refl _)
  have hget := solution_get_iff W hW debug fuel root rv s sel hreach
  -- the owned clauses of a decided package are excluded by the final terms
  have hown : ∀ p pa g v t, s.st.ps.getPA p = some pa → pa.inter = .decision g v t →
      ∀ id ∈ s.st.indexOf p, ∀ inc : Incompat P S V M, s.st.store[id]? = some inc → inc.OwnedBy p →
        inc.SContra s.st.ps.terms := by
    intro p pa g v t e1 e2 id hid inc hinc ho
    have := hsem.own p pa g v t e1 e2 _ (PartialSolution.highest_le hw e1) (Nat.le_refl _) id hid inc hinc ho
      (fun _ hf => hf)
    rw [htop] at this; exact this
  refine ⟨⟨?_, ?_, ?_⟩, ?_⟩
  · -- the root
    have hr := hsem.rootc.2 _ (Nat.le_refl _)
    rw [htop] at hr
    obtain ⟨q, t, o, hm, hf, hd⟩ := hr
    simp only [Incompat.notRoot, List.mem_singleton, Prod.mk.injEq] at hm
    obtain ⟨rfl, rfl⟩ := hm
    obtain ⟨qa, g, w, t, hqa, hi, hcw⟩ := PartialSolution.decided_of_disj_neg hw hno hf hd
    have : w = rv := (LawfulVersionSet.contains_singleton rv w).1 hcw
    subst this
    exact (hget q w).2 ⟨qa, g, t, hqa, hi⟩
  · -- offered
    intro p v hg
    obtain ⟨pa, g, t, e1, e2⟩ := (hget p v).1 hg
    exact hj.offered p v (hj.dec p pa g v t e1 e2)
  · -- dependencies
    intro p v hg
    obtain ⟨pa, g, t, e1, e2⟩ := (hget p v).1 hg
    have hpterm := (PartialSolution.terms_of_decided hw e1 e2).1
    have hadd := hj.dec p pa g v t e1 e2
    have hdd := hj.deps p v hadd (fun hph => by rw [hfin] at hph; cases hph)
    unfold DepsDone at hdd
    cases hdep : W.deps p v with
    | unavailable m =>
      exfalso
      rw [hdep] at hdd; simp only at hdd
      obtain ⟨id, inc, hinc, hk⟩ := hdd
      have hrep := hj.ic id inc hinc
      rw [hk] at hrep; simp only at hrep
      have hc := hown p pa g v t e1 e2 id hrep inc hinc (by unfold Incompat.OwnedBy; rw [hk])
      have kt := (hsem.sinv.store id inc hinc).kind
      unfold Incompat.KindTrue at kt
      rw [hk] at kt; simp only at kt
      obtain ⟨v', _, _, hterms⟩ := kt
      obtain ⟨q, tq, o, hm, hf, hd⟩ := hc
      rw [hterms] at hm
      simp only [List.mem_singleton, Prod.mk.injEq] at hm
      obtain ⟨rfl, rfl⟩ := hm
      rw [hpterm] at hf; injection hf with hf; subst hf
      apply hd (some v)
      refine ⟨?_, (Term.eval_exact v (some v)).2 rfl⟩
      simp only [Term.eval]
      exact (LawfulVersionSet.contains_singleton v v).2 rfl
    | available ds =>
      rw [hdep] at hdd; simp only at hdd
      refine ⟨ds, rfl, ?_⟩
      intro q tset hqd
      obtain ⟨id, inc, hinc, hk⟩ := hdd (q, tset) hqd
      simp only at hk
      have hrep := hj.ic id inc hinc
      rw [hk] at hrep; simp only at hrep
      obtain ⟨id', hid', inc', s', hinc', hk', hsub⟩ := hrep
      obtain ⟨_, vs', vt, hterms⟩ := (hsem.sinv.store id' inc' hinc').terms_of_fromDependencyOf hk'
      obtain ⟨q', tq, o, hm, hf, hd⟩ :=
        hown p pa g v t e1 e2 id' hid' inc' hinc' (by unfold Incompat.OwnedBy; rw [hk'])
      obtain ⟨o', hf', hd'⟩ := Incompat.disj_neg_of_fromDependency vs' vt hpterm
        (hsub v ((LawfulVersionSet.contains_singleton v v).2 rfl)) ⟨q', tq, o, hterms ▸ hm, hf, hd⟩
      obtain ⟨qa, g', w, t', hqa, hi, hcw⟩ := PartialSolution.decided_of_disj_neg hw hno hf' hd'
      exact ⟨w, (hget q w).2 ⟨qa, g', t', hqa, hi⟩, hcw⟩
  · intro p v hg
    obtain ⟨pa, g, t, e1, e2⟩ := (hget p v).1 hg
    exact hj.dec p pa g v t e1 e2

end Pubgrub
