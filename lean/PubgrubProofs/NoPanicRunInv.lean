/-
The run-level invariant `RInvX` behind `no_panic` and its preservation by `Solver.step`: the request
after a step is never a panic.
-/
import PubgrubProofs.TreeBuildTotal

set_option linter.unusedSectionVars false

namespace Pubgrub
open VersionSet

variable {P S V M Pr E : Type} [DecidableEq P] [VersionSet S V] [DecidableEq S] [DecidableEq V]
  [LE Pr] [DecidableLE Pr] [LawfulVersionSet S V]

/-- the run-level invariant behind `no_panic` -/
structure RInvX (x : SolverState P S V M Pr × Request P S V M Pr E) : Prop where
  live : x.1.phase ≠ .finished → XInv x.1.st
  cancel : x.1.phase = .cancel → (SmallMap.get x.1.st.incompatibilities x.1.next).isSome = true
  choosing : ∀ p t, x.1.phase = .choosing p t → x.1.st.ps.changed = x.1.st.ps.assignments.length
  fetching : ∀ p v, x.1.phase = .fetching p v → x.1.st.ps.changed = x.1.st.ps.assignments.length
  nopanic : ∀ site, x.2 ≠ .fault (.panic site)

theorem rinvX_finish (s : SolverState P S V M Pr) (r : Request P S V M Pr E)
    (hr : match r with | .fault (.panic _) => False | _ => True) : RInvX (Solver.finish s r) := by
  refine ⟨fun h => absurd rfl h, fun h => (by cases h), fun _ _ h => (by cases h), fun _ _ h => (by cases h),
    fun site h => ?_⟩
  rw [show r = _ from h] at hr
  exact hr

theorem rinvX_fault (s : SolverState P S V M Pr) {α : Type} {x : R α} {Q : α → Prop}
    (hx : NoPanic x Q) {f : Fault} (he : x = .error f) :
    RInvX (E := E) (Solver.finish s (.fault f)) := by
  rw [hx.error_eq he]
  exact rinvX_finish s _ trivial

theorem NoPanic.of_exists_ok {α : Type} {r : R α} (h : ∃ a, r = .ok a) : NoPanic r fun _ => True := by
  obtain ⟨a, rfl⟩ := h
  trivial

theorem rinvX_live {s : SolverState P S V M Pr} {r : Request P S V M Pr E} (hx : XInv s.st)
    (hr : r.isFinal = false)
    (hph : match s.phase with
      | .prioritizing .. | .picking _ => True
      | .choosing .. | .fetching .. => s.st.ps.changed = s.st.ps.assignments.length
      | _ => False) : RInvX (s, r) := by
  refine ⟨fun _ => hx, fun h' => ?_, fun p t h' => ?_, fun p v h' => ?_, fun site e => ?_⟩
  · rw [show s.phase = .cancel from h'] at hph; exact hph.elim
  · rw [show s.phase = .choosing p t from h'] at hph; exact hph
  · rw [show s.phase = .fetching p v from h'] at hph; exact hph
  · rw [show r = _ from e] at hr; cases hr

theorem rinvX_loopAgain (s : SolverState P S V M Pr) (st : State P S V M Pr) (h : XInv st)
    (hn : (SmallMap.get st.incompatibilities s.next).isSome = true) :
    RInvX (E := E) (Solver.loopAgain s st) :=
  ⟨fun _ => h, fun _ => hn, fun _ _ h' => (by cases h'), fun _ _ h' => (by cases h'),
    fun _ h' => (by cases h')⟩

theorem rinvX_start (debug : Bool) (fuel : Nat) (root : P) (rv : V) (hU : debug = true → UnionCanon S V) :
    RInvX (Solver.start (Pr := Pr) (E := E) (M := M) (S := S) debug fuel root rv) := by
  have hx : XInv (State.init (S := S) (M := M) (Pr := Pr) debug root rv) := by
    refine ⟨?_, ?_, ?_, ?_, ?_⟩
    · intro p ids hg id hid
      simp only [State.init, SmallMap.get] at hg
      split at hg
      · injection hg with hg; subst hg
        rw [List.mem_singleton] at hid; subst hid
        refine ⟨Incompat.notRoot root rv, rfl, ?_⟩
        intro kv hkv
        simp only [Incompat.notRoot, List.mem_singleton] at hkv
        subst hkv
        simp [State.init, SmallMap.get]
      · cases hg
    · intro key ids hg; simp [State.init, SmallMap.get] at hg
    · intro p pa hpa
      simp [State.init, PartialSolution.getPA, PartialSolution.empty, SmallMap.get] at hpa
    · intro p hp; simp [State.init] at hp
    · intro hd
      refine ⟨hU hd, ?_⟩
      intro inc hinc
      simp only [State.init, List.mem_singleton] at hinc
      subst hinc
      exact Incompat.noAny_notRoot root rv
  exact rinvX_loopAgain ⟨State.init debug root rv, [], root, .cancel, fuel⟩ _ hx
    (by simp [State.init, SmallMap.get])

theorem inflight_term {ps : PartialSolution P S V Pr} {p : P} {t : Term S}
    (hfl : ps.InFlightOK p) (hterm : ps.termIntersectionForPackage p = some t) :
    ∃ pa, ps.getPA p = some pa ∧ pa.inter = .derivations t := by
  obtain ⟨_, _, pa, set, hpa, hinter⟩ := hfl
  refine ⟨pa, hpa, ?_⟩
  simp only [PartialSolution.termIntersectionForPackage, hpa, Option.map_some, hinter, AssignInter.term] at hterm
  injection hterm with hterm
  rw [← hterm]; exact hinter

theorem rinvX_step (W : World P S V M) (hW : W.SetsValid) (root : P) (rv : V)
    (s : SolverState P S V M Pr) (req : Request P S V M Pr E) (a : Answer P S V M Pr E)
    (h0 : RInv W root rv (s, req)) (h1 : RInv' (s, req)) (hT : RInvT root rv (s, req))
    (h : RInvX (s, req)) (ha : AnswerOK W req a) : RInvX (Solver.step s a) := by
  have hs : SInv W root rv s.st := h0.sinv
  by_cases hlive : s.phase = .finished
  · rw [Solver.step_finished s a hlive]
    have e : s = { s with phase := .finished } := by rw [← hlive]
    rw [e]
    exact rinvX_finish s _ trivial
  obtain ⟨hp, _⟩ := h1.live hlive
  have hx := h.live hlive
  have hup := fun hph =>
    State.unitPropagation_np W root rv s.fuel s.st s.next hs hp (hT.live hlive) hx (h.cancel hph)
  have hadd := fun {inc} => State.addIncompatibility_np W root rv (inc := inc) hs hx
  have hwf : ∀ {acc}, s.phase = .picking acc → (s.st.ps.afterPrioritize acc).WF' := by
    intro acc hph
    obtain ⟨⟨L, hL, hLk⟩, _⟩ := h1.picking acc hph
    exact PartialSolution.afterPrioritize_wf' hp.wf acc
      (fun q hq' => PartialSolution.toPrioritize_sound hp.wf.wf hL q (hLk ▸ hq'))
  -- the popped package has a positive term
  have hpos : ∀ {acc p}, s.phase = .picking acc →
      Solver.isMaximal (s.st.ps.afterPrioritize acc).queue p = true →
      ∃ set, (s.st.ps.afterPrioritize acc).termIntersectionForPackage p = some (.pos set) := by
    intro acc p hph hmax
    obtain ⟨pr, hpr, _⟩ := isMaximal_spec hmax
    obtain ⟨pa, set, hpa, hinter⟩ := (hwf hph).wf.queue_sub p pr (SmallMap.mem_of_get hpr)
    have hpa' : SmallMap.get s.st.ps.assignments p = some pa := hpa
    exact ⟨set, by simp [PartialSolution.termIntersectionForPackage, PartialSolution.getPA,
      PartialSolution.afterPrioritize, hpa', hinter, AssignInter.term]⟩
  -- the package in flight has an entry in the index
  have hnext : ∀ {p t}, s.next = p → s.st.ps.InFlightOK p →
      s.st.ps.termIntersectionForPackage p = some t →
      (SmallMap.get s.st.incompatibilities s.next).isSome = true := by
    intro p t e hfl hterm
    obtain ⟨pa, hpa, _⟩ := inflight_term hfl hterm
    exact e ▸ hx.asg p pa hpa
  have hnone : ∀ {p t inc}, s.phase = .choosing p t → a = .version none →
      Incompat.noVersions (V := V) (M := M) p t = .ok inc →
      inc.Good W root rv s.st.store s.st.store.length ∧ inc.NoAny := by
    intro p t inc hph ea hinc
    subst ea
    obtain ⟨htv, set, hreq, rfl⟩ := h0.choosing _ _ hph
    obtain rfl : req = _ := hreq
    refine ⟨Incompat.noVersions_good W root rv _ _ p _ htv set rfl ha _ hinc, ?_⟩
    cases hinc
    exact Incompat.noAny_single_pos rfl
  have hdeps : ∀ {p v}, s.phase = .fetching p v → AnswerOK W (.getDependencies p v) a :=
    fun hph => h0.fetching _ _ hph ▸ ha
  have hspec := Solver.step_spec s a
  generalize Solver.step s a = x at hspec
  induction hspec with
  | finished _ hph => exact absurd hph hlive
  -- should_cancel
  | propagateFault hph hu => exact rinvX_fault s (hup hph) hu
  | @treeFault st terminal _ hph hu hb =>
    obtain ⟨_, hterm⟩ := (hup hph).of_ok hu
    obtain ⟨hs1, _⟩ := State.unitPropagation_inv W root rv hu hs
    exact rinvX_fault _ (.of_exists_ok (State.buildDerivationTree_ok st
      (TreeAux.causesBelow_of_storeInv W root rv st.store hs1.store) terminal (hterm terminal rfl))) hb
  | toPrioritizeFault hph hu hb =>
    have hp1 := (State.unitPropagationLoop_pinv _ _ hu ⟨hp.wf, hp.cache⟩).1
    exact rinvX_fault _ (.of_exists_ok (PartialSolution.toPrioritize_ok hp1.wf.wf)) hb
  | nothingToPrioritize hph hu _ | firstPrioritize hph hu _ =>
    exact rinvX_live ((hup hph).of_ok hu).1 rfl trivial
  -- prioritize
  | lastPriority | nextPriority => exact rinvX_live hx rfl trivial
  -- pop of the priority queue
  | extractFault hph _ hb =>
    obtain ⟨sel, hsel, _⟩ := PartialSolution.extractSolution_ok (hwf hph).wf
    exact rinvX_fault _ (.of_exists_ok ⟨sel, hsel⟩) hb
  | pickNoTerm hph hm ht =>
    obtain ⟨set, hterm⟩ := hpos hph hm
    rw [hterm] at ht; cases ht
  | pickFault hph hm ht hf =>
    obtain ⟨set, hterm⟩ := hpos hph hm
    rw [hterm] at ht; cases ht; cases hf
  | toChoose => exact rinvX_live ⟨hx.idx, hx.md, hx.asg, hx.buf, hx.noAny⟩ rfl rfl
  -- choose_version
  | noVersionsFault hph hinc =>
    obtain ⟨_, set, _, rfl⟩ := h0.choosing _ _ hph
    cases hinc
  | noVersionsAddFault hph hinc hb =>
    obtain ⟨g, hna⟩ := hnone hph rfl hinc
    exact rinvX_fault s (hadd g fun _ => hna) hb
  | noVersions hph hinc hb =>
    obtain ⟨g, hna⟩ := hnone hph rfl hinc
    obtain ⟨hx1, hmono, _⟩ := (hadd g fun _ => hna).of_ok hb
    obtain ⟨e, hterm, hfl⟩ := h1.choosing _ _ hph
    exact rinvX_loopAgain s _ hx1 (hmono _ (hnext e hfl hterm))
  | toFetch hph _ _ => exact rinvX_live hx rfl (h.choosing _ _ hph)
  | knownVersionFault hph hc _ hb =>
    obtain ⟨_, hterm, hfl⟩ := h1.choosing _ _ hph
    obtain ⟨pa, hpa, hinter⟩ := inflight_term hfl hterm
    exact rinvX_fault s (.of_exists_ok
      (PartialSolution.addDecision_ok hp.wf.wf hpa hinter hc (h.choosing _ _ hph) s.st.debug)) hb
  | knownVersion hph hc _ hps =>
    obtain ⟨e, hterm, hfl⟩ := h1.choosing _ _ hph
    obtain ⟨pa, hpa, hinter⟩ := inflight_term hfl hterm
    obtain ⟨hp1, _⟩ := decided_ok hp hfl hterm hc hps
    exact rinvX_loopAgain _ _ (XInv.decide hx hp.wf.wf hps hp1.wf.wf hpa hinter) (hnext e hfl hterm)
  -- get_dependencies
  | unavailableFault m hph hb =>
    exact rinvX_fault s (hadd (Incompat.customVersion_good W root rv _ _ _ _ m (hdeps hph))
      fun _ => Incompat.noAny_single_pos rfl) hb
  | unavailable m hph hb =>
    obtain ⟨e, hfl, t, hterm, _⟩ := h1.fetching _ _ hph
    obtain ⟨hx1, hmono, _⟩ := (hadd (Incompat.customVersion_good W root rv _ _ _ _ m (hdeps hph))
      fun _ => Incompat.noAny_single_pos rfl).of_ok hb
    exact rinvX_loopAgain s _ hx1 (hmono _ (hnext e hfl hterm))
  | depsFault deps hph hb =>
    exact rinvX_fault s (State.addIncompatibilityFromDependencies_np W hW root rv hs hx (hdeps hph)) hb
  | @addVersionFault p v st start stop _ deps hph hb hv =>
    obtain ⟨_, hfl, t, hterm, hcont⟩ := h1.fetching _ _ hph
    obtain ⟨hp1, eps⟩ := State.addIncompatibilityFromDependencies_pinv hb hp
    obtain ⟨pa, hpa, hinter⟩ := inflight_term (ps := st.ps) (eps ▸ hfl) (eps ▸ hterm)
    exact rinvX_fault _ (.of_exists_ok (PartialSolution.addVersion_ok hp1.wf.wf hpa hinter hcont
      (by rw [eps]; exact h.fetching _ _ hph) st.debug _)) hv
  | @available p v st start stop ps deps hph hb hps =>
    obtain ⟨e, hfl, t, hterm, hcont⟩ := h1.fetching _ _ hph
    obtain ⟨hx1, hmono⟩ :=
      (State.addIncompatibilityFromDependencies_np W hW root rv hs hx (hdeps hph)).of_ok hb
    refine rinvX_loopAgain _ _ ?_ (hmono _ (hnext e hfl hterm))
    rcases PartialSolution.addVersion_spec hps with hps | ⟨rfl, _⟩
    · obtain ⟨hp1, eps⟩ := State.addIncompatibilityFromDependencies_pinv hb hp
      have hfl1 : st.ps.InFlightOK p := eps ▸ hfl
      have hterm1 : st.ps.termIntersectionForPackage p = some t := eps ▸ hterm
      obtain ⟨pa, hpa, hinter⟩ := inflight_term hfl1 hterm1
      obtain ⟨hp2, _⟩ := decided_ok hp1 hfl1 hterm1 hcont hps
      exact XInv.decide hx1 hp1.wf.wf hps hp2.wf.wf hpa hinter
    · exact hx1
  | _ => exact rinvX_finish _ _ trivial

end Pubgrub
