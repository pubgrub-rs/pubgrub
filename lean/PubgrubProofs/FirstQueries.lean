/-
The forced prefix of every run of `resolve`: should_cancel, prioritize(root, {rv}), pick, choose_version(root, {rv}).
-/
import PubgrubProofs.Coherent

set_option linter.unusedSectionVars false

namespace Pubgrub
open VersionSet
variable {P S V M Pr E : Type} [DecidableEq P] [VersionSet S V] [DecidableEq S] [DecidableEq V]
  [LE Pr] [DecidableLE Pr]
namespace Solver

/-- the assignment of the root after the first unit propagation -/
def rootPA (rv : V) : PackageAssignments S V :=
  { smallest := 0, highest := 0,
    dated := [{ globalIndex := 0, decisionLevel := 0, cause := 0, accumulated := .pos (singleton rv) }],
    inter := .derivations (.pos (singleton rv)) }

/-- the partial solution after the first unit propagation -/
def ps1 (root : P) (rv : V) : PartialSolution P S V Pr :=
  { nextGlobalIndex := 1, currentDecisionLevel := 0, assignments := [(root, rootPA rv)], queue := [],
    changed := 0, hasEverBacktracked := false }

theorem addDerivation_empty (root : P) (rv : V) :
    PartialSolution.addDerivation (PartialSolution.empty (Pr := Pr)) root 0
      [Incompat.notRoot (S := S) (M := M) root rv] = .ok (ps1 root rv) := by
  simp [PartialSolution.addDerivation, storeGet, unwrapOr, Incompat.notRoot, Incompat.get, SmallMap.get,
    PartialSolution.indexOf, PartialSolution.empty, PartialSolution.getPA, Term.negate, Term.isPositive,
    ps1, rootPA, bind, Except.bind, pure, Except.pure]

/-- the state in the middle of the first unit propagation -/
def st0 (debug : Bool) (root : P) (rv : V) (buffer : List P) : State P S V M Pr :=
  { rootPackage := root, rootVersion := rv, incompatibilities := [(root, [0])], contradicted := [(0, 0)],
    mergedDependencies := [], ps := ps1 root rv, store := [Incompat.notRoot root rv], buffer := buffer,
    debug := debug }

theorem propagate_init (debug : Bool) (root : P) (rv : V) :
    State.propagateIncompats { State.init (S := S) (M := M) (Pr := Pr) debug root rv with buffer := [] } [0] =
      .ok (st0 debug root rv [root], none) := by
  have h := addDerivation_empty (S := S) (M := M) (Pr := Pr) root rv
  simp only [Incompat.notRoot, PartialSolution.empty] at h
  simp [State.propagateIncompats, State.init, SmallMap.containsKey, SmallMap.get, storeGet, unwrapOr,
    PartialSolution.relation, Incompat.relation, Incompat.relationGo, Incompat.notRoot,
    PartialSolution.termIntersectionForPackage, PartialSolution.getPA, PartialSolution.empty, h,
    st0, ps1, SmallMap.insert]

theorem propagate_second (debug : Bool) (root : P) (rv : V) :
    State.propagateIncompats (st0 (S := S) (M := M) (Pr := Pr) debug root rv []) [0] =
      .ok (st0 debug root rv [], none) := by
  simp [State.propagateIncompats, st0, SmallMap.containsKey, SmallMap.get]

theorem unitPropagation_init (debug : Bool) (n : Nat) (root : P) (rv : V) :
    (State.init (S := S) (M := M) (Pr := Pr) debug root rv).unitPropagation (n + 3) root =
      .ok (st0 debug root rv [], none) := by
  have h1 := propagate_init (S := S) (M := M) (Pr := Pr) debug root rv
  have h2 := propagate_second (S := S) (M := M) (Pr := Pr) debug root rv
  simp only [st0, State.init] at h1 h2
  simp [State.unitPropagation, State.unitPropagationLoop, State.init, SmallMap.get, st0, h1, h2]

/-- the solver state while `prioritize(root, {rv})` is pending -/
def s1 (debug : Bool) (fuel : Nat) (root : P) (rv : V) : SolverState P S V M Pr :=
  { st := st0 debug root rv [], added := [], next := root,
    phase := .prioritizing (root, singleton rv) [] [], fuel := fuel }

/-- the solver state while the first `pick` is pending -/
def s2 (debug : Bool) (fuel : Nat) (root : P) (rv : V) (pr : Pr) : SolverState P S V M Pr :=
  { st := st0 debug root rv [], added := [], next := root,
    phase := .picking [(root, pr)], fuel := fuel }

theorem step_start (debug : Bool) (n : Nat) (root : P) (rv : V) (a : Answer P S V M Pr E) :
    Done (step (start (E := E) debug (n + 3) root rv).1 a) ∨
      step (start (E := E) debug (n + 3) root rv).1 a =
        (s1 debug (n + 3) root rv, .prioritize root (singleton rv)) := by
  cases a
  case ok =>
    right
    simp [step, start, unitPropagation_init, st0, ps1, rootPA, PartialSolution.toPrioritize,
      PartialSolution.potentialPackageFilter, s1]
  all_goals (left; simp [step, start, finish, Done, Request.isFinal])

theorem step_s1 (debug : Bool) (fuel : Nat) (root : P) (rv : V) (a : Answer P S V M Pr E) :
    Done (step (s1 debug fuel root rv) a) ∨
      ∃ pr, step (s1 debug fuel root rv) a = (s2 debug fuel root rv pr, .pick [(root, pr)]) := by
  cases a
  case priority pr =>
    right
    refine ⟨pr, ?_⟩
    simp [step, s1, s2, st0, ps1, PartialSolution.afterPrioritize, PartialSolution.queuePush,
      SmallMap.insert]
  all_goals (left; simp [step, s1, finish, Done, Request.isFinal])

theorem step_s2 (debug : Bool) (fuel : Nat) (root : P) (rv : V) (pr : Pr) (a : Answer P S V M Pr E) :
    Done (step (s2 debug fuel root rv pr) a) ∨
      (step (s2 debug fuel root rv pr) a).2 = .chooseVersion root (singleton rv) := by
  cases a
  case picked o =>
    cases o with
    | none =>
      left
      simp [step, s2, st0, ps1, PartialSolution.afterPrioritize, PartialSolution.queuePush,
        SmallMap.insert, finish, Done, Request.isFinal]
    | some p =>
      by_cases hp : p = root
      · subst hp
        by_cases hle : pr ≤ pr
        · right
          simp [step, s2, st0, ps1, rootPA, PartialSolution.afterPrioritize, PartialSolution.queuePush,
            SmallMap.insert, isMaximal, SmallMap.get, hle, SmallMap.remove,
            PartialSolution.termIntersectionForPackage, PartialSolution.getPA, AssignInter.term,
            Incompat.unwrapPositive]
        · left
          simp [step, s2, st0, ps1, PartialSolution.afterPrioritize, PartialSolution.queuePush,
            SmallMap.insert, isMaximal, SmallMap.get, hle, finish, Done, Request.isFinal]
      · left
        simp [step, s2, st0, ps1, PartialSolution.afterPrioritize, PartialSolution.queuePush,
          SmallMap.insert, isMaximal, SmallMap.get, hp, finish, Done, Request.isFinal]
  all_goals (left; simp [step, s2, finish, Done, Request.isFinal])

end Solver
end Pubgrub
