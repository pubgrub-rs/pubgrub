/-
Homomorphisms of version sets: generic lemmas (`Except`, association lists, lists) and
the commutation lemmas for `PubgrubModel/Term.lean` and `PubgrubModel/SmallMap.lean`.
-/
import PubgrubProofs.HomDefs

namespace Pubgrub
open VersionSet

section ExceptLemmas
variable {ε α β γ : Type}

@[simp] theorem exceptMap_ok (f : α → β) (a : α) : Except.map (ε := ε) f (.ok a) = .ok (f a) := rfl
@[simp] theorem exceptMap_error (f : α → β) (e : ε) : Except.map (ε := ε) f (.error e : Except ε α) = .error e := rfl
@[simp] theorem exceptMap_pure (f : α → β) (a : α) :
    Except.map (ε := ε) f (pure a : Except ε α) = pure (f a) := rfl
@[simp] theorem exceptMap_throw (f : α → β) (e : ε) :
    Except.map (ε := ε) f (throw e : Except ε α) = throw e := rfl

theorem exceptMap_bind (f : β → γ) (x : Except ε α) (k : α → Except ε β) :
    Except.map f (x >>= k) = x >>= fun a => Except.map f (k a) := by
  cases x <;> rfl

theorem except_bind_map (m : α → β) (x : Except ε α) (k : β → Except ε γ) :
    (Except.map m x >>= k) = x >>= fun a => k (m a) := by
  cases x <;> rfl

theorem except_bind_congr (x : Except ε α) (k k' : α → Except ε β) (hk : ∀ a, k a = k' a) :
    (x >>= k) = (x >>= k') := by
  have : k = k' := funext hk
  rw [this]

@[simp] theorem except_ok_bind (a : α) (k : α → Except ε β) : ((Except.ok a : Except ε α) >>= k) = k a := rfl
@[simp] theorem except_error_bind (e : ε) (k : α → Except ε β) :
    ((Except.error e : Except ε α) >>= k) = .error e := rfl
@[simp] theorem except_pure_eq (a : α) : (pure a : Except ε α) = .ok a := rfl
@[simp] theorem except_throw_eq (e : ε) : (throw e : Except ε α) = .error e := rfl

end ExceptLemmas

@[simp] theorem unwrapOr_map {α β : Type} (g : α → β) (o : Option α) (site : String) :
    unwrapOr (o.map g) site = (unwrapOr o site).map g := by
  cases o <;> rfl

@[simp] theorem hom_unwrapOr_some {α : Type} (a : α) (site : String) : unwrapOr (some a) site = .ok a := rfl
@[simp] theorem hom_unwrapOr_none {α : Type} (site : String) :
    unwrapOr (none : Option α) site = .error (.panic site) := rfl

section MapVals
variable {K T T' : Type} [DecidableEq K]

abbrev mapVals (g : T → T') (l : List (K × T)) : List (K × T') := l.map fun kv => (kv.1, g kv.2)

@[simp] theorem SmallMap.get_mapVals (g : T → T') (l : List (K × T)) (k : K) :
    SmallMap.get (l.map fun kv => (kv.1, g kv.2)) k = (SmallMap.get l k).map g := by
  induction l with
  | nil => rfl
  | cons x l ih =>
    obtain ⟨k', v⟩ := x
    simp only [List.map_cons, SmallMap.get]
    split
    · rfl
    · exact ih

@[simp] theorem SmallMap.insert_mapVals (g : T → T') (l : List (K × T)) (k : K) (v : T) :
    SmallMap.insert (l.map fun kv => (kv.1, g kv.2)) k (g v) =
      (SmallMap.insert l k v).map fun kv => (kv.1, g kv.2) := by
  induction l with
  | nil => rfl
  | cons x l ih =>
    obtain ⟨k', v'⟩ := x
    simp only [List.map_cons, SmallMap.insert]
    split
    · rfl
    · simp only [List.map_cons, ih]

omit [DecidableEq K] in
theorem set_mapVals (g : T → T') (l : List (K × T)) (i : Nat) (k : K) (x : T) :
    (l.map fun kv => (kv.1, g kv.2)).set i (k, g x) = (l.set i (k, x)).map fun kv => (kv.1, g kv.2) := by
  rw [List.map_set]

@[simp] theorem SmallMap.remove_mapVals (g : T → T') (l : List (K × T)) (k : K) :
    SmallMap.remove (l.map fun kv => (kv.1, g kv.2)) k =
      (SmallMap.remove l k).map fun kv => (kv.1, g kv.2) := by
  induction l with
  | nil => rfl
  | cons x l ih =>
    obtain ⟨k', v'⟩ := x
    simp only [List.map_cons, SmallMap.remove]
    split
    · rfl
    · simp only [List.map_cons, ih]

@[simp] theorem SmallMap.splitOne_mapVals (g : T → T') (l : List (K × T)) (k : K) :
    SmallMap.splitOne (l.map fun kv => (kv.1, g kv.2)) k =
      (SmallMap.splitOne l k).map fun x => (g x.1, x.2.map fun kv => (kv.1, g kv.2)) := by
  unfold SmallMap.splitOne
  rw [SmallMap.get_mapVals]
  cases SmallMap.get l k with
  | none => rfl
  | some v => simp

theorem SmallMap.merge_mapVals (g : T → T') (l l2 : List (K × T)) (f : T → T → Option T)
    (f' : T' → T' → Option T') (hf : ∀ a b, f' (g a) (g b) = (f a b).map g) :
    SmallMap.merge (l.map fun kv => (kv.1, g kv.2)) (l2.map fun kv => (kv.1, g kv.2)) f' =
      (SmallMap.merge l l2 f).map fun kv => (kv.1, g kv.2) := by
  unfold SmallMap.merge
  induction l2 generalizing l with
  | nil => rfl
  | cons x l2 ih =>
    simp only [List.map_cons, List.foldl_cons, SmallMap.get_mapVals]
    cases hx : SmallMap.get l x.1 with
    | none =>
      simp only [Option.map_none, SmallMap.insert_mapVals]
      exact ih _
    | some v1 =>
      simp only [Option.map_some, hf]
      cases f v1 x.2 with
      | none => simp only [Option.map_none, SmallMap.remove_mapVals]; exact ih _
      | some mg => simp only [Option.map_some, SmallMap.insert_mapVals]; exact ih _

@[simp] theorem SmallMap.containsKey_mapVals (g : T → T') (l : List (K × T)) (k : K) :
    SmallMap.containsKey (l.map fun kv => (kv.1, g kv.2)) k = SmallMap.containsKey l k := by
  simp [SmallMap.containsKey]

omit [DecidableEq K] in
theorem findIdx_mapVals (g : T → T') (l : List (K × T)) (p : K → Bool) :
    (l.map fun kv => (kv.1, g kv.2)).findIdx (fun kv => p kv.1) = l.findIdx (fun kv => p kv.1) := by
  induction l with
  | nil => rfl
  | cons x l ih => simp only [List.map_cons, List.findIdx_cons, ih]

end MapVals

@[simp] theorem storeGet_map {α β : Type} (g : α → β) (store : List α) (id : Nat) :
    storeGet (store.map g) id = (storeGet store id).map g := by
  simp [storeGet]

@[simp] theorem swapIndices_map {α β : Type} (g : α → β) (l : List α) (i j : Nat) :
    swapIndices (l.map g) i j = (swapIndices l i j).map (List.map g) := by
  unfold swapIndices
  simp only [List.getElem?_map]
  cases l[i]? <;> cases l[j]? <;> simp [List.map_set]

/- Here and in the files that follow, the two `VersionSet` instances of a lemma about `h : VSetHom S V S' V'` are
`{_ : …}` binders: they are determined by `h` and filled in by unification.  As instance arguments they would be
searched for at every use with `Range.denseHom`, and the search for `VersionSet (Range V) V` walks Mathlib's
order hierarchy to find `LT V`. -/
section TermLemmas
variable {S V S' V' : Type} {_ : VersionSet S V} {_ : VersionSet S' V'}

@[simp] theorem Term.mapH_pos (h : VSetHom S V S' V') (s : S) : Term.mapH h (.pos s) = .pos (h.f s) := rfl
@[simp] theorem Term.mapH_neg (h : VSetHom S V S' V') (s : S) : Term.mapH h (.neg s) = .neg (h.f s) := rfl

@[simp] theorem VSetHom.f_eq_iff (h : VSetHom S V S' V') (a b : S) : h.f a = h.f b ↔ a = b :=
  ⟨h.f_inj a b, fun e => e ▸ rfl⟩

@[simp] theorem VSetHom.ι_eq_iff (h : VSetHom S V S' V') (a b : V) : h.ι a = h.ι b ↔ a = b :=
  ⟨h.ι_inj a b, fun e => e ▸ rfl⟩

@[simp] theorem VSetHom.f_eq_empty_iff (h : VSetHom S V S' V') (a : S) :
    h.f a = (empty : S') ↔ a = (empty : S) := by
  rw [← h.map_empty, h.f_eq_iff]

@[simp] theorem VSetHom.f_eq_full_iff (h : VSetHom S V S' V') (a : S) :
    h.f a = (full : S') ↔ a = (full : S) := by
  rw [← h.map_full, h.f_eq_iff]

theorem Term.mapH_injective (h : VSetHom S V S' V') : Function.Injective (Term.mapH h) := by
  intro a b e
  cases a <;> cases b <;> simp_all [Term.mapH]

@[simp] theorem Term.mapH_eq_iff (h : VSetHom S V S' V') (a b : Term S) :
    Term.mapH h a = Term.mapH h b ↔ a = b :=
  (Term.mapH_injective h).eq_iff

@[simp] theorem Term.optMapH_eq_iff (h : VSetHom S V S' V') (a b : Option (Term S)) :
    a.map (Term.mapH h) = b.map (Term.mapH h) ↔ a = b :=
  (Option.map_injective (Term.mapH_injective h)).eq_iff

@[simp] theorem Term.mapH_any (h : VSetHom S V S' V') : Term.mapH h (Term.any : Term S) = Term.any := by
  simp [Term.any, h.map_empty]

@[simp] theorem Term.mapH_empty (h : VSetHom S V S' V') : Term.mapH h (Term.empty : Term S) = Term.empty := by
  simp [Term.empty, h.map_empty]

@[simp] theorem Term.mapH_eq_any_iff (h : VSetHom S V S' V') (a : Term S) :
    Term.mapH h a = (Term.any : Term S') ↔ a = Term.any := by
  rw [← Term.mapH_any h, Term.mapH_eq_iff]

@[simp] theorem Term.mapH_exact (h : VSetHom S V S' V') (v : V) :
    Term.mapH h (Term.exact v : Term S) = Term.exact (h.ι v) := by
  simp [Term.exact, h.map_singleton]

@[simp] theorem Term.isPositive_mapH (h : VSetHom S V S' V') (t : Term S) :
    (Term.mapH h t).isPositive = t.isPositive := by
  cases t <;> rfl

@[simp] theorem Term.negate_mapH (h : VSetHom S V S' V') (t : Term S) :
    (Term.mapH h t).negate = Term.mapH h t.negate := by
  cases t <;> rfl

@[simp] theorem Term.contains_mapH (h : VSetHom S V S' V') (t : Term S) (v : V) :
    (Term.mapH h t).contains (h.ι v) = t.contains v := by
  cases t <;> simp [Term.contains, h.map_contains]

theorem Term.eval_mapH (h : VSetHom S V S' V') (t : Term S) (o : Option V) :
    (Term.mapH h t).eval (o.map h.ι) = t.eval o := by
  cases t <;> cases o <;> simp [Term.mapH, Term.eval, h.map_contains]

@[simp] theorem Term.intersection_mapH (h : VSetHom S V S' V') (a b : Term S) :
    (Term.mapH h a).intersection (Term.mapH h b) = Term.mapH h (a.intersection b) := by
  cases a <;> cases b <;>
    simp [Term.intersection, h.map_intersection, h.map_complement, h.map_union]

@[simp] theorem Term.union_mapH (h : VSetHom S V S' V') (a b : Term S) :
    (Term.mapH h a).union (Term.mapH h b) = Term.mapH h (a.union b) := by
  cases a <;> cases b <;>
    simp [Term.union, h.map_intersection, h.map_complement, h.map_union]

@[simp] theorem Term.isDisjoint_mapH (h : VSetHom S V S' V') (a b : Term S) :
    (Term.mapH h a).isDisjoint (Term.mapH h b) = a.isDisjoint b := by
  cases a <;> cases b <;> simp [Term.isDisjoint, h.map_isDisjoint, h.map_subsetOf]

@[simp] theorem Term.subsetOf_mapH (h : VSetHom S V S' V') (a b : Term S) :
    (Term.mapH h a).subsetOf (Term.mapH h b) = a.subsetOf b := by
  cases a <;> cases b <;> simp [Term.subsetOf, h.map_isDisjoint, h.map_subsetOf]

@[simp] theorem Term.relationWith_mapH (h : VSetHom S V S' V') (a b : Term S) :
    (Term.mapH h a).relationWith (Term.mapH h b) = a.relationWith b := by
  simp [Term.relationWith]

end TermLemmas

end Pubgrub
