/-
The explicit-stack traversal `collectIds` at the top of `build_derivation_tree`: what one iteration
does, as a proof rule for invariants of `(stack, all, shared)`, and a first use of it: an id is put
into `shared` only if it occurs at least twice in the unfolded tree of the requested id (a potential
that no iteration increases).
-/
import PubgrubProofs.SolverDefs

set_option linter.unusedSectionVars false

namespace Pubgrub
open VersionSet

variable {P S V M Pr : Type} [DecidableEq P] [VersionSet S V] [DecidableEq S]

/-- causes point to smaller ids -/
def CausesBelow (store : List (Incompat P S V M)) : Prop :=
  ∀ (j : Nat) (inc : Incompat P S V M) (a b : Nat),
    store[j]? = some inc → inc.causes = some (a, b) → a < j ∧ b < j

theorem TreeAux.mem_pushNew (l : List Nat) (i x : Nat) :
    x ∈ (if l.contains i = true then l else l ++ [i]) ↔ x ∈ l ∨ x = i := by
  split
  · next h => exact ⟨Or.inl, fun h' => h'.elim id fun hx => hx ▸ List.contains_iff_mem.1 h⟩
  · exact List.mem_append.trans (or_congr_right List.mem_singleton)

theorem TreeAux.eq_dropLast_of_getLast? (l : List Nat) (i : Nat) (h : l.getLast? = some i) :
    l = l.dropLast ++ [i] := by
  obtain ⟨ys, rfl⟩ := List.getLast?_eq_some_iff.1 h
  simp

/-- One iteration of the traversal pops an id `i` and either records a leaf, marks an already seen
derived id as shared, or expands a fresh derived id.  A property of `(stack, all, shared)` that
survives these three steps holds of the result with the empty stack. -/
theorem collectIds_rule (store : List (Incompat P S V M)) (I : List Nat → List Nat → List Nat → Prop)
    (leaf : ∀ (s : List Nat) (i : Nat) (all shared : List Nat) (inc : Incompat P S V M) (all2 : List Nat),
      store[i]? = some inc → inc.causes = none →
      (∀ x, x ∈ all2 ↔ x ∈ all ∨ x = i) → I (s ++ [i]) all shared → I s all2 shared)
    (seen : ∀ (s : List Nat) (i : Nat) (all shared : List Nat) (inc : Incompat P S V M) (a b : Nat)
      (shared2 : List Nat), store[i]? = some inc → inc.causes = some (a, b) → i ∈ all →
      (∀ x, x ∈ shared2 ↔ x ∈ shared ∨ x = i) → I (s ++ [i]) all shared → I s all shared2)
    (fresh : ∀ (s : List Nat) (i : Nat) (all shared : List Nat) (inc : Incompat P S V M) (a b : Nat),
      store[i]? = some inc → inc.causes = some (a, b) → i ∉ all →
      I (s ++ [i]) all shared → I (s ++ [a, b]) (all ++ [i]) shared) :
    ∀ (fuel : Nat) (stack all shared all' shared' : List Nat),
      State.collectIds store fuel stack all shared = .ok (all', shared') →
      I stack all shared → I [] all' shared' := by
  intro fuel
  induction fuel with
  | zero => intro _ _ _ _ _ h; cases h
  | succ fuel ih =>
    intro stack all shared all' shared' h hI
    rw [State.collectIds] at h
    cases hl : stack.getLast? with
    | none =>
      rw [hl] at h
      cases h
      rwa [List.getLast?_eq_none_iff.1 hl] at hI
    | some i =>
      rw [hl] at h
      rw [TreeAux.eq_dropLast_of_getLast? stack i hl] at hI
      generalize stack.dropLast = s at h hI
      cases hs : store[i]? with
      | none => simp [storeGet, unwrapOr, hs] at h
      | some inc =>
        simp only [storeGet, unwrapOr, hs] at h
        cases hc : inc.causes with
        | none =>
          simp only [hc] at h
          exact ih _ _ _ _ _ h (leaf s i all shared inc _ hs hc (TreeAux.mem_pushNew all i) hI)
        | some ab =>
          obtain ⟨a, b⟩ := ab
          simp only [hc] at h
          split at h
          · next hia =>
            exact ih _ _ _ _ _ h (seen s i all shared inc a b _ hs hc (List.contains_iff_mem.1 hia)
              (TreeAux.mem_pushNew shared i) hI)
          · next hia =>
            exact ih _ _ _ _ _ h (fresh s i all shared inc a b hs hc (mt List.contains_iff_mem.2 hia) hI)

def TreeAux.ind (p : Prop) [Decidable p] : Nat := if p then 1 else 0

open TreeAux (ind)

/-- number of occurrences of the id `k` in the unfolded tree of the entry `j` -/
def treeOcc (store : List (Incompat P S V M)) (k : Nat) (j : Nat) : Nat :=
  ind (j = k) +
    match (store[j]?).bind Incompat.causes with
    | some (a, b) => if _h : a < j ∧ b < j then treeOcc store k a + treeOcc store k b else 0
    | none => 0
termination_by j
decreasing_by exacts [_h.1, _h.2]

theorem treeOcc_derived (store : List (Incompat P S V M)) (hlt : CausesBelow store) (k j : Nat)
    (inc : Incompat P S V M) (a b : Nat) (hs : store[j]? = some inc) (hc : inc.causes = some (a, b)) :
    treeOcc store k j = ind (j = k) + (treeOcc store k a + treeOcc store k b) := by
  rw [treeOcc, hs, Option.bind_some, hc]
  exact congrArg _ (dif_pos (hlt j inc a b hs hc))

theorem treeOcc_leaf (store : List (Incompat P S V M)) (k j : Nat)
    (inc : Incompat P S V M) (hs : store[j]? = some inc) (hc : inc.causes = none) :
    treeOcc store k j = ind (j = k) := by
  rw [treeOcc, hs, Option.bind_some, hc]; rfl

theorem treeOcc_self_le (store : List (Incompat P S V M)) (k j : Nat) :
    ind (j = k) ≤ treeOcc store k j := by
  rw [treeOcc]; exact Nat.le_add_right _ _

theorem TreeAux.ind_pushNew {l l2 : List Nat} {i : Nat} (hm : ∀ x, x ∈ l2 ↔ x ∈ l ∨ x = i) (k : Nat) :
    ind (k ∈ l2) ≤ ind (k ∈ l) + ind (i = k) := by
  unfold ind
  by_cases hk : k ∈ l2
  · rw [if_pos hk]
    rcases (hm k).1 hk with h | h
    · rw [if_pos h]; exact Nat.le_add_right 1 _
    · rw [if_pos h.symm]; exact Nat.le_add_left 1 _
  · rw [if_neg hk]; exact Nat.zero_le _

/-- An id put into `shared` by the traversal occurs at least twice in the unfolded tree.  The potential of
a state — the occurrences of `k` still to come from the stack, plus one for each of `all`, `shared` that
already holds `k` — is not increased by any step, and starts at `treeOcc store k id`. -/
theorem collectIds_shared_occ (store : List (Incompat P S V M)) (hlt : CausesBelow store) (k : Nat)
    (fuel id : Nat) (all shared : List Nat)
    (h : State.collectIds store fuel [id] [] [] = .ok (all, shared)) (hk : k ∈ shared) :
    2 ≤ treeOcc store k id := by
  have key := collectIds_rule store
    (fun stack all shared => (k ∈ shared → k ∈ all) ∧
      (stack.map (treeOcc store k)).sum + ind (k ∈ all) + ind (k ∈ shared) ≤ treeOcc store k id)
    ?_ ?_ ?_ fuel [id] [] [] all shared h ⟨fun h => h, by simp [ind]⟩
  · obtain ⟨h1, h2⟩ := key
    simpa [ind, hk, h1 hk] using h2
  · intro s i all shared inc all2 hs hc hm ⟨hsub, hphi⟩
    refine ⟨fun h => (hm k).2 (Or.inl (hsub h)), Nat.le_trans ?_ hphi⟩
    have := TreeAux.ind_pushNew hm k
    simp only [List.map_append, List.sum_append, List.map_singleton, List.sum_singleton,
      treeOcc_leaf store k i inc hs hc]
    omega
  · intro s i all shared inc a b shared2 hs hc hia hm ⟨hsub, hphi⟩
    refine ⟨fun h => ((hm k).1 h).elim hsub (fun h => h ▸ hia), Nat.le_trans ?_ hphi⟩
    have := TreeAux.ind_pushNew hm k
    have := treeOcc_self_le store k i
    simp only [List.map_append, List.sum_append, List.map_singleton, List.sum_singleton]
    omega
  · intro s i all shared inc a b hs hc hia ⟨hsub, hphi⟩
    refine ⟨fun h => List.mem_append_left _ (hsub h), Nat.le_trans ?_ hphi⟩
    have := TreeAux.ind_pushNew (l := all) (i := i)
      (fun x => List.mem_append.trans (or_congr_right List.mem_singleton)) k
    simp only [List.map_append, List.sum_append, List.map_cons, List.map_nil, List.sum_cons,
      List.sum_nil, treeOcc_derived store hlt k i inc a b hs hc]
    omega

end Pubgrub
