/-
Term reasoning matches the meaning of the terms (property C11), and the provided methods of the
`VersionSet` trait are correct for an implementation of the five required ones (property C17, first half).
Between the two, the membership lemmas of the bit set that VSetInstances.lean turns into an instance.
-/
import PubgrubProofs.Defs

set_option linter.unusedSectionVars false

namespace Pubgrub
open VersionSet

namespace Term
variable {S V : Type} [VersionSet S V] [DecidableEq S] [L : LawfulVersionSet S V]

theorem eval_negate (t : Term S) (c : Option V) : (negate t).eval c = !t.eval c := by
  cases t <;> cases c <;> simp only [negate, eval, Bool.not_not, Bool.not_true, Bool.not_false]

theorem contains_eq_eval (t : Term S) (v : V) : t.contains v = t.eval (some v) := by
  cases t <;> rfl

theorem valid_negate (t : Term S) (h : t.Valid) : (negate t).Valid := by
  cases t <;> exact h

/-- De Morgan holds syntactically: `union` is computed as the dual of `intersection` -/
theorem union_eq_negate_intersection (t1 t2 : Term S) :
    union t1 t2 = negate (intersection (negate t1) (negate t2)) := by
  cases t1 <;> cases t2 <;> rfl

theorem isDisjoint_eq_subsetOf_negate (t1 t2 : Term S) :
    isDisjoint t1 t2 = subsetOf t1 (negate t2) := by
  cases t1 <;> cases t2 <;> rfl

theorem valid_intersection (t1 t2 : Term S) (h1 : t1.Valid) (h2 : t2.Valid) :
    (intersection t1 t2).Valid :=
  match t1, t2, h1, h2 with
  | .pos _, .pos _, h1, h2 => L.valid_intersection _ _ h1 h2
  | .pos _, .neg _, h1, h2 => L.valid_intersection _ _ (L.valid_complement _ h2) h1
  | .neg _, .pos _, h1, h2 => L.valid_intersection _ _ (L.valid_complement _ h1) h2
  | .neg _, .neg _, h1, h2 => L.valid_union _ _ h1 h2

theorem valid_union (t1 t2 : Term S) (h1 : t1.Valid) (h2 : t2.Valid) :
    (union t1 t2).Valid := by
  rw [union_eq_negate_intersection]
  exact valid_negate _ (valid_intersection _ _ (valid_negate t1 h1) (valid_negate t2 h2))

theorem eval_intersection (t1 t2 : Term S) (h1 : t1.Valid) (h2 : t2.Valid) (c : Option V) :
    (intersection t1 t2).eval c = (t1.eval c && t2.eval c) := by
  cases c with
  | none => cases t1 <;> cases t2 <;> rfl
  | some v =>
    match t1, t2, h1, h2 with
    | .pos a, .pos b, h1, h2 => exact L.contains_intersection a b v h1 h2
    | .pos p, .neg n, h1, h2 =>
      simp only [intersection, eval]
      rw [L.contains_intersection _ _ v (L.valid_complement n h2) h1, L.contains_complement n v h2,
        Bool.and_comm]
    | .neg n, .pos p, h1, h2 =>
      simp only [intersection, eval]
      rw [L.contains_intersection _ _ v (L.valid_complement n h1) h2, L.contains_complement n v h1]
    | .neg a, .neg b, h1, h2 =>
      simp only [intersection, eval]
      rw [L.contains_union a b v h1 h2, Bool.not_or]

theorem eval_union (t1 t2 : Term S) (h1 : t1.Valid) (h2 : t2.Valid) (c : Option V) :
    (union t1 t2).eval c = (t1.eval c || t2.eval c) := by
  rw [union_eq_negate_intersection, eval_negate,
    eval_intersection _ _ (valid_negate t1 h1) (valid_negate t2 h2), eval_negate, eval_negate,
    Bool.not_and, Bool.not_not, Bool.not_not]

private theorem not_eq_true_iff (b : Bool) : (!b) = true ↔ ¬ b = true := by
  rw [Bool.not_eq_true', Bool.not_eq_true]

theorem subsetOf_iff (t1 t2 : Term S) (h1 : t1.Valid) (h2 : t2.Valid) :
    subsetOf t1 t2 = true ↔ ∀ c : Option V, t1.eval c = true → t2.eval c = true := by
  rw [Option.forall]
  match t1, t2, h1, h2 with
  | .pos a, .pos b, h1, h2 => simp [subsetOf, eval, L.subsetOf_iff a b h1 h2]
  | .pos a, .neg b, h1, h2 => simp [subsetOf, eval, L.isDisjoint_iff a b h1 h2]
  | .neg a, .pos b, h1, h2 => simp [subsetOf, eval]
  | .neg a, .neg b, h1, h2 =>
    simp only [subsetOf, eval, L.subsetOf_iff b a h2 h1, Bool.not_eq_true', imp_self, true_and]
    exact forall_congr' fun v => by cases VersionSet.contains a v <;> cases VersionSet.contains b v <;> simp

theorem isDisjoint_iff (t1 t2 : Term S) (h1 : t1.Valid) (h2 : t2.Valid) :
    isDisjoint t1 t2 = true ↔ ∀ c : Option V, ¬ (t1.eval c = true ∧ t2.eval c = true) := by
  rw [isDisjoint_eq_subsetOf_negate, subsetOf_iff t1 _ h1 (valid_negate t2 h2)]
  refine forall_congr' fun c => ?_
  rw [eval_negate, not_eq_true_iff, not_and]

theorem relationWith_satisfied_iff (t o : Term S) (h1 : t.Valid) (h2 : o.Valid) :
    relationWith t o = .satisfied ↔ ∀ c : Option V, o.eval c = true → t.eval c = true := by
  rw [← subsetOf_iff o t h2 h1]
  unfold relationWith
  cases subsetOf o t <;> cases isDisjoint t o <;> simp

theorem relationWith_contradicted_iff (t o : Term S) (h1 : t.Valid) (h2 : o.Valid) :
    relationWith t o = .contradicted ↔
      (¬ ∀ c : Option V, o.eval c = true → t.eval c = true) ∧
      ∀ c : Option V, ¬ (t.eval c = true ∧ o.eval c = true) := by
  rw [← subsetOf_iff o t h2 h1, ← isDisjoint_iff t o h1 h2]
  unfold relationWith
  cases subsetOf o t <;> cases isDisjoint t o <;> simp

theorem relationWith_inconclusive_iff (t o : Term S) (h1 : t.Valid) (h2 : o.Valid) :
    relationWith t o = .inconclusive ↔
      (¬ ∀ c : Option V, o.eval c = true → t.eval c = true) ∧
      ¬ ∀ c : Option V, ¬ (t.eval c = true ∧ o.eval c = true) := by
  rw [← subsetOf_iff o t h2 h1, ← isDisjoint_iff t o h1 h2]
  unfold relationWith
  cases subsetOf o t <;> cases isDisjoint t o <;> simp

/-- finding F2: before the `fix:` commit the `Negative/Negative` row of `is_disjoint` called the two
always-true terms disjoint although both are true when nothing is selected -/
theorem legacy_isDisjoint_any_any_wrong :
    Legacy.isDisjoint (any : Term S) (any : Term S) = true ∧
      ((any : Term S).eval (none : Option V) = true) := by
  simp [Legacy.isDisjoint, any, eval]

end Term

/-! ### C17: the provided trait methods -/
section Provided
variable {S V : Type} [DecidableEq S]

private theorem bool_and_false_iff (x y : Bool) : (x && y) = false ↔ ¬ (x = true ∧ y = true) := by
  revert x y; decide

private theorem bool_eq_and_iff (x y : Bool) : x = (x && y) ↔ (x = true → y = true) := by
  revert x y; decide

private theorem bool_not_and_not_not (x y : Bool) : (!(!x && !y)) = (x || y) := by
  revert x y; decide

set_option warn.classDefReducibility false in
/-- An implementation that writes only the five required methods, lawfully and with canonical
equality, gets lawful `full`, `union`, `is_disjoint`, `subset_of` from the trait's provided bodies. -/
def lawful_ofRequired (empty : S) (singleton : V → S) (complement : S → S)
    (intersection : S → S → S) (contains : S → V → Bool)
    (R : @LawfulRequired S V
      (VersionSet.ofRequired empty singleton complement intersection contains)) :
    @LawfulVersionSet S V (VersionSet.ofRequired empty singleton complement intersection contains) := by
  exact @LawfulVersionSet.mk S V
    (VersionSet.ofRequired empty singleton complement intersection contains)
    (Valid := R.Valid)
    (valid_empty := R.valid_empty)
    (valid_singleton := R.valid_singleton)
    (valid_complement := R.valid_complement)
    (valid_intersection := R.valid_intersection)
    (valid_full := R.valid_complement _ R.valid_empty)
    (valid_union := fun a b ha hb =>
      R.valid_complement _
        (R.valid_intersection _ _ (R.valid_complement _ ha) (R.valid_complement _ hb)))
    (contains_empty := R.contains_empty)
    (contains_singleton := R.contains_singleton)
    (contains_complement := R.contains_complement)
    (contains_intersection := R.contains_intersection)
    (contains_full := fun v => by
      have h1 : contains (complement empty) v = !contains empty v :=
        R.contains_complement _ v R.valid_empty
      have h2 : contains empty v = false := R.contains_empty v
      show contains (complement empty) v = true
      rw [h1, h2]; rfl)
    (contains_union := fun a b v ha hb => by
      have h1 : contains (complement (intersection (complement a) (complement b))) v =
          !contains (intersection (complement a) (complement b)) v :=
        R.contains_complement _ v
          (R.valid_intersection _ _ (R.valid_complement _ ha) (R.valid_complement _ hb))
      have h2 : contains (intersection (complement a) (complement b)) v =
          (contains (complement a) v && contains (complement b) v) :=
        R.contains_intersection _ _ v (R.valid_complement _ ha) (R.valid_complement _ hb)
      have h3 : contains (complement a) v = !contains a v := R.contains_complement _ v ha
      have h4 : contains (complement b) v = !contains b v := R.contains_complement _ v hb
      show contains (complement (intersection (complement a) (complement b))) v =
        (contains a v || contains b v)
      rw [h1, h2, h3, h4, bool_not_and_not_not])
    (isDisjoint_iff := fun a b ha hb => by
      have hi : ∀ v, contains (intersection a b) v = (contains a v && contains b v) :=
        fun v => R.contains_intersection a b v ha hb
      have he : ∀ v, contains empty v = false := R.contains_empty
      have hx : (∀ v, contains (intersection a b) v = contains empty v) →
          intersection a b = empty :=
        R.ext _ _ (R.valid_intersection a b ha hb) R.valid_empty
      show (intersection a b == empty) = true ↔
        ∀ v : V, ¬ (contains a v = true ∧ contains b v = true)
      rw [beq_iff_eq]
      constructor
      · intro h v
        rw [← bool_and_false_iff, ← hi v, h, he v]
      · intro h
        apply hx
        intro v
        rw [hi v, he v, bool_and_false_iff]
        exact h v)
    (subsetOf_iff := fun a b ha hb => by
      have hi : ∀ v, contains (intersection a b) v = (contains a v && contains b v) :=
        fun v => R.contains_intersection a b v ha hb
      have hx : (∀ v, contains a v = contains (intersection a b) v) →
          a = intersection a b :=
        R.ext _ _ ha (R.valid_intersection a b ha hb)
      show (a == intersection a b) = true ↔
        ∀ v : V, contains a v = true → contains b v = true
      rw [beq_iff_eq]
      constructor
      · intro h v
        rw [← bool_eq_and_iff, ← hi v, ← h]
      · intro h
        apply hx
        intro v
        rw [hi v, bool_eq_and_iff]
        exact h v)

end Provided

/-! ### the bit set

The model's `BitSet n` has versions in `Nat`; membership of a version `≥ n` is always false, so
`complement` is only lawful below `n`.  Validity is "the list has length `n`".  The instance over
`Fin n` built from these three lemmas is in VSetInstances.lean. -/

theorem BitSet.contains_complement {n : Nat} (a : BitSet n) (h : a.bits.length = n) (v : Nat)
    (hv : v < n) : (BitSet.complement a).contains v = !a.contains v := by
  rw [← h] at hv
  simp [BitSet.complement, BitSet.contains, List.getD_eq_getElem?_getD, hv]

set_option linter.unusedVariables false in
theorem BitSet.contains_intersection {n : Nat} (a b : BitSet n) (ha : a.bits.length = n)
    (hb : b.bits.length = n) (v : Nat) :
    (BitSet.intersection a b).contains v = (a.contains v && b.contains v) := by
  simp only [BitSet.intersection, BitSet.contains, List.getD_eq_getElem?_getD, List.getElem?_zipWith]
  cases a.bits[v]? <;> cases b.bits[v]? <;> simp

theorem BitSet.ext {n : Nat} (a b : BitSet n) (ha : a.bits.length = n) (hb : b.bits.length = n)
    (h : ∀ v, v < n → a.contains v = b.contains v) : a = b := by
  cases a with | mk as => cases b with | mk bs =>
  simp only [BitSet.contains] at h ha hb
  congr 1
  apply List.ext_getElem (by rw [ha, hb])
  intro i h1 h2
  have := h i (by omega)
  simpa [List.getD_eq_getElem?_getD, h1, h2] using this

namespace Term
variable {S V : Type} [VersionSet S V] [DecidableEq S] [L : LawfulVersionSet S V]

theorem eval_any (c : Option V) : (Term.any : Term S).eval c = true := by
  cases c <;> simp [any, eval, L.contains_empty]

theorem eval_empty (c : Option V) : (Term.empty : Term S).eval c = false := by
  cases c <;> simp [empty, eval, L.contains_empty]

theorem eval_exact (v : V) (c : Option V) : (Term.exact v : Term S).eval c = true ↔ c = some v := by
  cases c <;> simp [exact, eval, L.contains_singleton]

theorem valid_any : (Term.any : Term S).Valid := L.valid_empty
theorem valid_empty : (Term.empty : Term S).Valid := L.valid_empty
theorem valid_exact (v : V) : (Term.exact v : Term S).Valid := L.valid_singleton v

theorem relationWith_exact_ne_inconclusive (t : Term S) (ht : t.Valid) (v : V) :
    t.relationWith (exact v) ≠ .inconclusive := by
  intro h
  rw [relationWith_inconclusive_iff t _ ht (valid_exact v)] at h
  obtain ⟨h1, h2⟩ := h
  apply h2
  intro c hc
  apply h1
  intro c' hc'
  rw [eval_exact] at hc'
  have := hc.2
  rw [eval_exact] at this
  subst this; subst hc'
  exact hc.1

theorem eval_none (t : Term S) : t.eval (none : Option V) = !t.isPositive := by
  cases t <;> simp [eval, isPositive]

theorem negate_negate (t : Term S) : negate (negate t) = t := by
  cases t <;> rfl

theorem isPositive_negate (t : Term S) : (negate t).isPositive = !t.isPositive := by
  cases t <;> rfl

theorem isDisjoint_iff_intersection (t1 t2 : Term S) (h1 : t1.Valid) (h2 : t2.Valid) :
    isDisjoint t1 t2 = true ↔ ∀ c : Option V, (intersection t1 t2).eval c = false := by
  rw [isDisjoint_iff t1 t2 h1 h2]
  refine forall_congr' fun c => ?_
  rw [eval_intersection t1 t2 h1 h2]
  cases t1.eval c <;> cases t2.eval c <;> simp

theorem subsetOf_iff_union (t1 t2 : Term S) (h1 : t1.Valid) (h2 : t2.Valid) :
    subsetOf t1 t2 = true ↔ ∀ c : Option V, (union t1 t2).eval c = t2.eval c := by
  rw [subsetOf_iff t1 t2 h1 h2]
  refine forall_congr' fun c => ?_
  rw [eval_union t1 t2 h1 h2]
  cases t1.eval c <;> cases t2.eval c <;> simp

theorem isDisjoint_comm (t1 t2 : Term S) (h1 : t1.Valid) (h2 : t2.Valid) :
    isDisjoint t1 t2 = isDisjoint t2 t1 := by
  rw [Bool.eq_iff_iff, isDisjoint_iff t1 t2 h1 h2, isDisjoint_iff t2 t1 h2 h1]
  exact forall_congr' fun c => by rw [and_comm]

theorem subsetOf_refl (t : Term S) (h : t.Valid) : subsetOf t t = true :=
  (subsetOf_iff t t h h).2 fun _ hc => hc

theorem subsetOf_trans (t1 t2 t3 : Term S) (h1 : t1.Valid) (h2 : t2.Valid) (h3 : t3.Valid)
    (h12 : subsetOf t1 t2 = true) (h23 : subsetOf t2 t3 = true) : subsetOf t1 t3 = true :=
  (subsetOf_iff t1 t3 h1 h3).2 fun c hc =>
    (subsetOf_iff t2 t3 h2 h3).1 h23 c ((subsetOf_iff t1 t2 h1 h2).1 h12 c hc)

theorem isDisjoint_negate (t : Term S) (h : t.Valid) : isDisjoint t (negate t) = true := by
  rw [isDisjoint_iff t _ h (valid_negate t h)]
  intro c
  rw [eval_negate]
  cases t.eval c <;> simp

theorem eval_union_negate (t : Term S) (h : t.Valid) (c : Option V) :
    (union t (negate t)).eval c = true := by
  rw [eval_union t _ h (valid_negate t h), eval_negate]
  cases t.eval c <;> rfl

set_option linter.unusedVariables false in
/-- De Morgan, as computed by the model.  The two terms are even syntactically equal
(`union_eq_negate_intersection`), so validity is not used. -/
theorem eval_negate_intersection (t1 t2 : Term S) (h1 : t1.Valid) (h2 : t2.Valid) (c : Option V) :
    (negate (intersection t1 t2)).eval c = (union (negate t1) (negate t2)).eval c := by
  rw [union_eq_negate_intersection, negate_negate, negate_negate]

theorem relationWith_satisfied_sound (t o : Term S) (h1 : t.Valid) (h2 : o.Valid)
    (h : relationWith t o = .satisfied) (c : Option V) (hc : o.eval c = true) :
    t.eval c = true :=
  (relationWith_satisfied_iff t o h1 h2).1 h c hc

theorem relationWith_contradicted_sound (t o : Term S) (h1 : t.Valid) (h2 : o.Valid)
    (h : relationWith t o = .contradicted) (c : Option V) (hc : o.eval c = true) :
    t.eval c = false := by
  have := ((relationWith_contradicted_iff t o h1 h2).1 h).2 c
  cases ht : t.eval c
  · rfl
  · exact absurd ⟨ht, hc⟩ this

theorem relationWith_self (t : Term S) (h : t.Valid) : relationWith t t = .satisfied :=
  (relationWith_satisfied_iff t t h h).2 fun _ hc => hc

/-- the legacy `is_disjoint` is unsound: it answers `true` on a pair that is jointly satisfiable -/
theorem legacy_isDisjoint_unsound :
    ¬ (∀ t1 t2 : Term S, t1.Valid → t2.Valid → Legacy.isDisjoint t1 t2 = true →
        ∀ c : Option V, ¬ (t1.eval c = true ∧ t2.eval c = true)) := by
  intro h
  have hw := legacy_isDisjoint_any_any_wrong (S := S) (V := V)
  exact h any any valid_any valid_any hw.1 none ⟨hw.2, hw.2⟩

theorem legacy_isDisjoint_eq (t1 t2 : Term S) (h : t1.isPositive = true ∨ t2.isPositive = true) :
    Legacy.isDisjoint t1 t2 = isDisjoint t1 t2 := by
  cases t1 <;> cases t2 <;> simp_all [Legacy.isDisjoint, isDisjoint, isPositive]

end Term

end Pubgrub
