/-
List-level uniqueness of "join with a separator"
(`List.intercalate`) when the pieces do not contain a distinguished character of the separator.
-/
import PubgrubProofs.Defs

namespace Pubgrub.DisplayStringAux

variable {α : Type}

theorem split_unique {c : α} : ∀ (x1 x2 r1 r2 : List α), c ∉ x1 → c ∉ x2 →
    x1 ++ c :: r1 = x2 ++ c :: r2 → x1 = x2 ∧ r1 = r2
  | [], [], r1, r2, _, _, h => by
    simp only [List.nil_append, List.cons.injEq, true_and] at h
    exact ⟨rfl, h⟩
  | [], b :: x2, r1, r2, _, h2, h => by
    simp only [List.nil_append, List.cons_append, List.cons.injEq] at h
    exact absurd (h.1 ▸ List.mem_cons_self) h2
  | a :: x1, [], r1, r2, h1, _, h => by
    simp only [List.nil_append, List.cons_append, List.cons.injEq] at h
    exact absurd (h.1 ▸ List.mem_cons_self) h1
  | a :: x1, b :: x2, r1, r2, h1, h2, h => by
    simp only [List.cons_append, List.cons.injEq] at h
    have h1' : c ∉ x1 := fun hc => h1 (List.mem_cons_of_mem _ hc)
    have h2' : c ∉ x2 := fun hc => h2 (List.mem_cons_of_mem _ hc)
    obtain ⟨e1, e2⟩ := split_unique x1 x2 r1 r2 h1' h2' h.2
    exact ⟨by rw [h.1, e1], e2⟩

theorem mem_intercalate {sep : List α} {c : α} : ∀ (l : List (List α)),
    c ∈ sep.intercalate l → c ∈ sep ∨ ∃ x ∈ l, c ∈ x
  | [], h => by simp at h
  | [x], h => by
    rw [List.intercalate_singleton] at h
    exact Or.inr ⟨x, List.mem_cons_self, h⟩
  | x :: y :: t, h => by
    rw [List.intercalate_cons_cons, List.mem_append, List.mem_append] at h
    rcases h with (h | h) | h
    · exact Or.inr ⟨x, List.mem_cons_self, h⟩
    · exact Or.inl h
    · rcases mem_intercalate (y :: t) h with h | ⟨z, hz, hc⟩
      · exact Or.inl h
      · exact Or.inr ⟨z, List.mem_cons_of_mem _ hz, hc⟩

theorem intercalate_inj_cons {c : α} {pre post : List α} (hpre : c ∉ pre) :
    ∀ (t1 : List (List α)) (x1 x2 : List α) (t2 : List (List α)),
      (∀ x ∈ x1 :: t1, c ∉ x) → (∀ x ∈ x2 :: t2, c ∉ x) →
      (pre ++ c :: post).intercalate (x1 :: t1) = (pre ++ c :: post).intercalate (x2 :: t2) →
      x1 :: t1 = x2 :: t2
  | [], x1, x2, [], _, _, h => by
    simpa only [List.intercalate_singleton, List.cons.injEq, and_true] using h
  | [], x1, x2, y2 :: t2, h1, _, h => by
    exfalso
    rw [List.intercalate_singleton, List.intercalate_cons_cons] at h
    apply h1 x1 List.mem_cons_self
    rw [h]
    simp
  | y1 :: t1, x1, x2, [], _, h2, h => by
    exfalso
    rw [List.intercalate_singleton, List.intercalate_cons_cons] at h
    apply h2 x2 List.mem_cons_self
    rw [← h]
    simp
  | y1 :: t1, x1, x2, y2 :: t2, h1, h2, h => by
    rw [List.intercalate_cons_cons, List.intercalate_cons_cons] at h
    have e : ∀ (x r : List α), x ++ (pre ++ c :: post) ++ r = (x ++ pre) ++ c :: (post ++ r) := by
      intro x r; simp
    rw [e, e] at h
    have n1 : c ∉ x1 ++ pre := by
      rw [List.mem_append]; rintro (hc | hc)
      · exact h1 x1 List.mem_cons_self hc
      · exact hpre hc
    have n2 : c ∉ x2 ++ pre := by
      rw [List.mem_append]; rintro (hc | hc)
      · exact h2 x2 List.mem_cons_self hc
      · exact hpre hc
    obtain ⟨ea, eb⟩ := split_unique _ _ _ _ n1 n2 h
    have ex : x1 = x2 := List.append_cancel_right ea
    have er := List.append_cancel_left eb
    have := intercalate_inj_cons hpre t1 y1 y2 t2
      (fun x hx => h1 x (List.mem_cons_of_mem _ hx)) (fun x hx => h2 x (List.mem_cons_of_mem _ hx)) er
    rw [ex, this]

theorem intercalate_inj {c : α} {pre post : List α} (hpre : c ∉ pre) (l1 l2 : List (List α))
    (h1 : ∀ x ∈ l1, c ∉ x ∧ x ≠ []) (h2 : ∀ x ∈ l2, c ∉ x ∧ x ≠ [])
    (h : (pre ++ c :: post).intercalate l1 = (pre ++ c :: post).intercalate l2) : l1 = l2 := by
  have ne : ∀ (x : List α) (t : List (List α)), x ≠ [] →
      (pre ++ c :: post).intercalate (x :: t) ≠ [] := by
    intro x t hx
    cases t with
    | nil => simpa using hx
    | cons y t => simp [hx]
  cases l1 with
  | nil =>
    cases l2 with
    | nil => rfl
    | cons x2 t2 =>
      exact absurd h.symm (ne x2 t2 (h2 x2 List.mem_cons_self).2)
  | cons x1 t1 =>
    cases l2 with
    | nil => exact absurd h (ne x1 t1 (h1 x1 List.mem_cons_self).2)
    | cons x2 t2 =>
      exact intercalate_inj_cons hpre t1 x1 x2 t2 (fun x hx => (h1 x hx).1) (fun x hx => (h2 x hx).1) h

theorem map_inj_of_mem {β γ : Type} (f : β → γ) : ∀ (l1 l2 : List β),
    (∀ x ∈ l1, ∀ y ∈ l2, f x = f y → x = y) → l1.map f = l2.map f → l1 = l2
  | [], [], _, _ => rfl
  | [], _ :: _, _, h => by simp at h
  | _ :: _, [], _, h => by simp at h
  | a :: l1, b :: l2, hf, h => by
    simp only [List.map_cons, List.cons.injEq] at h
    rw [hf a List.mem_cons_self b List.mem_cons_self h.1,
      map_inj_of_mem f l1 l2
        (fun x hx y hy => hf x (List.mem_cons_of_mem _ hx) y (List.mem_cons_of_mem _ hy)) h.2]

end Pubgrub.DisplayStringAux
