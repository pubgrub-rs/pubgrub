/-
`Solver.StepTo` as an elimination principle for invariant proofs: one case for each way a step goes on
or returns a solution, and one (`stop`) for all the ways it ends the run without a solution.
-/
import PubgrubProofs.StepSpec

namespace Pubgrub
open VersionSet

variable {P S V M Pr E : Type} [DecidableEq P] [VersionSet S V] [DecidableEq S] [DecidableEq V]
  [LE Pr] [DecidableLE Pr]

theorem isMaximal_spec {q : List (P × Pr)} {p : P} (h : Solver.isMaximal q p = true) :
    ∃ pr, SmallMap.get q p = some pr ∧ ∀ kv ∈ q, kv.2 ≤ pr := by
  unfold Solver.isMaximal at h
  split at h
  · cases h
  · rename_i pr hpr
    refine ⟨pr, hpr, ?_⟩
    intro kv hkv
    rw [List.all_eq_true] at h
    simpa using h kv hkv

namespace Solver

theorem step_cases {motive : SolverState P S V M Pr × Request P S V M Pr E → Prop}
    (s : SolverState P S V M Pr) (a : Answer P S V M Pr E)
    (stop : ∀ s' r, r.isFinal = true → (∀ sel, r ≠ .solution sel) → motive (finish s' r))
    (propagated : ∀ st L, s.phase = .cancel → a = .ok →
      s.st.unitPropagation s.fuel s.next = .ok (st, none) → st.ps.toPrioritize = .ok L →
      motive (match L with
        | [] => ({ s with st := st, phase := .picking [] }, .pick (st.ps.afterPrioritize []).queue)
        | cur :: rest => ({ s with st := st, phase := .prioritizing cur rest [] }, .prioritize cur.1 cur.2)))
    (prioritized : ∀ cur rest acc pr, s.phase = .prioritizing cur rest acc → a = .priority pr →
      motive (match rest with
        | [] => ({ s with phase := .picking (acc ++ [(cur.1, pr)]) },
            .pick (s.st.ps.afterPrioritize (acc ++ [(cur.1, pr)])).queue)
        | nxt :: rest' => ({ s with phase := .prioritizing nxt rest' (acc ++ [(cur.1, pr)]) },
            .prioritize nxt.1 nxt.2)))
    (solved : ∀ acc sel, s.phase = .picking acc → a = .picked none →
      (s.st.ps.afterPrioritize acc).queue.isEmpty = true →
      (s.st.ps.afterPrioritize acc).extractSolution = .ok sel →
      motive (finish { s with st := { s.st with ps := s.st.ps.afterPrioritize acc } } (.solution sel)))
    (popped : ∀ acc p t set, s.phase = .picking acc → a = .picked (some p) →
      isMaximal (s.st.ps.afterPrioritize acc).queue p = true →
      ({ s.st.ps.afterPrioritize acc with queue := SmallMap.remove (s.st.ps.afterPrioritize acc).queue p } :
        PartialSolution P S V Pr).termIntersectionForPackage p = some t →
      Incompat.unwrapPositive t = .ok set →
      motive ({ s with
          st := { s.st with ps := { s.st.ps.afterPrioritize acc with
            queue := SmallMap.remove (s.st.ps.afterPrioritize acc).queue p } },
          next := p, phase := .choosing p t }, .chooseVersion p set))
    (noVersion : ∀ p t inc st, s.phase = .choosing p t → a = .version none →
      Incompat.noVersions (V := V) (M := M) p t = .ok inc → s.st.addIncompatibility inc = .ok st →
      motive (loopAgain s st))
    (fetch : ∀ p t v, s.phase = .choosing p t → a = .version (some v) → t.contains v = true →
      s.added.contains (p, v) = false →
      motive ({ s with added := s.added ++ [(p, v)], phase := .fetching p v }, .getDependencies p v))
    (redecided : ∀ p t v ps, s.phase = .choosing p t → a = .version (some v) → t.contains v = true →
      s.added.contains (p, v) = true → s.st.ps.addDecision s.st.debug p v = .ok ps →
      motive (loopAgain s { s.st with ps := ps }))
    (unavailable : ∀ p v m st, s.phase = .fetching p v → a = .unavailable m →
      s.st.addIncompatibility (Incompat.customVersion p v m) = .ok st → motive (loopAgain s st))
    (available : ∀ p v deps st start stop ps, s.phase = .fetching p v → a = .available deps →
      s.st.addIncompatibilityFromDependencies p v deps = .ok (st, start, stop) →
      st.ps.addVersion st.debug p v ((st.store.drop start).take (stop - start)) = .ok ps →
      motive (loopAgain s { st with ps := ps })) :
    motive (step s a) := by
  have h := step_spec s a
  -- the answer is generalised in `h` only, which leaves the hypotheses alone; both indices of `h` being
  -- variables, `induction` is case analysis without equations to solve
  generalize step s a = x at h
  generalize ha : a = a' at h
  induction h with
  | finished _ hph =>
    have e : s = { s with phase := .finished } := by rw [← hph]
    rw [e]
    exact stop s _ rfl (fun _ h => by cases h)
  | nothingToPrioritize hph hu hL => exact propagated _ [] hph ha hu hL
  | firstPrioritize hph hu hL => exact propagated _ (_ :: _) hph ha hu hL
  | lastPriority pr hph => exact prioritized _ [] _ pr hph ha
  | nextPriority pr hph => exact prioritized _ (_ :: _) _ pr hph ha
  | solution hph he hsel => exact solved _ _ hph ha he hsel
  | toChoose hph hm ht hset => exact popped _ _ _ _ hph ha hm ht hset
  | noVersions hph hinc hadd => exact noVersion _ _ _ _ hph ha hinc hadd
  | toFetch hph hc hnew => exact fetch _ _ _ hph ha hc hnew
  | knownVersion hph hc hnew hps => exact redecided _ _ _ _ hph ha hc hnew hps
  | unavailable m hph hadd => exact unavailable _ _ m _ hph ha hadd
  | available deps hph hadd hps => exact available _ _ deps _ _ _ _ hph ha hadd hps
  | _ => exact stop _ _ rfl (fun _ h => by cases h)

end Solver
end Pubgrub
