/-
The operations of the partial solution keep its terms valid.  Also here, unrelated to validity:
`addDecisionCore`, `addDecision` without its debug assertions, which later files reason about.
-/
import PubgrubProofs.StoreGrowth
set_option linter.unusedSectionVars false
namespace Pubgrub
open VersionSet
variable {P S V M Pr : Type} [DecidableEq P] [VersionSet S V] [DecidableEq S]
  [LawfulVersionSet S V]

theorem bind_eq_ok {ε α β : Type} {x : Except ε α} {f : α → Except ε β} {b : β}
    (h : (x >>= f) = .ok b) : ∃ a, x = .ok a ∧ f a = .ok b := by
  cases x with
  | error e => cases h
  | ok a => exact ⟨a, rfl, h⟩

theorem Incompat.get_valid (W : World P S V M) (root : P) (rv : V) {store : List (Incompat P S V M)}
    (hs : StoreInv W root rv store) {id : Nat} {inc : Incompat P S V M} (hi : store[id]? = some inc)
    {p : P} {t : Term S} (ht : inc.get p = some t) : t.Valid :=
  (hs id inc hi).sets p t (SmallMap.mem_of_get ht)

namespace PartialSolution

theorem addDerivation_termsValid (W : World P S V M) (root : P) (rv : V)
    {ps ps' : PartialSolution P S V Pr} {p : P} {cause : Nat} {store : List (Incompat P S V M)}
    (hs : StoreInv W root rv store) (h : ps.TermsValid)
    (hr : ps.addDerivation p cause store = .ok ps') : ps'.TermsValid := by
  unfold addDerivation at hr
  simp only [bind, Except.bind, pure, Except.pure] at hr
  split at hr
  · cases hr
  rename_i inc hinc
  split at hr
  · cases hr
  rename_i t ht
  have htv : t.negate.Valid :=
    Term.valid_negate _ (Incompat.get_valid W root rv hs (storeGet_ok hinc) (unwrapOr_ok ht))
  split at hr
  · rename_i idx pa hidx hpa
    have hpav := termsValid_of_getPA h hpa
    split at hr
    · cases hr
    · rename_i t0 ht0
      injection hr with hr; subst hr
      have ht0v : t0.Valid := by have := hpav.inter; rwa [ht0] at this
      have hnew := Term.valid_intersection _ _ ht0v htv
      apply termsValid_set h
      refine ⟨hnew, ?_⟩
      intro dd hdd
      simp only [List.mem_append, List.mem_singleton] at hdd
      rcases hdd with hdd | rfl
      · exact hpav.dated dd hdd
      · exact hnew
  · injection hr with hr; subst hr
    intro kv hkv
    simp only [List.mem_append, List.mem_singleton] at hkv
    rcases hkv with hkv | rfl
    · exact h kv hkv
    · refine ⟨htv, ?_⟩
      intro dd hdd
      simp only [List.mem_singleton] at hdd
      subst hdd; exact htv

/-- `addDecision` without its debug assertions -/
def addDecisionCore (ps : PartialSolution P S V Pr) (p : P) (v : V) :
    R (PartialSolution P S V Pr) := do
  let newIdx := ps.currentDecisionLevel
  let dl := ps.currentDecisionLevel + 1
  let oldIdx ← unwrapOr (ps.indexOf p) "Derivations must already exist"
  let pa ← unwrapOr (ps.getPA p) "Derivations must already exist"
  let pa' : PackageAssignments S V :=
    { pa with highest := dl,
              inter := .decision ps.nextGlobalIndex v (Term.exact v) }
  let assignments := ps.assignments.set oldIdx (p, pa')
  let assignments ← if newIdx ≠ oldIdx then swapIndices assignments newIdx oldIdx else pure assignments
  pure { ps with currentDecisionLevel := dl, assignments := assignments,
                 nextGlobalIndex := ps.nextGlobalIndex + 1 }

theorem addDecision_core {ps ps' : PartialSolution P S V Pr} {debug : Bool} {p : P} {v : V}
    (hr : addDecision debug ps p v = .ok ps') : addDecisionCore ps p v = .ok ps' := by
  unfold addDecision at hr
  extract_lets _ _ _ rest check at hr
  -- `rest ()` is the function without its debug assertions, `check ()` the last assertion followed by `rest ()`
  have hrest : rest () = addDecisionCore ps p v := rfl
  have hcheck : check () = .ok ps' → rest () = .ok ps' := by
    intro h
    dsimp only [check] at h
    split at h
    · cases h
    · exact h
  clear_value rest check
  rw [← hrest]
  split at hr
  · split at hr
    · cases hr
    · split at hr
      · cases hr
      · split at hr
        · cases hr
        · exact hcheck hr
  · exact hr

theorem addDecision_termsValid {ps ps' : PartialSolution P S V Pr} {debug : Bool} {p : P} {v : V}
    (h : ps.TermsValid) (hr : addDecision debug ps p v = .ok ps') : ps'.TermsValid := by
  replace hr := addDecision_core hr
  unfold addDecisionCore at hr
  simp only [bind, Except.bind, pure, Except.pure] at hr
  split at hr
  · cases hr
  rename_i oldIdx hold
  split at hr
  · cases hr
  rename_i pa hpa
  have hpav := termsValid_of_getPA h (unwrapOr_ok hpa)
  have hset : ∀ kv ∈ ps.assignments.set oldIdx
      (p, { pa with highest := ps.currentDecisionLevel + 1,
                    inter := .decision ps.nextGlobalIndex v (Term.exact v) }), kv.2.TermsValid :=
    termsValid_set h _ _ ⟨Term.valid_exact v, hpav.dated⟩
  split at hr
  · split at hr
    · cases hr
    rename_i asg hasg
    injection hr with hr; subst hr
    exact termsValid_swap hset _ _ hasg
  · injection hr with hr; subst hr; exact hset

theorem addVersion_termsValid {ps ps' : PartialSolution P S V Pr} {debug : Bool} {p : P} {v : V}
    {news : List (Incompat P S V M)}
    (h : ps.TermsValid) (hr : addVersion debug ps p v news = .ok ps') : ps'.TermsValid := by
  unfold addVersion at hr
  split at hr
  · exact addDecision_termsValid h hr
  · simp only at hr
    split at hr
    · exact addDecision_termsValid h hr
    · injection hr with hr; subst hr; exact h

theorem afterPrioritize_termsValid {ps : PartialSolution P S V Pr} (acc : List (P × Pr))
    (h : ps.TermsValid) : (ps.afterPrioritize acc).TermsValid := h

end PartialSolution

theorem filterMapM_ok_mem {α β : Type} (f : α → R (Option β)) :
    ∀ (l : List α) (l' : List β), l.filterMapM f = .ok l' → ∀ y ∈ l', ∃ x ∈ l, f x = .ok (some y) := by
  intro l
  induction l with
  | nil =>
    intro l' h y hy
    simp only [List.filterMapM_nil, pure, Except.pure] at h
    injection h with h; subst h; simp at hy
  | cons a l ih =>
    intro l' h y hy
    rw [List.filterMapM_cons] at h
    simp only [bind, Except.bind, pure, Except.pure] at h
    split at h
    · cases h
    rename_i o ho
    cases o with
    | none =>
      simp only at h
      obtain ⟨x, hx, hfx⟩ := ih l' h y hy
      exact ⟨x, List.mem_cons_of_mem _ hx, hfx⟩
    | some b =>
      simp only at h
      split at h
      · cases h
      rename_i l'' hl''
      injection h with h; subst h
      rcases List.mem_cons.1 hy with rfl | hy
      · exact ⟨a, List.mem_cons_self, ho⟩
      · obtain ⟨x, hx, hfx⟩ := ih l'' hl'' y hy
        exact ⟨x, List.mem_cons_of_mem _ hx, hfx⟩

namespace PartialSolution

theorem mem_popWhileAbove (dl : Nat) (l : List (DatedDerivation S)) (dd : DatedDerivation S)
    (h : dd ∈ popWhileAbove dl l) : dd ∈ l := by
  unfold popWhileAbove at h
  split at h
  · exact h
  · rw [List.mem_reverse] at h
    have := (List.dropWhile_sublist _).mem h
    simpa [or_comm] using this

theorem backtrack_termsValid {ps ps' : PartialSolution P S V Pr} {dl : Nat}
    (h : ps.TermsValid) (hr : ps.backtrack dl = .ok ps') : ps'.TermsValid := by
  unfold backtrack at hr
  simp only [bind, Except.bind, pure, Except.pure] at hr
  split at hr
  · cases hr
  rename_i asg hasg
  injection hr with hr; subst hr
  intro kv hkv
  obtain ⟨x, hx, hfx⟩ := filterMapM_ok_mem _ _ _ hasg kv hkv
  obtain ⟨p, pa⟩ := x
  have hpa := h _ hx
  simp only at hfx
  split at hfx
  · cases hfx
  split at hfx
  · injection hfx with hfx; injection hfx with hfx; subst hfx; exact hpa
  split at hfx
  · cases hfx
  rename_i last hlast
  injection hfx with hfx; injection hfx with hfx; subst hfx
  have hmem : ∀ dd ∈ popWhileAbove dl pa.dated, dd.accumulated.Valid :=
    fun dd hdd => hpa.dated dd (mem_popWhileAbove dl _ dd hdd)
  have hl := List.mem_of_getLast? (unwrapOr_ok hlast)
  exact ⟨hmem last hl, hmem⟩

end PartialSolution
end Pubgrub
