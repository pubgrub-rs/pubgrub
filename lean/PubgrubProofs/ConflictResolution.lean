/-
Conflict resolution and unit propagation keep `TInv` and do not reach a listed panic site: what
`relation = almostSatisfied` means, the prior cause of a satisfied incompatibility is satisfied, the loops.
-/
import PubgrubProofs.BacktrackInvariant

set_option linter.unusedSectionVars false

namespace Pubgrub
open VersionSet

section
variable {P S V M Pr : Type} [DecidableEq P] [VersionSet S V] [DecidableEq S] [LawfulVersionSet S V]

namespace Incompat

theorem relationGo_almost_of_almost (terms : P → Option (Term S)) (p0 p : P) :
    ∀ (l : List (P × Term S)), relationGo terms (.almostSatisfied p0) l = .almostSatisfied p →
      p = p0 ∧ ∀ q t, (q, t) ∈ l → ∃ o, terms q = some o ∧ t.relationWith o = .satisfied := by
  intro l
  induction l with
  | nil =>
    intro h
    simp only [relationGo] at h
    injection h with h
    exact ⟨h.symm, fun q t hm => by cases hm⟩
  | cons x rest ih =>
    intro h
    obtain ⟨q0, t0⟩ := x
    unfold relationGo at h
    split at h
    · rename_i hrel
      obtain ⟨h1, h2⟩ := ih h
      refine ⟨h1, ?_⟩
      intro q t hm
      rcases List.mem_cons.1 hm with e | e
      · injection e with e1 e2; subst e1; subst e2
        exact Option.map_eq_some_iff.1 hrel
      · exact h2 q t e
    · cases h
    · rw [if_neg (by intro e; cases e)] at h; cases h

theorem relationGo_almost (terms : P → Option (Term S)) (p : P) :
    ∀ (l : List (P × Term S)), relationGo terms .satisfied l = .almostSatisfied p →
      (∀ q t, (q, t) ∈ l → q ≠ p → ∃ o, terms q = some o ∧ t.relationWith o = .satisfied) ∧
      ∃ t, (p, t) ∈ l ∧ (terms p = none ∨ ∃ o, terms p = some o ∧ t.relationWith o = .inconclusive) := by
  intro l
  induction l with
  | nil => intro h; simp only [relationGo] at h; cases h
  | cons x rest ih =>
    intro h
    obtain ⟨q0, t0⟩ := x
    unfold relationGo at h
    split at h
    · rename_i hrel
      obtain ⟨h1, t, h2, h3⟩ := ih h
      refine ⟨?_, t, List.mem_cons_of_mem _ h2, h3⟩
      intro q t' hm hq
      rcases List.mem_cons.1 hm with e | e
      · injection e with e1 e2; subst e1; subst e2
        exact Option.map_eq_some_iff.1 hrel
      · exact h1 q t' e hq
    · cases h
    · rename_i hns hnc
      rw [if_pos rfl] at h
      obtain ⟨h1, h2⟩ := relationGo_almost_of_almost terms q0 p rest h
      subst h1
      refine ⟨fun q t hm hq => ?_, t0, List.mem_cons_self, ?_⟩
      · rcases List.mem_cons.1 hm with e | e
        · injection e with e1 _; exact absurd e1 hq
        · exact h2 q t e
      · cases ho : terms p with
        | none => exact Or.inl rfl
        | some o =>
          right
          refine ⟨o, rfl, ?_⟩
          rw [ho] at hns hnc
          simp only [Option.map_some] at hns hnc
          cases hr : t0.relationWith o with
          | satisfied => exact absurd (by rw [hr]) (hns)
          | contradicted => exact absurd (by rw [hr]) (hnc)
          | inconclusive => rfl

end Incompat

theorem Incompat.priorCause_terms {ia ib r : Incompat P S V M} (na : SmallMap.NoDupKeys ia.terms)
    (nb : SmallMap.NoDupKeys ib.terms) {a b : Nat} {pivot : P} (hr : priorCause a b ia ib pivot = .ok r)
    {R : P → Term S → Prop}
    (ha : ∀ k t, (k, t) ∈ ia.terms → k ≠ pivot → R k t)
    (hb : ∀ k t, (k, t) ∈ ib.terms → k ≠ pivot → R k t)
    (hinter : ∀ k t u, (k, t) ∈ ia.terms → (k, u) ∈ ib.terms → R k t → R k u → R k (t.intersection u))
    (hpivot : ∀ t1 t2, (pivot, t1) ∈ ia.terms → (pivot, t2) ∈ ib.terms → t1.union t2 ≠ (Term.any : Term S) →
      R pivot (t1.union t2)) :
    ∀ k t, (k, t) ∈ r.terms → R k t := by
  obtain ⟨t1, t2, merged, h1, h2, hnm, hm, _, hterms⟩ := priorCause_spec ia ib na nb a b pivot r hr
  have hmerged : ∀ k t, (k, t) ∈ merged → R k t := by
    intro k t hkt
    have hg := SmallMap.get_of_mem hnm hkt
    rw [hm k] at hg
    split at hg
    · cases hg
    rename_i hk
    cases hx : SmallMap.get ia.terms k <;> cases hy : SmallMap.get ib.terms k <;>
      rw [hx, hy] at hg <;> simp only [SmallMap.mergeOpt, Option.some.injEq, reduceCtorEq] at hg
    · subst hg; exact hb k _ (SmallMap.mem_of_get hy) hk
    · subst hg; exact ha k _ (SmallMap.mem_of_get hx) hk
    · subst hg
      exact hinter k _ _ (SmallMap.mem_of_get hx) (SmallMap.mem_of_get hy)
        (ha k _ (SmallMap.mem_of_get hx) hk) (hb k _ (SmallMap.mem_of_get hy) hk)
  intro k t hkt
  rw [hterms] at hkt
  split at hkt
  · rename_i hne
    rcases (SmallMap.mem_insert_iff _ hnm _ _ _ _).1 hkt with ⟨rfl, rfl⟩ | ⟨_, hkt⟩
    · exact hpivot t1 t2 (SmallMap.mem_of_get h1) (SmallMap.mem_of_get h2) hne
    · exact hmerged k t hkt
  · exact hmerged k t hkt

theorem State.CauseInv.satBefore (W : World P S V M) (root : P) (rv : V) {st : State P S V M Pr}
    (hs : SInv W root rv st) (hc : st.CauseInv) {p : P} {pa : PackageAssignments S V} {dd : DatedDerivation S}
    (hpa : (p, pa) ∈ st.ps.assignments) (hdd : dd ∈ pa.dated) {causeInc : Incompat P S V M}
    (hcause : st.store[dd.cause]? = some causeInc) {k : P} {b : Term S} (hb : (k, b) ∈ causeInc.terms)
    (hk : k ≠ p) : ∃ par, st.ps.getPA k = some par ∧ par.SatBefore b dd.globalIndex := by
  obtain ⟨inc0, g1, _, g3⟩ := hc p pa hpa dd hdd
  rw [hcause] at g1; injection g1 with g1; subst g1
  obtain ⟨par, tb, k1, k2, k3⟩ := g3 k b hb hk
  exact ⟨par, k1, tb, k2, Term.imp_of_subsetOf
    (PackageAssignments.termBefore_valid (hs.ps _ (SmallMap.mem_of_get k1)) k2)
    ((hs.store _ _ hcause).sets _ _ hb) k3⟩

theorem satisfies_priorCause (W : World P S V M) (root : P) (rv : V) {st : State P S V M Pr}
    (hs : SInv W root rv st) (hp : PInv st) (ht : TInv root rv st)
    {inc causeInc prior : Incompat P S V M} {cur c : Nat} (hinc : st.store[cur]? = some inc)
    (hcause : st.store[c]? = some causeInc) (hsat : st.ps.Satisfies inc)
    {pkg : P} {pa : PackageAssignments S V} {dd : DatedDerivation S} (hpa : st.ps.getPA pkg = some pa)
    (hdd : dd ∈ pa.dated) (hc : dd.cause = c)
    (hprior : Incompat.priorCause cur c inc causeInc pkg = .ok prior) : st.ps.Satisfies prior := by
  have gi := hs.store cur inc hinc
  have gc := hs.store c causeInc hcause
  subst hc
  refine Incompat.priorCause_terms gi.nodup gc.nodup hprior
    (R := fun k t => ∃ par, st.ps.getPA k = some par ∧ par.inter.term.Imp t) (fun k a ha _ => hsat k a ha) ?_ ?_ ?_
  · intro k b hb hk
    obtain ⟨par, k1, k2⟩ := ht.cause.satBefore W root rv hs (SmallMap.mem_of_get hpa) hdd hcause hb hk
    have hparm := SmallMap.mem_of_get k1
    obtain ⟨j, _, hwf, _⟩ := hp.wf.entry_of_mem hparm
    exact ⟨par, k1, k2.imp hwf (ht.shrink _ hparm)⟩
  · intro k a b ha hb ⟨par, k1, k2⟩ ⟨par', k3, k4⟩
    rw [k1] at k3; injection k3 with k3; subst k3
    exact ⟨par, k1, k2.inter (gi.sets _ _ ha) (gc.sets _ _ hb) k4⟩
  · intro t1 t2 h1 h2 _
    obtain ⟨par, k1, k2⟩ := hsat pkg t1 h1
    exact ⟨par, k1, k2.union_left (gi.sets _ _ h1) (gc.sets _ _ h2)⟩

theorem Incompat.priorCause_ok {a b : Incompat P S V M} {p : P} (id1 id2 : Nat)
    (ha : (a.get p).isSome = true) (hb : (b.get p).isSome = true) :
    ∃ r, Incompat.priorCause id1 id2 a b p = .ok r := by
  unfold Incompat.get at ha hb
  cases h1 : SmallMap.get a.terms p with
  | none => rw [h1] at ha; cases ha
  | some t1 =>
    cases h2 : SmallMap.get b.terms p with
    | none => rw [h2] at hb; cases hb
    | some t2 =>
      unfold Incompat.priorCause
      simp only [SmallMap.splitOne, h1, h2, unwrapOr, bind, Except.bind, pure, Except.pure]
      exact ⟨_, rfl⟩


theorem PartialSolution.addDerivation_ok {ps : PartialSolution P S V Pr} {p : P} {id : Nat}
    {store : List (Incompat P S V M)} {inc : Incompat P S V M} (hinc : store[id]? = some inc)
    (hget : (inc.get p).isSome = true) (hund : ∀ pa, ps.getPA p = some pa → ∃ t, pa.inter = .derivations t) :
    ∃ ps', ps.addDerivation p id store = .ok ps' := by
  cases hg : inc.get p with
  | none => rw [hg] at hget; cases hget
  | some t =>
    unfold PartialSolution.addDerivation
    simp only [storeGet_some hinc, hg, unwrapOr, bind, Except.bind, pure, Except.pure]
    cases hpa : ps.getPA p with
    | none =>
      rw [PartialSolution.indexOf_none_of_getPA hpa]
      exact ⟨_, rfl⟩
    | some pa =>
      obtain ⟨i, hi, _⟩ := PartialSolution.getElem_of_getPA hpa
      obtain ⟨t0, ht0⟩ := hund pa hpa
      rw [hi]
      simp only [ht0]
      exact ⟨_, rfl⟩

theorem PartialSolution.satisfies_of_relation (W : World P S V M) (root : P) (rv : V)
    {st : State P S V M Pr} (hs : SInv W root rv st) {id : Nat} {inc : Incompat P S V M}
    (hinc : st.store[id]? = some inc) (hrel : st.ps.relation inc = .satisfied) : st.ps.Satisfies inc := by
  intro q t hqt
  obtain ⟨o, ho, hsat⟩ := Incompat.relationGo_satisfied_terms _ inc.terms hrel q t hqt
  simp only [PartialSolution.termIntersectionForPackage, Option.map_eq_some_iff] at ho
  obtain ⟨pa, hpa, rfl⟩ := ho
  exact ⟨pa, hpa, Term.imp_of_relationWith ((hs.store id inc hinc).sets q t hqt)
    (hs.ps _ (SmallMap.mem_of_get hpa)).inter hsat⟩

theorem terminal_of_level0 (W : World P S V M) (root : P) (rv : V) {st : State P S V M Pr}
    (hs : SInv W root rv st) (ht : TInv root rv st) {cur : Nat} {inc : Incompat P S V M}
    (hinc : st.store[cur]? = some inc) (hsat : st.ps.Satisfies inc) (h0 : st.ps.currentDecisionLevel = 0) :
    inc.isTerminal root rv = true := by
  obtain ⟨_, g2, g3⟩ := ht.rootinv.lvl0 h0
  have hkeys := g2 inc (List.mem_of_getElem? hinc)
  have hn := (hs.store cur inc hinc).nodup
  cases hT : inc.terms with
  | nil => unfold Incompat.isTerminal; rw [hT]
  | cons x xs =>
    obtain ⟨q, t⟩ := x
    have hqm : (q, t) ∈ inc.terms := by rw [hT]; exact List.mem_cons_self
    have hq : q = root := hkeys (q, t) hqm
    subst hq
    have h1 := SmallMap.eq_singleton_of_keys hn hkeys hqm
    obtain ⟨pa, hpa, himp⟩ := hsat q t hqm
    obtain ⟨_, hint⟩ := g3 _ (SmallMap.mem_of_get hpa)
    simp only at hint
    rw [hint] at himp
    simp only [AssignInter.term] at himp
    unfold Incompat.isTerminal
    rw [h1]
    simp only [decide_true, Bool.true_and]
    exact (Term.exact_imp_iff t rv).1 himp

theorem tinv_addDerivation (W : World P S V M) (root : P) (rv : V) {st st' : State P S V M Pr}
    (hs : SInv W root rv st) (hp : PInv st) (ht : TInv root rv st) {id : Nat} {inc : Incompat P S V M}
    (hinc : st.store[id]? = some inc) {p : P} {ps' : PartialSolution P S V Pr}
    (hps : st.ps.addDerivation p id st.store = .ok ps')
    (hnew : ∀ r tr, (r, tr) ∈ inc.terms → r ≠ p → ∃ par, st.ps.getPA r = some par ∧ par.inter.term.Imp tr)
    (hroot : st.ps.currentDecisionLevel = 0 → p = root ∧ st.ps.assignments = [])
    (e1 : st'.ps = ps') (e2 : st'.store = st.store) : TInv root rv st' := by
  obtain ⟨inc', t0, t', pa', hinc', ht0, hnone, hstep⟩ :=
    PartialSolution.addDerivation_step W root rv hs.store hp.wf.wf hps
  rw [hinc] at hinc'; injection hinc' with hinc'; subst hinc'
  exact tinv_deriv W root rv hs hp ht hstep hinc ht0 hnone hnew hroot e1 e2

theorem State.resolve_step (W : World P S V M) (root : P) (rv : V) {st : State P S V M Pr}
    (hs : SInv W root rv st) (hp : PInv st) (ht : TInv root rv st)
    {inc causeInc prior : Incompat P S V M} {cur c : Nat} (hinc : st.store[cur]? = some inc)
    (hcause : st.store[c]? = some causeInc) (hsat : st.ps.Satisfies inc)
    (hlvl : st.ps.currentDecisionLevel ≠ 0)
    {pkg : P} {pa : PackageAssignments S V} {dd : DatedDerivation S} (hpa : st.ps.getPA pkg = some pa)
    (hdd : dd ∈ pa.dated) (hc : dd.cause = c)
    (hprior : Incompat.priorCause cur c inc causeInc pkg = .ok prior) :
    SInv W root rv ({ st with store := st.store ++ [prior] } : State P S V M Pr) ∧
    PInv ({ st with store := st.store ++ [prior] } : State P S V M Pr) ∧
    TInv root rv ({ st with store := st.store ++ [prior] } : State P S V M Pr) ∧
    (st.store ++ [prior])[st.store.length]? = some prior ∧ st.ps.Satisfies prior := by
  have gp := Incompat.priorCause_good W root rv st.store cur c inc causeInc hinc hcause (hs.store cur inc hinc)
    (hs.store _ _ hcause) pkg prior hprior st.store.length (List.getElem?_eq_some_iff.1 hinc).1
    (List.getElem?_eq_some_iff.1 hcause).1
  refine ⟨⟨storeInv_push W root rv st.store prior hs.store gp, hs.root, hs.rv, hs.ps⟩, hp.storeAppend [prior],
    ht.storeExt rfl (fun i inc' hi => ?_) (fun e => ?_) (fun h0 => absurd h0 hlvl), ?_,
    satisfies_priorCause W root rv hs hp ht hinc hcause hsat hpa hdd hc hprior⟩
  · show (st.store ++ [prior])[i]? = some inc'
    rw [List.getElem?_append_left (List.getElem?_eq_some_iff.1 hi).1]; exact hi
  · have := SmallMap.mem_of_get hpa
    rw [e] at this; cases this
  · rw [List.getElem?_append_right (Nat.le_refl _)]; simp

namespace State

theorem resolution_step {W : World P S V M} {root : P} {rv : V} {st : State P S V M Pr} {cur c : Nat}
    {inc : Incompat P S V M} {pkg : P}
    (hs : SInv W root rv st) (hp : PInv st) (ht : TInv root rv st) (hinc : st.store[cur]? = some inc)
    (hsat : st.ps.Satisfies inc) (hlvl : st.ps.currentDecisionLevel ≠ 0)
    (hpost : SearchPost st.ps inc (pkg, .sameDecisionLevels c)) :
    ∃ causeInc prior, st.store[c]? = some causeInc ∧ (inc.get pkg).isSome = true ∧
      (causeInc.get pkg).isSome = true ∧ Incompat.priorCause cur c inc causeInc pkg = .ok prior ∧
      SInv W root rv ({ st with store := st.store ++ [prior] } : State P S V M Pr) ∧
      PInv ({ st with store := st.store ++ [prior] } : State P S V M Pr) ∧
      TInv root rv ({ st with store := st.store ++ [prior] } : State P S V M Pr) ∧
      (st.store ++ [prior])[st.store.length]? = some prior ∧ st.ps.Satisfies prior := by
  obtain ⟨hgetp, pa, dd, hpa, hdd, hc⟩ := hpost
  simp only at hgetp hpa hc
  obtain ⟨causeInc, hcause, hcget, _⟩ := ht.cause pkg pa (SmallMap.mem_of_get hpa) dd hdd
  rw [hc] at hcause
  obtain ⟨prior, hprior⟩ := Incompat.priorCause_ok cur c hgetp hcget
  exact ⟨causeInc, prior, hcause, hgetp, hcget, hprior,
    resolve_step W root rv hs hp ht hinc hcause hsat hlvl hpa hdd hc hprior⟩

theorem conflictResolution_safe (W : World P S V M) (root : P) (rv : V) :
    ∀ (fuel : Nat) (st : State P S V M Pr) (cur : Nat) (changed : Bool),
    SInv W root rv st → PInv st → TInv root rv st →
    (∃ inc, st.store[cur]? = some inc ∧ st.ps.Satisfies inc) →
    Safe (conflictResolution fuel st cur changed)
      (fun x => ∀ pkg rc, x.2 = .ok (pkg, rc) → TInv root rv x.1 ∧ AfterConflict x.1 pkg rc) := by
  intro fuel
  induction fuel with
  | zero => intro st cur changed _ _ _ _; unfold conflictResolution; exact Safe.fuel
  | succ fuel ih =>
    intro st cur changed hs hp ht ⟨inc, hinc, hsat⟩
    have hw := hp.wf
    have gi := hs.store cur inc hinc
    unfold conflictResolution
    refine Safe.bind_ok (storeGet_some hinc) ?_
    have hterm : inc.isTerminal st.rootPackage st.rootVersion = inc.isTerminal root rv := by
      rw [hs.root, hs.rv]
    rw [hterm]
    split
    · exact Safe.ok (fun pkg rc h => by cases h)
    rename_i hnt
    have hnt' : inc.isTerminal root rv = false := by
      cases h : inc.isTerminal root rv with
      | true => exact absurd h hnt
      | false => rfl
    have hlvl : st.ps.currentDecisionLevel ≠ 0 := by
      intro h0
      rw [terminal_of_level0 W root rv hs ht hinc hsat h0] at hnt'; cases hnt'
    refine Safe.bind (PartialSolution.satisfierSearch_safe (TInv.searchCtx hs hp ht) gi.nodup gi.sets hsat hnt') ?_
    intro ⟨pkg, search⟩ hss hpost
    dsimp only
    cases search with
    | differentDecisionLevels prev =>
      dsimp only
      refine Safe.bind (backtrack_safe hp cur changed prev) ?_
      intro st1 hst1 ⟨hbt, hstore⟩
      refine Safe.ok ?_
      intro pkg' rc' h
      injection h with h; injection h with h1 h2; subst h1; subst h2
      have hpost' := hpost
      obtain ⟨_, h1, ⟨pa, hpa, hlt⟩, _⟩ := hpost'
      simp only at h1 hpa hlt
      have hdl : prev ≤ st.ps.currentDecisionLevel := by
        have := PartialSolution.highest_le hw.wf hpa; omega
      have hp1 := (backtrack_pinv hp hdl hst1).1
      exact ⟨tinv_backtrack hp ht hbt h1 hp1.wf rfl hstore,
        afterConflict_backtrack hp ht.shrink hbt hinc hpost rfl hstore⟩
    | sameDecisionLevels c =>
      dsimp only
      obtain ⟨causeInc, prior, hcause, _, _, hprior, hs2, hp2, ht2, hat, hsat2⟩ :=
        resolution_step hs hp ht hinc hsat hlvl hpost
      refine Safe.bind_ok (storeGet_some hcause) (Safe.bind_ok hprior ?_)
      exact ih _ _ _ hs2 hp2 ht2 ⟨prior, hat, hsat2⟩


theorem almost_derivation (W : World P S V M) (root : P) (rv : V) {st : State P S V M Pr}
    (hs : SInv W root rv st) (hp : PInv st) (ht : TInv root rv st) {id : Nat} {inc : Incompat P S V M}
    (hinc : st.store[id]? = some inc) {p : P} (hrel : st.ps.relation inc = .almostSatisfied p) :
    (∃ ps', st.ps.addDerivation p id st.store = .ok ps') ∧
    ∀ ps', st.ps.addDerivation p id st.store = .ok ps' →
      ∀ st' : State P S V M Pr, st'.ps = ps' → st'.store = st.store → TInv root rv st' := by
  have hw := hp.wf
  have gi := hs.store id inc hinc
  obtain ⟨hoth, t, hpt, hself⟩ := Incompat.relationGo_almost _ p inc.terms hrel
  have hget : inc.get p = some t := SmallMap.get_of_mem gi.nodup hpt
  have htv : t.Valid := gi.sets p t hpt
  -- the term of the package is not a single version: that would be satisfied or contradicted
  have hnotexact : ∀ pa v, st.ps.getPA p = some pa → pa.inter.term = Term.exact v → False := by
    intro pa v hpa hpat
    have hterm : st.ps.termIntersectionForPackage p = some (Term.exact v) := by
      simp only [PartialSolution.termIntersectionForPackage, hpa, Option.map_some, hpat]
    rcases hself with hn | ⟨o, ho, hinc'⟩
    · rw [hterm] at hn; cases hn
    · rw [hterm] at ho; injection ho with ho; subst ho
      exact Term.relationWith_exact_ne_inconclusive t htv v hinc'
  have hund : ∀ pa, st.ps.getPA p = some pa → ∃ t0, pa.inter = .derivations t0 := by
    intro pa hpa
    obtain ⟨i, _, hwf, _⟩ := hw.entry_of_getPA hpa
    rcases hwf.inter_cases with ⟨g, v, h1, _⟩ | ⟨t0, l, f, h1, _⟩
    · exact (hnotexact pa v hpa (by rw [h1]; rfl)).elim
    · exact ⟨t0, h1⟩
  have hsome : (inc.get p).isSome = true := by rw [hget]; rfl
  refine ⟨PartialSolution.addDerivation_ok hinc hsome hund, ?_⟩
  intro ps' hps st' e1 e2
  refine tinv_addDerivation W root rv hs hp ht hinc hps ?_ ?_ e1 e2
  · intro r tr hr hrp
    obtain ⟨o, ho, hsat⟩ := hoth r tr hr hrp
    simp only [PartialSolution.termIntersectionForPackage, Option.map_eq_some_iff] at ho
    obtain ⟨par, hpar, rfl⟩ := ho
    exact ⟨par, hpar, Term.imp_of_relationWith (gi.sets r tr hr) (hs.ps _ (SmallMap.mem_of_get hpar)).inter hsat⟩
  · intro h0
    obtain ⟨_, g2, g3⟩ := ht.rootinv.lvl0 h0
    have hproot : p = root := g2 inc (List.mem_of_getElem? hinc) (p, t) hpt
    refine ⟨hproot, ?_⟩
    cases hasg : st.ps.assignments with
    | nil => rfl
    | cons x xs =>
      have hxm : x ∈ st.ps.assignments := by rw [hasg]; exact List.mem_cons_self
      obtain ⟨hx1, hx2⟩ := g3 x hxm
      obtain ⟨q, qa⟩ := x
      dsimp only at hx1 hx2
      subst hx1
      exact (hnotexact qa rv (by rw [hproot]; exact PartialSolution.getPA_of_mem hw.wf hxm)
        (by rw [hx2]; rfl)).elim

theorem propagateIncompats_safe (W : World P S V M) (root : P) (rv : V) :
    ∀ (ids : List Nat) (st : State P S V M Pr), SInv W root rv st → PInv st → TInv root rv st →
    Safe (propagateIncompats st ids) (fun x => TInv root rv x.1 ∧
      ∀ id, x.2 = some id → ∃ inc, x.1.store[id]? = some inc ∧ x.1.ps.relation inc = .satisfied) := by
  intro ids
  induction ids with
  | nil =>
    intro st hs hp ht
    unfold propagateIncompats
    exact Safe.ok ⟨ht, fun id h => by cases h⟩
  | cons id rest ih =>
    intro st hs hp ht
    unfold propagateIncompats
    split
    · exact ih st hs hp ht
    split
    · rename_i e he
      exact Safe.error_of_eq he (Safe.storeGet (fun _ _ => trivial))
    rename_i inc hinc
    have hinc' := storeGet_ok hinc
    have hid := storeGet_lt hinc
    split
    · rename_i hrel
      exact Safe.ok ⟨ht, fun id' h => by injection h with h; subst h; exact ⟨inc, hinc', hrel⟩⟩
    · rename_i p hrel
      obtain ⟨⟨ps', hps⟩, hnext⟩ := almost_derivation W root rv hs hp ht hinc' hrel
      rw [hps]
      dsimp only
      refine ih _ ⟨hs.store, hs.root, hs.rv, PartialSolution.addDerivation_termsValid W root rv hs.store hs.ps hps⟩
        (hp.derive hid hps _ _) (hnext ps' hps _ rfl rfl)
    · exact ih _ ⟨hs.store, hs.root, hs.rv, hs.ps⟩ (hp.cacheInsert hid _) (ht.congr rfl rfl)
    · exact ih st hs hp ht

theorem unitPropagationLoop_safe (W : World P S V M) (root : P) (rv : V) :
    ∀ (fuel : Nat) (st : State P S V M Pr), SInv W root rv st → PInv st → TInv root rv st →
    Safe (unitPropagationLoop fuel st) (fun x => x.2 = none → TInv root rv x.1) := by
  intro fuel
  induction fuel with
  | zero => intro st _ _ _; unfold unitPropagationLoop; exact Safe.fuel
  | succ fuel ih =>
    intro st hs hp ht
    unfold unitPropagationLoop
    split
    · exact Safe.ok (fun _ => ht)
    dsimp only
    split
    · exact Safe.panic (by not_listed)
    rename_i ids hids
    have hs0 : SInv W root rv ({ st with buffer := st.buffer.dropLast } : State P S V M Pr) :=
      ⟨hs.store, hs.root, hs.rv, hs.ps⟩
    have hp0 : PInv ({ st with buffer := st.buffer.dropLast } : State P S V M Pr) := ⟨hp.wf, hp.cache⟩
    have ht0 : TInv root rv ({ st with buffer := st.buffer.dropLast } : State P S V M Pr) := ht.congr rfl rfl
    have hprop := propagateIncompats_safe W root rv ids.reverse _ hs0 hp0 ht0
    split
    · rename_i e he
      exact Safe.error_of_eq he hprop.weaken
    · rename_i st1 he
      have hs1 := propagateIncompats_inv W root rv _ _ he hs0
      have hp1 := (propagateIncompats_pinv (o := none) _ _ he hp0).1
      have ht1 := (hprop.of_ok he).1
      exact ih st1 hs1 hp1 ht1
    · rename_i st1 cid he
      have hs1 := propagateIncompats_inv W root rv _ _ he hs0
      have hp1 := (propagateIncompats_pinv (o := none) _ _ he hp0).1
      obtain ⟨ht1, hsat⟩ := hprop.of_ok he
      obtain ⟨inc, hinc, hrel⟩ := hsat cid rfl
      have hcr := conflictResolution_safe W root rv fuel st1 cid false hs1 hp1 ht1
        ⟨inc, hinc, PartialSolution.satisfies_of_relation W root rv hs1 hinc hrel⟩
      split
      · rename_i e he2
        exact Safe.error_of_eq he2 hcr.weaken
      · exact Safe.ok (fun h => by cases h)
      · rename_i st2 pkg rc he2
        obtain ⟨hs2, _⟩ := conflictResolution_inv W root rv _ _ _ _ he2 hs1
        obtain ⟨hp2, _⟩ := conflictResolution_pinv _ _ _ _ he2 hp1
        obtain ⟨ht2, hac⟩ := hcr.of_ok he2 pkg rc rfl
        obtain ⟨inc2, hinc2, hget2, hoth2⟩ := hac.stored
        obtain ⟨ps', hps⟩ := PartialSolution.addDerivation_ok hinc2 hget2 hac.undecided
        rw [hps]
        dsimp only
        refine ih _ ⟨hs2.store, hs2.root, hs2.rv,
            PartialSolution.addDerivation_termsValid W root rv hs2.store hs2.ps hps⟩
          (hp2.derive (List.getElem?_eq_some_iff.1 hinc2).1 hps _ _)
          (tinv_addDerivation W root rv hs2 hp2 ht2 hinc2 hps hoth2 ?_ rfl rfl)
        intro h0
        have := hac.level
        dsimp only at this h0
        omega

theorem unitPropagation_safe (W : World P S V M) (root : P) (rv : V) (fuel : Nat) (st : State P S V M Pr)
    (p : P) (hs : SInv W root rv st) (hp : PInv st) (ht : TInv root rv st) :
    Safe (unitPropagation fuel st p) (fun x => x.2 = none → TInv root rv x.1) := by
  unfold unitPropagation
  exact unitPropagationLoop_safe W root rv fuel _ ⟨hs.store, hs.root, hs.rv, hs.ps⟩ ⟨hp.wf, hp.cache⟩
    (ht.congr rfl rfl)

end State
end

end Pubgrub
