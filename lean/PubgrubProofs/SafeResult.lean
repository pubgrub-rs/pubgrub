/-
The panic sites that property C05 is about, and a Hoare-style predicate on the results of the model's
functions: the value satisfies a postcondition, or the error is not one of these panics.

The predicates on a result `r : R α` (`R = Except Fault`), by the outcomes they allow:

                                      .ok a   panic, listed   panic, unlisted   outOfFuel
  Safe r Q     (here)                 Q a     no              yes               yes
  Safe0 r      (Quiet.lean)           yes     no              yes               yes
  Quiet r      (Quiet.lean)           yes     no              yes               no
  NoPanic r Q  (NoPanicPredicates)    Q a     no              no                yes
  Fine r Q     (NoPanicPredicates)    Q a     yes             no                yes
  NoOOF r      (NoOutOfFuel.lean)     yes     yes             yes               no
  Fueled r Q   (NoOutOfFuel.lean)     Q a     yes             yes               no
-/
import PubgrubModel.PartialSolution


namespace Pubgrub
open VersionSet

/-- the panic sites of `no_satisfier_panic` -/
def listedSites : List String := [
  "find_satisfier: Must exist",
  "satisfier: unreachable, the last assignment should have been a decision",
  "must be a decision",
  "satisfier package not in incompat",
  "satisfier_search: max_by_key().unwrap()",
  "find_previous_satisfier: max_by_key().unwrap()",
  "satisfier_search: satisfier_cause.unwrap()",
  "find_previous_satisfier: get(satisfier_package).unwrap()",
  "find_previous_satisfier: satisfied_map.get().unwrap()",
  "find_previous_satisfier: store[cause].get().unwrap()",
  "prior_cause: split_one(package).unwrap()",
  "prior_cause: satisfier_cause_terms.get(package).unwrap()",
  "backtrack: dated_derivations.last().unwrap()",
  "add_derivation should not be called after a decision",
  "add_derivation: store[cause].get(package).unwrap()"]

def Listed (s : String) : Prop := s ∈ listedSites

/-- closes `¬ Listed "literal"` -/
macro "not_listed" : tactic => `(tactic| (simp [Listed, listedSites]))

/-- the result is a value satisfying `Q`, or an error that is not a listed panic -/
def Safe {α : Type} (r : R α) (Q : α → Prop) : Prop :=
  match r with
  | .ok a => Q a
  | .error (.panic s) => ¬ Listed s
  | .error .outOfFuel => True

namespace Safe
variable {α β : Type}

theorem ok {a : α} {Q : α → Prop} (h : Q a) : Safe (.ok a) Q := h
theorem pure' {a : α} {Q : α → Prop} (h : Q a) : Safe (pure a : R α) Q := h
theorem panic {s : String} {Q : α → Prop} (h : ¬ Listed s) : Safe (.error (.panic s) : R α) Q := h
theorem throw' {s : String} {Q : α → Prop} (h : ¬ Listed s) : Safe (throw (.panic s) : R α) Q := h
theorem fuel {Q : α → Prop} : Safe (.error .outOfFuel : R α) Q := trivial

theorem of_ok {r : R α} {Q : α → Prop} (h : Safe r Q) {a : α} (hr : r = .ok a) : Q a := by
  subst hr; exact h

theorem of_panic {r : R α} {Q : α → Prop} (h : Safe r Q) {s : String} (hr : r = .error (.panic s)) :
    ¬ Listed s := by
  subst hr; exact h

theorem intro {r : R α} {Q : α → Prop} (h1 : ∀ a, r = .ok a → Q a)
    (h2 : ∀ s, r = .error (.panic s) → ¬ Listed s) : Safe r Q := by
  cases r with
  | ok a => exact h1 a rfl
  | error e =>
    cases e with
    | panic s => exact h2 s rfl
    | outOfFuel => trivial

theorem mono {r : R α} {Q Q' : α → Prop} (h : Safe r Q) (hq : ∀ a, r = .ok a → Q a → Q' a) :
    Safe r Q' := by
  cases r with
  | ok a => exact hq a rfl h
  | error e => cases e <;> exact h

theorem bind {x : R α} {f : α → R β} {Q : α → Prop} {Q' : β → Prop} (hx : Safe x Q)
    (hf : ∀ a, x = .ok a → Q a → Safe (f a) Q') : Safe (x >>= f) Q' := by
  cases x with
  | ok a => exact hf a rfl hx
  | error e => cases e <;> exact hx

theorem bind_ok {x : R α} {f : α → R β} {Q' : β → Prop} {a : α} (hx : x = .ok a)
    (hf : Safe (f a) Q') : Safe (x >>= f) Q' := by
  subst hx; exact hf

theorem error_bind {e : Fault} {f : α → R β} : ((.error e : R α) >>= f) = .error e := rfl

theorem unwrapOr {o : Option α} {site : String} {Q : α → Prop} (hn : o = none → ¬ Listed site)
    (hs : ∀ a, o = some a → Q a) : Safe (unwrapOr o site) Q := by
  cases o with
  | none => exact hn rfl
  | some a => exact hs a rfl

/-- an index of the arena: the out-of-bounds panic is not listed -/
theorem storeGet {store : List α} {id : Nat} {Q : α → Prop} (hs : ∀ a, store[id]? = some a → Q a) :
    Safe (storeGet store id) Q :=
  unwrapOr (fun _ => by not_listed) hs

end Safe

theorem unwrapOr_some {α : Type} {o : Option α} {site : String} {a : α} (h : o = some a) :
    unwrapOr o site = .ok a := by subst h; rfl

theorem storeGet_some {α : Type} {store : List α} {id : Nat} {a : α} (h : store[id]? = some a) :
    storeGet store id = .ok a := unwrapOr_some h


end Pubgrub
