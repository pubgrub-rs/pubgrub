/-
`Solver.step` as a transition relation: `StepTo s a x` has one constructor per path through `step`,
carrying the phase it starts from and the results of the model operations it ran, and `step_spec`
says that `step s a` is related to `s` and `a`.  A fact about one step of the coroutine is proved by
cases on `StepTo`, without unfolding `step`.
-/
import PubgrubProofs.SolverDefs

namespace Pubgrub
namespace Solver
variable {P S V M Pr E : Type} [DecidableEq P] [VersionSet S V] [DecidableEq S] [DecidableEq V]
  [LE Pr] [DecidableLE Pr]

theorem unwrapPositive_ok {t : Term S} {set : S} (h : Incompat.unwrapPositive t = .ok set) :
    t = .pos set := by
  cases t <;> simp [Incompat.unwrapPositive] at h
  subst h; rfl

/-- the answer is of the kind the phase waits for -/
def Fits : Phase P S V Pr → Answer P S V M Pr E → Prop
  | .cancel, .ok | .cancel, .error _
  | .prioritizing .., .priority _
  | .picking _, .picked _
  | .choosing .., .version _ | .choosing .., .error _
  | .fetching .., .unavailable _ | .fetching .., .available _ | .fetching .., .error _ => True
  | _, _ => False

inductive StepTo (s : SolverState P S V M Pr) :
    Answer P S V M Pr E → SolverState P S V M Pr × Request P S V M Pr E → Prop
  | finished (a) : s.phase = .finished → StepTo s a (s, .protocolError "already finished")
  | mismatch (a) : s.phase ≠ .finished → ¬ Fits s.phase a →
      StepTo s a (finish s (.protocolError "answer does not fit the pending request"))
  -- should_cancel
  | cancelError (e) : s.phase = .cancel → StepTo s (.error e) (finish s (.errorInShouldCancel e))
  | propagateFault {f} : s.phase = .cancel → s.st.unitPropagation s.fuel s.next = .error f →
      StepTo s .ok (finish s (.fault f))
  | treeFault {st terminal f} : s.phase = .cancel →
      s.st.unitPropagation s.fuel s.next = .ok (st, some terminal) →
      st.buildDerivationTree terminal = .error f → StepTo s .ok (finish { s with st := st } (.fault f))
  | noSolution {st terminal tree} : s.phase = .cancel →
      s.st.unitPropagation s.fuel s.next = .ok (st, some terminal) →
      st.buildDerivationTree terminal = .ok tree →
      StepTo s .ok (finish { s with st := st } (.noSolution tree))
  | toPrioritizeFault {st f} : s.phase = .cancel → s.st.unitPropagation s.fuel s.next = .ok (st, none) →
      st.ps.toPrioritize = .error f → StepTo s .ok (finish { s with st := st } (.fault f))
  | nothingToPrioritize {st} : s.phase = .cancel → s.st.unitPropagation s.fuel s.next = .ok (st, none) →
      st.ps.toPrioritize = .ok [] →
      StepTo s .ok ({ s with st := st, phase := .picking [] }, .pick (st.ps.afterPrioritize []).queue)
  | firstPrioritize {st cur rest} : s.phase = .cancel →
      s.st.unitPropagation s.fuel s.next = .ok (st, none) → st.ps.toPrioritize = .ok (cur :: rest) →
      StepTo s .ok ({ s with st := st, phase := .prioritizing cur rest [] }, .prioritize cur.1 cur.2)
  -- prioritize
  | lastPriority {cur acc} (pr) : s.phase = .prioritizing cur [] acc →
      StepTo s (.priority pr) ({ s with phase := .picking (acc ++ [(cur.1, pr)]) },
        .pick (s.st.ps.afterPrioritize (acc ++ [(cur.1, pr)])).queue)
  | nextPriority {cur nxt rest acc} (pr) : s.phase = .prioritizing cur (nxt :: rest) acc →
      StepTo s (.priority pr)
        ({ s with phase := .prioritizing nxt rest (acc ++ [(cur.1, pr)]) }, .prioritize nxt.1 nxt.2)
  -- pop of the priority queue
  | pickNoneNonempty {acc} : s.phase = .picking acc →
      (s.st.ps.afterPrioritize acc).queue.isEmpty = false →
      StepTo s (.picked none) (finish s (.protocolError "pick: none although the queue is not empty"))
  | extractFault {acc f} : s.phase = .picking acc →
      (s.st.ps.afterPrioritize acc).queue.isEmpty = true →
      (s.st.ps.afterPrioritize acc).extractSolution = .error f →
      StepTo s (.picked none)
        (finish { s with st := { s.st with ps := s.st.ps.afterPrioritize acc } } (.fault f))
  | solution {acc sel} : s.phase = .picking acc →
      (s.st.ps.afterPrioritize acc).queue.isEmpty = true →
      (s.st.ps.afterPrioritize acc).extractSolution = .ok sel →
      StepTo s (.picked none)
        (finish { s with st := { s.st with ps := s.st.ps.afterPrioritize acc } } (.solution sel))
  | pickNotMaximal {acc p} : s.phase = .picking acc →
      isMaximal (s.st.ps.afterPrioritize acc).queue p = false →
      StepTo s (.picked (some p))
        (finish s (.protocolError "pick: the popped package is not maximal in the queue"))
  | pickNoTerm {acc p} : s.phase = .picking acc →
      isMaximal (s.st.ps.afterPrioritize acc).queue p = true →
      (s.st.ps.afterPrioritize acc).termIntersectionForPackage p = none →
      StepTo s (.picked (some p))
        (finish { s with st := { s.st with ps := { s.st.ps.afterPrioritize acc with
            queue := SmallMap.remove (s.st.ps.afterPrioritize acc).queue p } }, next := p }
          (.failure "a package was chosen but we don't have a term."))
  | pickFault {acc p t f} : s.phase = .picking acc →
      isMaximal (s.st.ps.afterPrioritize acc).queue p = true →
      (s.st.ps.afterPrioritize acc).termIntersectionForPackage p = some t →
      Incompat.unwrapPositive t = .error f →
      StepTo s (.picked (some p))
        (finish { s with st := { s.st with ps := { s.st.ps.afterPrioritize acc with
            queue := SmallMap.remove (s.st.ps.afterPrioritize acc).queue p } }, next := p } (.fault f))
  | toChoose {acc p t set} : s.phase = .picking acc →
      isMaximal (s.st.ps.afterPrioritize acc).queue p = true →
      (s.st.ps.afterPrioritize acc).termIntersectionForPackage p = some t →
      Incompat.unwrapPositive t = .ok set →
      StepTo s (.picked (some p))
        ({ s with
            st := { s.st with ps := { s.st.ps.afterPrioritize acc with
              queue := SmallMap.remove (s.st.ps.afterPrioritize acc).queue p } },
            next := p, phase := .choosing p t }, .chooseVersion p set)
  -- choose_version
  | chooseError {p t} (e) : s.phase = .choosing p t →
      StepTo s (.error e) (finish s (.errorChoosingPackageVersion e))
  | noVersionsFault {p t f} : s.phase = .choosing p t →
      Incompat.noVersions (V := V) (M := M) p t = .error f →
      StepTo s (.version none) (finish s (.fault f))
  | noVersionsAddFault {p t inc f} : s.phase = .choosing p t → Incompat.noVersions p t = .ok inc →
      s.st.addIncompatibility inc = .error f → StepTo s (.version none) (finish s (.fault f))
  | noVersions {p t inc st} : s.phase = .choosing p t → Incompat.noVersions p t = .ok inc →
      s.st.addIncompatibility inc = .ok st → StepTo s (.version none) (loopAgain s st)
  | versionOutOfSet {p t v} : s.phase = .choosing p t → t.contains v = false →
      StepTo s (.version (some v))
        (finish s (.failure "choose_package_version picked an incompatible version"))
  | toFetch {p t v} : s.phase = .choosing p t → t.contains v = true → s.added.contains (p, v) = false →
      StepTo s (.version (some v))
        ({ s with added := s.added ++ [(p, v)], phase := .fetching p v }, .getDependencies p v)
  | knownVersionFault {p t v f} : s.phase = .choosing p t → t.contains v = true →
      s.added.contains (p, v) = true → s.st.ps.addDecision s.st.debug p v = .error f →
      StepTo s (.version (some v)) (finish s (.fault f))
  | knownVersion {p t v ps} : s.phase = .choosing p t → t.contains v = true →
      s.added.contains (p, v) = true → s.st.ps.addDecision s.st.debug p v = .ok ps →
      StepTo s (.version (some v)) (loopAgain s { s.st with ps := ps })
  -- get_dependencies
  | fetchError {p v} (e) : s.phase = .fetching p v →
      StepTo s (.error e) (finish s (.errorRetrievingDependencies p v e))
  | unavailableFault {p v f} (m) : s.phase = .fetching p v →
      s.st.addIncompatibility (Incompat.customVersion p v m) = .error f →
      StepTo s (.unavailable m) (finish s (.fault f))
  | unavailable {p v st} (m) : s.phase = .fetching p v →
      s.st.addIncompatibility (Incompat.customVersion p v m) = .ok st →
      StepTo s (.unavailable m) (loopAgain s st)
  | depsFault {p v f} (deps) : s.phase = .fetching p v →
      s.st.addIncompatibilityFromDependencies p v deps = .error f →
      StepTo s (.available deps) (finish s (.fault f))
  | addVersionFault {p v st start stop f} (deps) : s.phase = .fetching p v →
      s.st.addIncompatibilityFromDependencies p v deps = .ok (st, start, stop) →
      st.ps.addVersion st.debug p v ((st.store.drop start).take (stop - start)) = .error f →
      StepTo s (.available deps) (finish { s with st := st } (.fault f))
  | available {p v st start stop ps} (deps) : s.phase = .fetching p v →
      s.st.addIncompatibilityFromDependencies p v deps = .ok (st, start, stop) →
      st.ps.addVersion st.debug p v ((st.store.drop start).take (stop - start)) = .ok ps →
      StepTo s (.available deps) (loopAgain s { st with ps := ps })

theorem step_spec (s : SolverState P S V M Pr) (a : Answer P S V M Pr E) : StepTo s a (step s a) := by
  unfold step
  split
  · exact .finished _ ‹_›
  · exact .cancelError _ ‹_›
  · split
    · exact .propagateFault ‹_› ‹_›
    · split
      · exact .treeFault ‹_› ‹_› ‹_›
      · exact .noSolution ‹_› ‹_› ‹_›
    · split
      · exact .toPrioritizeFault ‹_› ‹_› ‹_›
      · exact .nothingToPrioritize ‹_› ‹_› ‹_›
      · exact .firstPrioritize ‹_› ‹_› ‹_›
  · dsimp only
    split
    · exact .lastPriority _ ‹_›
    · exact .nextPriority _ ‹_›
  · dsimp only
    split
    · split
      next h => exact .pickNoneNonempty ‹_› (by simpa using h)
      next h =>
        simp only [Bool.not_eq_true, Bool.not_eq_false'] at h
        split
        · exact .extractFault ‹_› h ‹_›
        · exact .solution ‹_› h ‹_›
    · split
      next h => exact .pickNotMaximal ‹_› (by simpa using h)
      next h =>
        simp only [Bool.not_eq_true, Bool.not_eq_false'] at h
        split
        · exact .pickNoTerm ‹_› h ‹_›
        · split
          · exact .pickFault ‹_› h ‹_› ‹_›
          · exact .toChoose ‹_› h ‹_› ‹_›
  · exact .chooseError _ ‹_›
  · split
    · exact .noVersionsFault ‹_› ‹_›
    · split
      · exact .noVersionsAddFault ‹_› ‹_› ‹_›
      · exact .noVersions ‹_› ‹_› ‹_›
  · split
    next h => exact .versionOutOfSet ‹_› (by simpa using h)
    next h =>
      simp only [Bool.not_eq_true, Bool.not_eq_false'] at h
      dsimp only
      split
      next hn =>
        simp only [Bool.not_eq_true'] at hn
        exact .toFetch ‹_› h hn
      next hn =>
        simp only [Bool.not_eq_true, Bool.not_eq_false'] at hn
        split
        · exact .knownVersionFault ‹_› h hn ‹_›
        · exact .knownVersion ‹_› h hn ‹_›
  · exact .fetchError _ ‹_›
  · split
    · exact .unavailableFault _ ‹_› ‹_›
    · exact .unavailable _ ‹_› ‹_›
  · split
    · exact .depsFault _ ‹_› ‹_›
    · dsimp only
      split
      · exact .addVersionFault _ ‹_› ‹_› ‹_›
      · exact .available _ ‹_› ‹_› ‹_›
  · -- `split` has left one hypothesis per earlier alternative
    rename_i a _ _ hfin hce hco hpr hpi hche hchn hchs hfe hfu hfa
    refine .mismatch _ hfin fun hf => ?_
    cases hph : s.phase <;> rw [hph] at hf <;> cases a <;> try exact hf
    · exact hco hph rfl
    · exact hce _ hph rfl
    · exact hpr _ _ _ _ hph rfl
    · exact hpi _ _ hph rfl
    · rename_i o
      cases o
      · exact hchn _ _ hph rfl
      · exact hchs _ _ _ hph rfl
    · exact hche _ _ _ hph rfl
    · exact hfu _ _ _ hph rfl
    · exact hfa _ _ _ hph rfl
    · exact hfe _ _ _ hph rfl

end Solver
end Pubgrub
