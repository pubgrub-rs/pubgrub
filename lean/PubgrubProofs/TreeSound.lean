/-
`build_derivation_tree` turns an invariant-satisfying store into a checkable proof (property C03).
-/
import PubgrubProofs.IncompatSound
import PubgrubProofs.TreeDefs
import PubgrubProofs.TreeOf

set_option linter.unusedVariables false

namespace Pubgrub
open VersionSet

variable {P S V M Pr : Type} [DecidableEq P] [VersionSet S V] [DecidableEq S] [LawfulVersionSet S V]

theorem IsTreeOf.checkable (W : World P S V M) (root : P) (rv : V)
    (store : List (Incompat P S V M)) (hinv : StoreInv W root rv store) (sh : Nat → Bool)
    (id : Nat) (t : DerivationTree P S V M) (h : IsTreeOf store sh id t) :
    t.Checkable W root rv ∧ ∃ inc, store[id]? = some inc ∧ t.terms = inc.terms := by
  induction h with
  | external id inc e hs hke =>
    obtain ⟨h1, h2⟩ := (hinv id inc hs).kind.external hke
    exact ⟨.external e h1, inc, hs, h2⟩
  | derived id inc a b c1 c2 hs hkd ha hb ih1 ih2 =>
    obtain ⟨-, -, ia, ib, pivot, r, hsa, hsb, hr, hterms⟩ := (hinv id inc hs).kind.derived hkd
    obtain ⟨hc1, ia', hsa', ht1⟩ := ih1
    obtain ⟨hc2, ib', hsb', ht2⟩ := ih2
    cases hsa.symm.trans hsa'
    cases hsb.symm.trans hsb'
    have ga := hinv a ia hsa
    have gb := hinv b ib hsb
    refine ⟨.derived _ _ _ _ hc1 hc2 fun σ hσ => ?_, inc, hs, rfl⟩
    rw [ht1, ht2]
    exact Incompat.priorCause_entailed ia ib ga.nodup gb.nodup ga.sets gb.sets a b pivot r hr σ
      fun p t hpt => hσ p t (hterms ▸ hpt)

/-- the tree built for an id of an invariant-satisfying store is a checkable proof whose top clause is
the stored incompatibility's terms -/
theorem buildDerivationTree_checkable (W : World P S V M) (root : P) (rv : V)
    (st : State P S V M Pr) (hinv : StoreInv W root rv st.store) (id : Nat)
    (inc : Incompat P S V M) (hid : st.store[id]? = some inc)
    (tree : DerivationTree P S V M) (h : st.buildDerivationTree id = .ok tree) :
    tree.Checkable W root rv ∧ tree.terms = inc.terms := by
  obtain ⟨all, shared, _, ht⟩ := buildDerivationTree_spec st id tree h
  obtain ⟨hc, inc', hs, hterms⟩ := IsTreeOf.checkable W root rv st.store hinv _ id tree ht
  rw [hid] at hs; cases hs
  exact ⟨hc, hterms⟩

/-- the top node forbids the root at the requested version: a terminal clause has all its terms true
in every selection that selects the root at the requested version -/
theorem terminal_forbids_root (root : P) (rv : V) (inc : Incompat P S V M)
    (ht : inc.isTerminal root rv = true) (σ : P → Option V) (hσ : σ root = some rv) :
    TermsTrue σ inc.terms := by
  unfold Incompat.isTerminal at ht
  intro p t hpt
  split at ht
  · rename_i h0; rw [h0] at hpt; simp at hpt
  · rename_i p' t' h1
    rw [h1] at hpt
    simp only [List.mem_singleton, Prod.mk.injEq] at hpt
    obtain ⟨rfl, rfl⟩ := hpt
    simp only [Bool.and_eq_true, decide_eq_true_eq] at ht
    obtain ⟨rfl, hc⟩ := ht
    rw [hσ, ← Term.contains_eq_eval]; exact hc
  · simp at ht

/-- shared ids: all occurrences of one id are the same subtree -/
theorem buildDerivationTree_shared_same (W : World P S V M) (root : P) (rv : V)
    (st : State P S V M Pr) (hinv : StoreInv W root rv st.store) (id : Nat)
    (tree : DerivationTree P S V M) (h : st.buildDerivationTree id = .ok tree)
    (k : Nat) (t1 t2 : DerivationTree P S V M)
    (h1 : (some k, t1) ∈ tree.derivedNodes) (h2 : (some k, t2) ∈ tree.derivedNodes) : t1 = t2 := by
  obtain ⟨all, shared, _, ht⟩ := buildDerivationTree_spec st id tree h
  exact (ht.derivedNodes k t1 h1).1.functional (ht.derivedNodes k t2 h2).1

theorem TreeAux.causesBelow_of_storeInv (W : World P S V M) (root : P) (rv : V)
    (store : List (Incompat P S V M)) (hinv : StoreInv W root rv store) : CausesBelow store := by
  intro j inc a b hs hc
  have hk : inc.kind = .derivedFrom a b := by
    unfold Incompat.causes at hc
    cases hk : inc.kind <;> rw [hk] at hc <;> cases hc
    rfl
  obtain ⟨h1, h2, -⟩ := (hinv j inc hs).kind.derived hk
  exact ⟨h1, h2⟩

/-- shared ids, one direction: a node that carries `some k` occurs at least twice in the unfolded tree,
and `k` is its arena index.  The converse fails for occurrences: a node below a shared node that itself
has a single parent carries `none` although the unfolded tree repeats it.  The exact characterisation
(in-degree ≥ 2 in the reachable DAG, the reading of "reachable along more than one path" recorded in
DESIGN.md) is `buildDerivationTree_shared_iff`. -/
theorem buildDerivationTree_shared_iff_partial (W : World P S V M) (root : P) (rv : V)
    (st : State P S V M Pr) (hinv : StoreInv W root rv st.store) (id : Nat)
    (tree : DerivationTree P S V M) (h : st.buildDerivationTree id = .ok tree)
    (k : Nat) (t : DerivationTree P S V M) (hk : (some k, t) ∈ tree.derivedNodes) :
    2 ≤ (tree.derivedNodes.filter fun n => n.1 = some k).length ∧
      ∃ inc, st.store[k]? = some inc ∧ t.terms = inc.terms := by
  obtain ⟨all, shared, hcol, ht⟩ := buildDerivationTree_spec st id tree h
  obtain ⟨_, hsh, inck, ak, bk, hsk, hkk, hterms⟩ := ht.derivedNodes k t hk
  have hlt := TreeAux.causesBelow_of_storeInv W root rv st.store hinv
  refine ⟨?_, inck, hsk, hterms⟩
  rw [IsTreeOf.count_eq_occ hlt k hsh inck ak bk hsk hkk ht]
  exact collectIds_shared_occ st.store hlt k _ id all shared hcol (by simpa using hsh)

end Pubgrub
