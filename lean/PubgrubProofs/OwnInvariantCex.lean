/-
Machine-checked counterexample to the syntactic form of Inv-Own (`State.OwnInv`, phrased with
`relation … = .contradicted _`) for an abstract `LawfulVersionSet`.

The set type `J` (subsets of a one-version universe with a junk tag that membership ignores) satisfies
every law of `LawfulVersionSet`, but its equality is not canonical: `tJ` has no member and differs from
`empty`.  The root depends on `(q, tJ)`.  `from_dependency` therefore builds the two-term clause
`{root: pos {()}, q: neg tJ}`; after the root is decided the clause is almost satisfied, `q` receives the
member-free term `pos tJ`, the clause is cached as contradicted -- but `relation_with (neg tJ) (pos tJ)`
is `Satisfied` (a member-free set is a subset of everything, and `subset_of` is tested first).  At the
next pop of the queue (a stable point: a `pick` request or a returned solution) the clause owned by the decided root evaluates to `.satisfied`,
so `State.OwnInv` fails there.  (With `Range`, whose valid sets are canonical, a member-free valid set
is `empty`, `from_dependency` builds the one-term clause, and this cannot happen.)
-/
import PubgrubProofs.OwnDefs

namespace Pubgrub
namespace Cex
open VersionSet

/-- subsets of the one-version universe `Unit`, with a junk tag that membership ignores -/
structure J where
  junk : Bool
  mem : Bool
  deriving DecidableEq, Repr

instance : VersionSet J Unit where
  empty := ⟨false, false⟩
  singleton _ := ⟨false, true⟩
  complement a := ⟨false, !a.mem⟩
  intersection a b := ⟨false, a.mem && b.mem⟩
  contains a _ := a.mem
  full := ⟨false, true⟩
  union a b := ⟨false, a.mem || b.mem⟩
  isDisjoint a b := !(a.mem && b.mem)
  subsetOf a b := !a.mem || b.mem

instance : LawfulVersionSet J Unit where
  Valid _ := True
  valid_empty := trivial
  valid_singleton _ := trivial
  valid_complement _ _ := trivial
  valid_intersection _ _ _ _ := trivial
  valid_full := trivial
  valid_union _ _ _ _ := trivial
  contains_empty _ := rfl
  contains_singleton v w := by cases v; cases w; simp [VersionSet.contains, VersionSet.singleton]
  contains_complement _ _ _ := rfl
  contains_intersection _ _ _ _ _ := rfl
  contains_full _ := rfl
  contains_union _ _ _ _ _ := rfl
  isDisjoint_iff a b _ _ := by
    obtain ⟨ja, ma⟩ := a; obtain ⟨jb, mb⟩ := b
    cases ma <;> cases mb <;> simp [VersionSet.isDisjoint, VersionSet.contains]
  subsetOf_iff a b _ _ := by
    obtain ⟨ja, ma⟩ := a; obtain ⟨jb, mb⟩ := b
    cases ma <;> cases mb <;> simp [VersionSet.subsetOf, VersionSet.contains]

/-- member-free, valid, but not `empty` -/
def tJ : J := ⟨true, false⟩

/-- the root `true` at its only version depends on the package `false` in the set `tJ` -/
def W : World Bool J Unit Unit where
  versions _ := [()]
  deps p _ := if p then .available [(false, tJ)] else .available []

abbrev St := SolverState Bool J Unit Unit Nat
abbrev Rq := Request Bool J Unit Unit Nat Unit
abbrev An := Answer Bool J Unit Unit Nat Unit

def x0 : St × Rq := Solver.start false 10 true ()
def x1 : St × Rq := Solver.step x0.1 .ok
def x2 : St × Rq := Solver.step x1.1 (.priority 0)
def x3 : St × Rq := Solver.step x2.1 (.picked (some true))
def x4 : St × Rq := Solver.step x3.1 (.version (some ()))
def x5 : St × Rq := Solver.step x4.1 (.available [(false, tJ)])
def x6 : St × Rq := Solver.step x5.1 .ok
def x7 : St × Rq := Solver.step x6.1 (.priority 0)

theorem W_valid : W.SetsValid := fun _ _ _ _ _ _ => trivial

theorem reach7 : Reachable W false 10 true () x7 := by
  have r0 : Reachable W false 10 true () x0 := .start
  have r1 : Reachable W false 10 true () x1 := .step (s := x0.1) (req := x0.2) r0 trivial
  have r2 : Reachable W false 10 true () x2 := .step (s := x1.1) (req := x1.2) r1 trivial
  have r3 : Reachable W false 10 true () x3 := .step (s := x2.1) (req := x2.2) r2 trivial
  have r4 : Reachable W false 10 true () x4 :=
    .step (s := x3.1) (req := x3.2) (a := .version (some ())) r3 (List.mem_singleton.2 rfl)
  have r5 : Reachable W false 10 true () x5 :=
    .step (s := x4.1) (req := x4.2) (a := .available [(false, tJ)]) r4 rfl
  have r6 : Reachable W false 10 true () x6 := .step (s := x5.1) (req := x5.2) r5 trivial
  exact .step (s := x6.1) (req := x6.2) r6 trivial

theorem x7_pick : ∃ q, x7.2 = .pick q := ⟨_, rfl⟩

theorem x7_not_ownInv : ¬ x7.1.st.OwnInv := by
  intro h
  obtain ⟨psl, hb, hrel⟩ : ∃ psl, x7.1.st.ps.backtrack 1 = .ok psl ∧
      ∀ inc, x7.1.st.store[1]? = some inc → psl.relation inc = .satisfied := ⟨_, rfl, fun inc hi => by
        injection hi with hi; subst hi; rfl⟩
  obtain ⟨pa, hpa⟩ : ∃ pa, x7.1.st.ps.assignments[0]? = some (true, pa) := ⟨_, rfl⟩
  obtain ⟨inc, hinc, hown⟩ : ∃ inc, x7.1.st.store[1]? = some inc ∧ inc.OwnedBy true := ⟨_, rfl, rfl⟩
  obtain ⟨q, hq⟩ := h 0 true pa hpa (by decide) 1 (Nat.le_refl _) (by decide) psl hb 1 (by decide) inc hinc hown
  rw [hrel inc hinc] at hq
  cases hq

/-- the syntactic Inv-Own fails for this lawful version-set type: a reachable `pick` point
of a run over a world with valid sets where `State.OwnInv` does not hold -/
theorem stable_invariants_counterexample :
    ∃ (s : St) (q : List (Bool × Nat)),
      Reachable (E := Unit) W false 10 true () (s, .pick q) ∧ W.SetsValid ∧ ¬ s.st.OwnInv := by
  obtain ⟨q, hq⟩ := x7_pick
  refine ⟨x7.1, q, ?_, W_valid, x7_not_ownInv⟩
  have : x7 = (x7.1, Request.pick q) := Prod.ext rfl hq
  rw [← this]
  exact reach7

end Cex
end Pubgrub
