/-
The partial solution stays well-formed and no package with a positive requirement is ever lost
(properties C14, C12, C05, towards C01): the run-level invariant `RInv'` holds in every reachable state.
Definitions: PubgrubProofs/PSDefs.lean; `PInv` in PSStateInv.lean, `RInv'` in PSRunInv.lean.
-/
import PubgrubProofs.PSDefs
import PubgrubProofs.StoreInvariant
import PubgrubProofs.PSRunInv

set_option linter.unusedSectionVars false

namespace Pubgrub
open VersionSet

variable {P S V M Pr E : Type} [DecidableEq P] [VersionSet S V] [DecidableEq S] [DecidableEq V]
  [LE Pr] [DecidableLE Pr] [LawfulVersionSet S V]

theorem reachable_rinv' (W : World P S V M) (hW : W.SetsValid) (debug : Bool) (fuel : Nat)
    (root : P) (rv : V) (x : SolverState P S V M Pr × Request P S V M Pr E)
    (h : Reachable W debug fuel root rv x) : RInv' x := by
  induction h with
  | start => exact rinv'_start debug fuel root rv
  | step hreach ha ih =>
    exact rinv'_step W hW root rv _ _ _ (reachable_rinv W hW debug fuel root rv _ hreach) ih ha

theorem reachable_coherent (W : World P S V M) (debug : Bool) (fuel : Nat)
    (root : P) (rv : V) (x : SolverState P S V M Pr × Request P S V M Pr E)
    (h : Reachable W debug fuel root rv x) : Solver.Coherent x := by
  induction h with
  | start => exact Solver.coherent_start debug fuel root rv
  | step _ _ _ => exact Solver.coherent_step _ _

theorem live_of_not_final {x : SolverState P S V M Pr × Request P S V M Pr E}
    (hc : Solver.Coherent x) (hph : x.2.isFinal = false) : x.1.phase ≠ .finished := by
  intro hf
  unfold Solver.Coherent at hc
  rw [hf] at hc
  simp only at hc
  rw [hc] at hph; cases hph

theorem picking_of_pick {s : SolverState P S V M Pr} {q : List (P × Pr)}
    (hc : Solver.Coherent (E := E) (s, .pick q)) : ∃ acc, s.phase = .picking acc := by
  unfold Solver.Coherent at hc
  split at hc
  · cases hc
  · cases hc
  · rename_i acc hph; exact ⟨acc, hph⟩
  · obtain ⟨_, hc, _⟩ := hc; cases hc
  · cases hc
  · simp [Request.isFinal] at hc

theorem reachable_psWF (W : World P S V M) (hW : W.SetsValid) (debug : Bool) (fuel : Nat)
    (root : P) (rv : V) (x : SolverState P S V M Pr × Request P S V M Pr E)
    (h : Reachable W debug fuel root rv x) (hph : x.2.isFinal = false) : x.1.st.ps.WF :=
  ((reachable_rinv' W hW debug fuel root rv x h).live
    (live_of_not_final (reachable_coherent W debug fuel root rv x h) hph)).1.wf.wf

/-- I-Q holds in every reachable, unfinished state: no undecided package with a positive term is lost -/
theorem reachable_qInv (W : World P S V M) (hW : W.SetsValid) (debug : Bool) (fuel : Nat)
    (root : P) (rv : V) (x : SolverState P S V M Pr × Request P S V M Pr E)
    (h : Reachable W debug fuel root rv x) (hph : x.2.isFinal = false) :
    x.1.st.ps.QInv x.1.inflight :=
  ((reachable_rinv' W hW debug fuel root rv x h).live
    (live_of_not_final (reachable_coherent W debug fuel root rv x h) hph)).2

/-- when the queue is asked to pop (`pick`), every undecided package with a positive term is in the
queue shown to the pop -/
theorem pick_sees_all (W : World P S V M) (hW : W.SetsValid) (debug : Bool) (fuel : Nat)
    (root : P) (rv : V) (s : SolverState P S V M Pr) (q : List (P × Pr))
    (h : Reachable (E := E) W debug fuel root rv (s, .pick q))
    (p : P) (pa : PackageAssignments S V) (set : S)
    (hp : s.st.ps.getPA p = some pa) (hpos : pa.inter = .derivations (.pos set)) :
    (SmallMap.get q p).isSome = true := by
  have hi := reachable_rinv' W hW debug fuel root rv _ h
  obtain ⟨acc, hph⟩ := picking_of_pick (reachable_coherent W debug fuel root rv _ h)
  obtain ⟨hpinv, hq⟩ := hi.live (by simp only; rw [hph]; intro e; cases e)
  rw [SolverState.inflight_picking hph] at hq
  obtain ⟨⟨L, hL, hLk⟩, hreq⟩ := hi.picking acc hph
  simp only at hreq hq hL
  injection hreq with hreq; subst hreq
  obtain ⟨i, _, hi'⟩ := PartialSolution.getElem_of_getPA hp
  exact PartialSolution.afterPrioritize_allQ hq hL acc hLk i p pa set hi' hpos (by simp)

/-- C14 (structural part): the package `choose_version` is asked about had maximal priority among all
undecided packages with a positive term at the time of the pop -/
theorem choose_is_maximal (W : World P S V M) (hW : W.SetsValid) (debug : Bool) (fuel : Nat)
    (root : P) (rv : V) (s : SolverState P S V M Pr) (q : List (P × Pr)) (p : P)
    (h : Reachable (E := E) W debug fuel root rv (s, .pick q))
    (set : S) (s' : SolverState P S V M Pr)
    (hstep : Solver.step (E := E) s (.picked (some p)) = (s', .chooseVersion p set)) :
    ∃ pr, SmallMap.get q p = some pr ∧
      ∀ p' pa' set', s.st.ps.getPA p' = some pa' → pa'.inter = .derivations (.pos set') →
        ∃ pr', SmallMap.get q p' = some pr' ∧ pr' ≤ pr := by
  have hi := reachable_rinv' W hW debug fuel root rv _ h
  obtain ⟨acc, hph⟩ := picking_of_pick (reachable_coherent W debug fuel root rv _ h)
  obtain ⟨_, hreq⟩ := hi.picking acc hph
  simp only at hreq
  injection hreq with hreq; subst hreq
  have hmax : Solver.isMaximal (s.st.ps.afterPrioritize acc).queue p = true := by
    cases hm : Solver.isMaximal (s.st.ps.afterPrioritize acc).queue p with
    | true => rfl
    | false =>
      have := congrArg Prod.snd hstep
      simp [Solver.step, hph, hm, Solver.finish] at this
  obtain ⟨pr, hpr, hall⟩ := isMaximal_spec hmax
  refine ⟨pr, hpr, ?_⟩
  intro p' pa' set' hpa' hpos'
  have := pick_sees_all W hW debug fuel root rv s _ h p' pa' set' hpa' hpos'
  cases hg : SmallMap.get (s.st.ps.afterPrioritize acc).queue p' with
  | none => rw [hg] at this; cases this
  | some pr' => exact ⟨pr', rfl, hall _ (SmallMap.mem_of_get hg)⟩

/-- a solution is only returned when no undecided package with a positive term is left, and it is
the list of the decisions -/
theorem solution_exit (W : World P S V M) (hW : W.SetsValid) (debug : Bool) (fuel : Nat)
    (root : P) (rv : V) (s : SolverState P S V M Pr) (sel : List (P × V))
    (h : Reachable (E := E) W debug fuel root rv (s, .solution sel)) :
    s.st.ps.WF ∧
    (∀ p pa set, s.st.ps.getPA p = some pa → pa.inter ≠ .derivations (.pos set)) ∧
    (∀ p v, (p, v) ∈ sel ↔ ∃ pa g t, s.st.ps.getPA p = some pa ∧ pa.inter = .decision g v t) := by
  have hi := reachable_rinv' W hW debug fuel root rv _ h
  obtain ⟨hw, hno, hsel⟩ := hi.sol sel rfl
  refine ⟨hw, hno, ?_⟩
  obtain ⟨sel', hsel', hiff⟩ := PartialSolution.extractSolution_ok hw
  simp only at hsel
  rw [hsel] at hsel'; injection hsel' with hsel'; subst hsel'
  exact hiff

theorem step_picked_cases {s : SolverState P S V M Pr} {acc : List (P × Pr)} (o : Option P)
    (hph : s.phase = .picking acc) (hw : (s.st.ps.afterPrioritize acc).WF) :
    (∃ m, (Solver.step (E := E) s (.picked o)).2 = .protocolError m) ∨
    (∃ sel, (Solver.step (E := E) s (.picked o)).2 = .solution sel) ∨
    (∃ p set, (Solver.step (E := E) s (.picked o)).2 = .chooseVersion p set) := by
  cases o with
  | none =>
    obtain ⟨sel, hsel, _⟩ := PartialSolution.extractSolution_ok hw
    by_cases he : (s.st.ps.afterPrioritize acc).queue.isEmpty = true
    · right; left
      exact ⟨sel, by simp [Solver.step, hph, he, hsel, Solver.finish]⟩
    · left
      exact ⟨_, by simp [Solver.step, hph, he, Solver.finish]; rfl⟩
  | some p =>
    cases hm : Solver.isMaximal (s.st.ps.afterPrioritize acc).queue p with
    | false =>
      left
      exact ⟨_, by simp [Solver.step, hph, hm, Solver.finish]; rfl⟩
    | true =>
      right; right
      obtain ⟨pr, hpr, _⟩ := isMaximal_spec hm
      obtain ⟨pa, set, hpa, hinter⟩ := hw.queue_sub p pr (SmallMap.mem_of_get hpr)
      have hpa' : SmallMap.get s.st.ps.assignments p = some pa := hpa
      refine ⟨p, set, ?_⟩
      have hm' : Solver.isMaximal
          (List.foldl (fun q kv => PartialSolution.queuePush q kv.fst kv.snd) s.st.ps.queue acc) p = true := hm
      simp [Solver.step, hph, hm', PartialSolution.termIntersectionForPackage, PartialSolution.getPA,
        PartialSolution.afterPrioritize, hpa', hinter, AssignInter.term, Incompat.unwrapPositive]

/-- C05, two panic sites and one Failure that can never happen: `extract_solution` never meets a
derivation in the decision part, `choose_version` is never asked with a negative term, and the
"a package was chosen but we don't have a term" Failure is unreachable -/
theorem no_fault_at_pick (W : World P S V M) (hW : W.SetsValid) (debug : Bool) (fuel : Nat)
    (root : P) (rv : V) (s : SolverState P S V M Pr) (q : List (P × Pr)) (o : Option P)
    (h : Reachable (E := E) W debug fuel root rv (s, .pick q)) :
    (Solver.step (E := E) s (.picked o)).2 ≠ .fault (.panic "Derivations in the Decision part") ∧
    (Solver.step (E := E) s (.picked o)).2 ≠ .fault (.panic "Negative term cannot unwrap positive set") ∧
    (Solver.step (E := E) s (.picked o)).2 ≠ .failure "a package was chosen but we don't have a term." := by
  have hi := reachable_rinv' W hW debug fuel root rv _ h
  obtain ⟨acc, hph⟩ := picking_of_pick (reachable_coherent W debug fuel root rv _ h)
  obtain ⟨hpinv, hq⟩ := hi.live (by simp only; rw [hph]; intro e; cases e)
  obtain ⟨⟨L, hL, hLk⟩, _⟩ := hi.picking acc hph
  have hw1 : (s.st.ps.afterPrioritize acc).WF' :=
    PartialSolution.afterPrioritize_wf' hpinv.wf acc
      (fun q hq' => PartialSolution.toPrioritize_sound hpinv.wf.wf hL q (hLk ▸ hq'))
  rcases step_picked_cases (E := E) o hph hw1.wf with ⟨m, hm⟩ | ⟨sel, hm⟩ | ⟨p, set, hm⟩ <;>
    rw [hm] <;> refine ⟨?_, ?_, ?_⟩ <;> intro e <;> cases e

end Pubgrub
