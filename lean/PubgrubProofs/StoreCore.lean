/-
Every function of `Core` preserves the state-level invariant: the store only grows, and only by good
incompatibilities.
-/
import PubgrubProofs.TermsValid
set_option linter.unusedSectionVars false
namespace Pubgrub
open VersionSet
variable {P S V M Pr : Type} [DecidableEq P] [VersionSet S V] [DecidableEq S]
  [LawfulVersionSet S V]

/-- the state-level invariant: good store, the right root, valid terms in the partial solution -/
structure SInv (W : World P S V M) (root : P) (rv : V) (st : State P S V M Pr) : Prop where
  store : StoreInv W root rv st.store
  root : st.rootPackage = root
  rv : st.rootVersion = rv
  ps : st.ps.TermsValid

namespace State

theorem findMerge_ok {store : List (Incompat P S V M)} {inc : Incompat P S V M} :
    ∀ {ids : List Nat} {past : Nat} {merged : Incompat P S V M},
    findMerge store inc ids = .ok (some (past, merged)) →
    ∃ pastInc, store[past]? = some pastInc ∧ inc.mergeDependents pastInc = .ok (some merged) := by
  intro ids
  induction ids with
  | nil => intro past merged h; simp [findMerge] at h
  | cons a rest ih =>
    intro past merged h
    unfold findMerge at h
    simp only [bind, Except.bind, pure, Except.pure] at h
    split at h
    · cases h
    rename_i pastInc hp
    split at h
    · cases h
    rename_i o ho
    split at h
    · injection h with h; injection h with h; injection h with h1 h2
      subst h1; subst h2
      exact ⟨pastInc, storeGet_ok hp, ho⟩
    · exact ih h

theorem mergeIncompatibility_inv (W : World P S V M) (root : P) (rv : V)
    {st st' : State P S V M Pr} {id : Nat}
    (hr : mergeIncompatibility st id = .ok st') (h : SInv W root rv st) : SInv W root rv st' := by
  unfold mergeIncompatibility at hr
  simp only [bind, Except.bind, pure, Except.pure, throw, throwThe, MonadExceptOf.throw] at hr
  split at hr
  · cases hr
  rename_i inc hinc
  have ginc := h.store id inc (storeGet_ok hinc)
  split at hr
  · split at hr
    · cases hr
    split at hr
    · cases hr
    injection hr with hr; subst hr
    exact ⟨h.store, h.root, h.rv, h.ps⟩
  · split at hr
    · cases hr
    rename_i o ho
    split at hr
    · rename_i past merged
      split at hr
      · cases hr
      split at hr
      · cases hr
      injection hr with hr; subst hr
      obtain ⟨pastInc, hpast, hm⟩ := findMerge_ok ho
      have gm := Incompat.mergeDependents_good W root rv st.store id past inc pastInc ginc
        (h.store past pastInc hpast) merged hm st.store.length
      exact ⟨storeInv_push W root rv st.store merged h.store gm, h.root, h.rv, h.ps⟩
    · split at hr
      · cases hr
      split at hr
      · cases hr
      injection hr with hr; subst hr
      exact ⟨h.store, h.root, h.rv, h.ps⟩

theorem addIncompatibility_inv (W : World P S V M) (root : P) (rv : V)
    {st st' : State P S V M Pr} {inc : Incompat P S V M}
    (hr : addIncompatibility st inc = .ok st') (h : SInv W root rv st)
    (g : inc.Good W root rv st.store st.store.length) : SInv W root rv st' := by
  unfold addIncompatibility at hr
  exact mergeIncompatibility_inv W root rv hr
    ⟨storeInv_push W root rv st.store inc h.store g, h.root, h.rv, h.ps⟩

theorem addIncompatibilityFromDependencies_spec {st st' : State P S V M Pr} {p : P} {v : V}
    {deps : List (P × S)} {start stop : Nat}
    (hr : addIncompatibilityFromDependencies st p v deps = .ok (st', start, stop)) :
    (List.range' st.store.length deps.length).foldlM (m := R) (fun st id => mergeIncompatibility st id)
      { st with store := st.store ++
          deps.map fun dep => Incompat.fromDependency (M := M) p (VersionSet.singleton v) dep } = .ok st' ∧
    start = st.store.length ∧ stop = st.store.length + deps.length := by
  unfold addIncompatibilityFromDependencies at hr
  simp only [bind, Except.bind, pure, Except.pure] at hr
  split at hr
  · cases hr
  rename_i st1 h1
  injection hr with hr; injection hr with e1 e2; injection e2 with e2 e3
  subst e1 e2 e3
  rw [List.length_append, Nat.add_sub_cancel_left, List.length_map] at h1
  exact ⟨h1, rfl, by rw [List.length_append, List.length_map]⟩

theorem addIncompatibilityFromDependencies_inv (W : World P S V M) (hW : W.SetsValid) (root : P) (rv : V)
    {st st' : State P S V M Pr} {p : P} {v : V} {deps : List (P × S)} {start stop : Nat}
    (hr : addIncompatibilityFromDependencies st p v deps = .ok (st', start, stop))
    (h : SInv W root rv st) (hd : W.deps p v = .available deps) : SInv W root rv st' := by
  obtain ⟨h1, -, -⟩ := addIncompatibilityFromDependencies_spec hr
  refine foldlM_ok_inv (SInv W root rv) h1 ⟨?_, h.root, h.rv, h.ps⟩
    fun _ _ _ _ hb hm => mergeIncompatibility_inv W root rv hm hb
  apply storeInv_append W root rv _ _ h.store
  intro k i hi
  have hmem := List.mem_of_getElem? hi
  rw [List.mem_map] at hmem
  obtain ⟨d, hdm, rfl⟩ := hmem
  exact Incompat.fromDependency_good W hW root rv _ _ p v deps hd d hdm

theorem backtrack_spec {st st' : State P S V M Pr} {incompat : Nat} {changed : Bool} {dl : Nat}
    (hr : st.backtrack incompat changed dl = .ok st') :
    ∃ ps, st.ps.backtrack dl = .ok ps ∧
      ((changed = true ∧ mergeIncompatibility
          { st with ps := ps, contradicted := SmallMap.retainVals st.contradicted (fun l => l ≤ dl) }
          incompat = .ok st') ∨
        st' = { st with ps := ps, contradicted := SmallMap.retainVals st.contradicted (fun l => l ≤ dl) }) := by
  unfold State.backtrack at hr
  simp only [bind, Except.bind, pure, Except.pure] at hr
  split at hr
  · cases hr
  rename_i ps hps
  split at hr
  · next hc => exact ⟨ps, hps, Or.inl ⟨hc, hr⟩⟩
  · cases hr; exact ⟨ps, hps, Or.inr rfl⟩

theorem backtrack_inv (W : World P S V M) (root : P) (rv : V)
    {st st' : State P S V M Pr} {incompat : Nat} {changed : Bool} {dl : Nat}
    (hr : st.backtrack incompat changed dl = .ok st') (h : SInv W root rv st) : SInv W root rv st' := by
  obtain ⟨ps, hps, hc⟩ := backtrack_spec hr
  have hps' := PartialSolution.backtrack_termsValid h.ps hps
  rcases hc with ⟨-, hr⟩ | rfl
  · exact mergeIncompatibility_inv W root rv hr ⟨h.store, h.root, h.rv, hps'⟩
  · exact ⟨h.store, h.root, h.rv, hps'⟩

theorem conflictResolution_inv (W : World P S V M) (root : P) (rv : V) :
    ∀ (fuel : Nat) (st : State P S V M Pr) (cur : Nat) (changed : Bool)
      {st' : State P S V M Pr} {r : Except Nat (P × Nat)},
    conflictResolution fuel st cur changed = .ok (st', r) → SInv W root rv st →
    SInv W root rv st' ∧ ∀ t, r = .error t →
      ∃ inc, st'.store[t]? = some inc ∧ inc.isTerminal root rv = true := by
  intro fuel
  induction fuel with
  | zero => intro st cur changed st' r hr; simp [conflictResolution] at hr
  | succ fuel ih =>
    intro st cur changed st' r hr h
    unfold conflictResolution at hr
    simp only [bind, Except.bind, pure, Except.pure] at hr
    split at hr
    · cases hr
    rename_i inc hinc
    split at hr
    · rename_i hterm
      injection hr with hr; injection hr with h1 h2; subst h1; subst h2
      refine ⟨h, ?_⟩
      intro t ht
      injection ht with ht; subst ht
      refine ⟨inc, storeGet_ok hinc, ?_⟩
      rw [← h.root, ← h.rv]; exact hterm
    · split at hr
      · cases hr
      rename_i ps hss
      split at hr
      · split at hr
        · cases hr
        rename_i st1 hb
        injection hr with hr; injection hr with h1 h2; subst h1; subst h2
        exact ⟨backtrack_inv W root rv hb h, fun t ht => by cases ht⟩
      · rename_i satisfierCause _
        split at hr
        · cases hr
        rename_i causeInc hcause
        split at hr
        · cases hr
        rename_i prior hprior
        refine ih _ _ _ hr ⟨?_, h.root, h.rv, h.ps⟩
        apply storeInv_push W root rv st.store prior h.store
        exact Incompat.priorCause_good W root rv st.store cur satisfierCause inc causeInc
          (storeGet_ok hinc) (storeGet_ok hcause) (h.store _ _ (storeGet_ok hinc))
          (h.store _ _ (storeGet_ok hcause)) ps.1 prior hprior st.store.length
          (storeGet_lt hinc) (storeGet_lt hcause)

theorem propagateIncompats_inv (W : World P S V M) (root : P) (rv : V) :
    ∀ (ids : List Nat) (st : State P S V M Pr) {st' : State P S V M Pr} {r : Option Nat},
    propagateIncompats st ids = .ok (st', r) → SInv W root rv st → SInv W root rv st' := by
  intro ids
  induction ids with
  | nil =>
    intro st st' r hr h
    simp only [propagateIncompats] at hr
    injection hr with hr; injection hr with h1 h2; subst h1; exact h
  | cons id rest ih =>
    intro st st' r hr h
    unfold propagateIncompats at hr
    split at hr
    · exact ih _ hr h
    split at hr
    · cases hr
    rename_i inc hinc
    split at hr
    · injection hr with hr; injection hr with h1 h2; subst h1; exact h
    · split at hr
      · cases hr
      rename_i ps hps
      have hps' := PartialSolution.addDerivation_termsValid W root rv h.store h.ps hps
      exact ih _ hr ⟨h.store, h.root, h.rv, hps'⟩
    · exact ih _ hr ⟨h.store, h.root, h.rv, h.ps⟩
    · exact ih _ hr h

theorem unitPropagationLoop_inv (W : World P S V M) (root : P) (rv : V) :
    ∀ (fuel : Nat) (st : State P S V M Pr) {st' : State P S V M Pr} {r : Option Nat},
    unitPropagationLoop fuel st = .ok (st', r) → SInv W root rv st →
    SInv W root rv st' ∧ ∀ t, r = some t →
      ∃ inc, st'.store[t]? = some inc ∧ inc.isTerminal root rv = true := by
  intro fuel
  induction fuel with
  | zero => intro st st' r hr; simp [unitPropagationLoop] at hr
  | succ fuel ih =>
    intro st st' r hr h
    unfold unitPropagationLoop at hr
    split at hr
    · injection hr with hr; injection hr with h1 h2; subst h1; subst h2
      exact ⟨h, fun t ht => by cases ht⟩
    simp only at hr
    split at hr
    · cases hr
    split at hr
    · cases hr
    · rename_i st1 hp
      have h1 := propagateIncompats_inv W root rv _ _ hp ⟨h.store, h.root, h.rv, h.ps⟩
      exact ih _ hr h1
    · rename_i st1 conflictId hp
      have h1 := propagateIncompats_inv W root rv _ _ hp ⟨h.store, h.root, h.rv, h.ps⟩
      split at hr
      · cases hr
      · rename_i st2 terminal hc
        injection hr with hr; injection hr with e1 e2; subst e1; subst e2
        obtain ⟨h2, ht⟩ := conflictResolution_inv W root rv _ _ _ _ hc h1
        exact ⟨h2, fun t ht' => by injection ht' with ht'; subst ht'; exact ht _ rfl⟩
      · rename_i st2 packageAlmost rootCause hc
        obtain ⟨h2, _⟩ := conflictResolution_inv W root rv _ _ _ _ hc h1
        split at hr
        · cases hr
        rename_i ps hps
        have hps' := PartialSolution.addDerivation_termsValid W root rv h2.store h2.ps hps
        exact ih _ hr ⟨h2.store, h2.root, h2.rv, hps'⟩

theorem unitPropagation_inv (W : World P S V M) (root : P) (rv : V)
    {fuel : Nat} {st st' : State P S V M Pr} {p : P} {r : Option Nat}
    (hr : unitPropagation fuel st p = .ok (st', r)) (h : SInv W root rv st) :
    SInv W root rv st' ∧ ∀ t, r = some t →
      ∃ inc, st'.store[t]? = some inc ∧ inc.isTerminal root rv = true :=
  unitPropagationLoop_inv W root rv _ _ hr ⟨h.store, h.root, h.rv, h.ps⟩

end State
end Pubgrub
