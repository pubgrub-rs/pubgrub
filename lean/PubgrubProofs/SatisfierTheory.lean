/-
The satisfier search of conflict resolution is correct, hence: the cause of every derivation in the
partial solution was almost satisfied when the derivation was made (`State.CauseInv`), and the panic
sites of the satisfier search are unreachable (property C05, part).
Definitions: PubgrubProofs/SatDefs.lean, PubgrubProofs/PSDefs.lean.
-/
import PubgrubProofs.SatDefs
import PubgrubProofs.PSInvariant
import PubgrubProofs.SatisfierRunInvariant


namespace Pubgrub
open VersionSet

variable {P S V M Pr E : Type} [DecidableEq P] [VersionSet S V] [DecidableEq S] [DecidableEq V]
  [LE Pr] [DecidableLE Pr] [LawfulVersionSet S V]

theorem reachable_rinvT (W : World P S V M) (hW : W.SetsValid) (debug : Bool) (fuel : Nat)
    (root : P) (rv : V) (x : SolverState P S V M Pr × Request P S V M Pr E)
    (h : Reachable W debug fuel root rv x) : RInvT root rv x := by
  induction h with
  | start => exact rinvT_start debug fuel root rv
  | step hreach ha ih =>
    exact rinvT_step W root rv _ _ _ (reachable_rinv W hW debug fuel root rv _ hreach)
      (reachable_rinv' W hW debug fuel root rv _ hreach) ih

theorem reachable_causeInv (W : World P S V M) (hW : W.SetsValid) (debug : Bool) (fuel : Nat)
    (root : P) (rv : V) (x : SolverState P S V M Pr × Request P S V M Pr E)
    (h : Reachable W debug fuel root rv x) (hph : x.2.isFinal = false) :
    x.1.st.ps.LevelMono ∧ x.1.st.CauseInv := by
  have ht := (reachable_rinvT W hW debug fuel root rv x h).live
    (live_of_not_final (reachable_coherent W debug fuel root rv x h) hph)
  exact ⟨ht.gmono.levelMono, ht.cause⟩

theorem solution_causeInv (W : World P S V M) (hW : W.SetsValid) (debug : Bool) (fuel : Nat)
    (root : P) (rv : V) (s : SolverState P S V M Pr) (sel : List (P × V))
    (h : Reachable (E := E) W debug fuel root rv (s, .solution sel)) :
    s.st.ps.LevelMono ∧ s.st.CauseInv := by
  exact (reachable_rinvT W hW debug fuel root rv _ h).sol sel rfl

/-- C05 (part): the panic sites of the satisfier search, of conflict resolution and of the derivation
that follows it are unreachable: no run ends in one of these faults -/
theorem no_satisfier_panic (W : World P S V M) (hW : W.SetsValid) (debug : Bool) (fuel : Nat)
    (root : P) (rv : V) (s : SolverState P S V M Pr) (site : String)
    (h : Reachable (E := E) W debug fuel root rv (s, .fault (.panic site))) :
    site ≠ "find_satisfier: Must exist" ∧
    site ≠ "satisfier: unreachable, the last assignment should have been a decision" ∧
    site ≠ "must be a decision" ∧
    site ≠ "satisfier package not in incompat" ∧
    site ≠ "satisfier_search: max_by_key().unwrap()" ∧
    site ≠ "find_previous_satisfier: max_by_key().unwrap()" ∧
    site ≠ "satisfier_search: satisfier_cause.unwrap()" ∧
    site ≠ "find_previous_satisfier: get(satisfier_package).unwrap()" ∧
    site ≠ "find_previous_satisfier: satisfied_map.get().unwrap()" ∧
    site ≠ "find_previous_satisfier: store[cause].get().unwrap()" ∧
    site ≠ "prior_cause: split_one(package).unwrap()" ∧
    site ≠ "prior_cause: satisfier_cause_terms.get(package).unwrap()" ∧
    site ≠ "backtrack: dated_derivations.last().unwrap()" ∧
    site ≠ "add_derivation should not be called after a decision" ∧
    site ≠ "add_derivation: store[cause].get(package).unwrap()" := by
  have hn : ¬ Listed site := (reachable_rinvT W hW debug fuel root rv _ h).fault site rfl
  simp only [Listed, listedSites, List.mem_cons, List.not_mem_nil, or_false, not_or] at hn
  exact hn

end Pubgrub
