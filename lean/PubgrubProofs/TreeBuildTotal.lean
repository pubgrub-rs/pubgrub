/-
`build_derivation_tree` succeeds on a store whose causes point to smaller ids: the traversal stays
within its fuel `2 * store.length + 2`, it returns the ids reachable from the requested one, and the
trees are built in ascending order of ids, causes first.
-/
import PubgrubProofs.NoPanicLoops
import PubgrubProofs.SharedIds

set_option linter.unusedSectionVars false

namespace Pubgrub
open VersionSet

/-- pigeonhole: distinct numbers below `n` are at most `n` -/
theorem List.length_le_of_nodup_lt : ∀ (n : Nat) (l : List Nat), l.Nodup → (∀ x ∈ l, x < n) → l.length ≤ n := by
  intro n
  induction n with
  | zero =>
    intro l _ h
    cases l with
    | nil => simp
    | cons a t => exact absurd (h a List.mem_cons_self) (Nat.not_lt_zero _)
  | succ n ih =>
    intro l hn h
    have h1 : (l.erase n).Nodup := hn.erase n
    have h2 : ∀ x ∈ l.erase n, x < n := by
      intro x hx
      have hx' := (List.Nodup.mem_erase_iff hn).1 hx
      have := h x hx'.2
      omega
    have h3 := ih _ h1 h2
    have h4 : l.length ≤ (l.erase n).length + 1 := by
      rw [List.length_erase]
      split <;> omega
    omega

section
variable {P S V M Pr : Type} [DecidableEq P] [VersionSet S V] [DecidableEq S]

namespace State

/-- what the traversal maintains: `all` has distinct valid ids, the stack has valid ids, and the causes of
the ids of `all` are in `all` or still on the stack -/
structure CollectPre (store : List (Incompat P S V M)) (stack all : List Nat) : Prop where
  nodup : all.Nodup
  all_lt : ∀ x ∈ all, x < store.length
  stack_lt : ∀ x ∈ stack, x < store.length
  closed : ∀ x ∈ all, ∀ inc a b, store[x]? = some inc → inc.causes = some (a, b) →
    (a ∈ all ∨ a ∈ stack) ∧ (b ∈ all ∨ b ∈ stack)

/-- what the traversal returns -/
structure CollectPost (store : List (Incompat P S V M)) (stack all all' : List Nat) : Prop where
  mono : ∀ x ∈ all, x ∈ all'
  stack_in : ∀ x ∈ stack, x ∈ all'
  all_lt : ∀ x ∈ all', x < store.length
  closed : ∀ x ∈ all', ∀ inc a b, store[x]? = some inc → inc.causes = some (a, b) → a ∈ all' ∧ b ∈ all'

/-- a fresh valid id joins distinct valid ids: they were fewer than `n` -/
theorem pushFresh {n i : Nat} {all : List Nat} (hn : all.Nodup) (hlt : ∀ x ∈ all, x < n) (hi : i < n)
    (hia : i ∉ all) : (all ++ [i]).Nodup ∧ (∀ x ∈ all ++ [i], x < n) ∧ all.length < n := by
  have hn' : (all ++ [i]).Nodup :=
    List.nodup_append.2 ⟨hn, List.pairwise_singleton _ i, fun x hx y hy e =>
      hia (List.mem_singleton.1 hy ▸ e ▸ hx)⟩
  have hlt' : ∀ x ∈ all ++ [i], x < n := fun x hx =>
    (List.mem_append.1 hx).elim (hlt x) fun h => List.mem_singleton.1 h ▸ hi
  have := List.length_le_of_nodup_lt n _ hn' hlt'
  rw [List.length_append, List.length_singleton] at this
  exact ⟨hn', hlt', this⟩

theorem fuel_pop {s d d' fuel : Nat} (h : s + 1 + 2 * d + 1 ≤ fuel + 1) (hd : d' ≤ d) :
    s + 2 * d' + 1 ≤ fuel := by omega

theorem fuel_expand {s n k fuel : Nat} (hk : k < n) (h : s + 1 + 2 * (n - k) + 1 ≤ fuel + 1) :
    s + 2 + 2 * (n - (k + 1)) + 1 ≤ fuel := by omega

/-- The traversal stays within its fuel: a pop that expands nothing shortens the stack, and an expansion,
which lengthens it by one, adds a new id to `all`. -/
theorem collectIds_ok (store : List (Incompat P S V M)) (hlt : CausesBelow store) :
    ∀ (fuel : Nat) (stack all shared : List Nat), all.Nodup → (∀ x ∈ all, x < store.length) →
      (∀ x ∈ stack, x < store.length) → stack.length + 2 * (store.length - all.length) + 1 ≤ fuel →
      ∃ r, collectIds store fuel stack all shared = .ok r := by
  intro fuel
  induction fuel with
  | zero => intro stack all shared _ _ _ hf; exact absurd hf (Nat.not_succ_le_zero _)
  | succ fuel ih =>
    intro stack all shared hn hall hstack hf
    rw [collectIds]
    cases hl : stack.getLast? with
    | none => exact ⟨_, rfl⟩
    | some i =>
      rw [TreeAux.eq_dropLast_of_getLast? stack i hl] at hstack hf
      generalize stack.dropLast = s at hstack hf
      rw [List.length_append, List.length_singleton] at hf
      have hi : i < store.length := hstack i (List.mem_append_right _ (List.mem_singleton.2 rfl))
      have hs : ∀ x ∈ s, x < store.length := fun x hx => hstack x (List.mem_append_left _ hx)
      have hget : store[i]? = some store[i] := List.getElem?_eq_getElem hi
      simp only [storeGet_some hget]
      cases hc : (store[i]).causes with
      | some ab =>
        obtain ⟨a, b⟩ := ab
        obtain ⟨ha, hb⟩ := hlt i _ a b hget hc
        simp only
        split
        · exact ih s all _ hn hall hs (fuel_pop hf (Nat.le_refl _))
        · rename_i hia
          obtain ⟨hn', hall', hlen⟩ := pushFresh hn hall hi (mt List.contains_iff_mem.2 hia)
          refine ih (s ++ [a, b]) (all ++ [i]) shared hn' hall' ?_ ?_
          · intro x hx
            rcases List.mem_append.1 hx with h | h
            · exact hs x h
            · simp only [List.mem_cons, List.not_mem_nil, or_false] at h
              rcases h with rfl | rfl
              exacts [Nat.lt_trans ha hi, Nat.lt_trans hb hi]
          · rw [List.length_append, List.length_append]
            exact fuel_expand hlen hf
      | none =>
        simp only
        split
        · exact ih s all shared hn hall hs (fuel_pop hf (Nat.le_refl _))
        · rename_i hia
          obtain ⟨hn', hall', hlen⟩ := pushFresh hn hall hi (mt List.contains_iff_mem.2 hia)
          exact ih s (all ++ [i]) shared hn' hall' hs
            (fuel_pop hf (Nat.sub_le_sub_left (List.length_append ▸ Nat.le_add_right _ 1) _))

theorem collectIds_post (store : List (Incompat P S V M)) (hlt : CausesBelow store) {id fuel : Nat}
    {all shared : List Nat} (hid : id < store.length)
    (h : collectIds store fuel [id] [] [] = .ok (all, shared)) : CollectPost store [id] [] all := by
  obtain ⟨_, hinv⟩ := SharedAux.collectIds_final store id fuel all shared h
  refine ⟨fun x hx => (nomatch hx), ?_, ?_, ?_⟩
  · intro x hx
    rw [List.mem_singleton.1 hx]
    exact (hinv.all_iff id).2 .top
  · exact fun x hx => Nat.lt_of_le_of_lt (SharedAux.reach_le store hlt id x ((hinv.all_iff x).1 hx)) hid
  · intro x hx inc a b hs hc
    have hr := (hinv.all_iff x).1 hx
    exact ⟨(hinv.all_iff a).2 (.left x a b inc hr hs hc), (hinv.all_iff b).2 (.right x a b inc hr hs hc)⟩

theorem mem_insertSorted (x y : Nat) : ∀ l : List Nat, y ∈ insertSorted x l ↔ y = x ∨ y ∈ l := by
  intro l
  induction l with
  | nil => simp [insertSorted]
  | cons a t ih =>
    unfold insertSorted
    split
    · simp
    · simp only [List.mem_cons, ih]
      constructor
      · rintro (h | h | h)
        · exact Or.inr (Or.inl h)
        · exact Or.inl h
        · exact Or.inr (Or.inr h)
      · rintro (h | h | h)
        · exact Or.inr (Or.inl h)
        · exact Or.inl h
        · exact Or.inr (Or.inr h)

theorem sorted_insertSorted (x : Nat) : ∀ l : List Nat, l.Pairwise (· ≤ ·) → (insertSorted x l).Pairwise (· ≤ ·) := by
  intro l
  induction l with
  | nil => intro _; simp [insertSorted]
  | cons a t ih =>
    intro h
    unfold insertSorted
    rw [List.pairwise_cons] at h
    split
    · rename_i hxa
      rw [List.pairwise_cons]
      refine ⟨?_, List.pairwise_cons.2 h⟩
      intro y hy
      rcases List.mem_cons.1 hy with e | hy'
      · omega
      · have := h.1 y hy'; omega
    · rename_i hxa
      rw [List.pairwise_cons]
      refine ⟨?_, ih h.2⟩
      intro y hy
      rcases (mem_insertSorted x y t).1 hy with e | hy'
      · omega
      · exact h.1 y hy'

theorem mem_sortIds (y : Nat) : ∀ l : List Nat, y ∈ sortIds l ↔ y ∈ l := by
  intro l
  induction l with
  | nil => simp [sortIds]
  | cons a t ih =>
    have : sortIds (a :: t) = insertSorted a (sortIds t) := rfl
    rw [this, mem_insertSorted, ih, List.mem_cons]

theorem sorted_sortIds : ∀ l : List Nat, (sortIds l).Pairwise (· ≤ ·) := by
  intro l
  induction l with
  | nil => simp [sortIds]
  | cons a t ih =>
    have : sortIds (a :: t) = insertSorted a (sortIds t) := rfl
    rw [this]
    exact sorted_insertSorted a _ ih

theorem buildNode_ok (store : List (Incompat P S V M)) (shared : List Nat)
    (pre : List (Nat × DerivationTree P S V M)) (id : Nat) (hid : id < store.length)
    (hc : ∀ inc a b, store[id]? = some inc → inc.causes = some (a, b) →
      (SmallMap.get pre a).isSome = true ∧ (SmallMap.get pre b).isSome = true) :
    ∃ t, buildNode store shared pre id = .ok t := by
  have hget : store[id]? = some store[id] := List.getElem?_eq_getElem hid
  unfold buildNode
  simp only [storeGet_some hget, bind, Except.bind, pure, Except.pure]
  cases hk : (store[id]).kind with
  | derivedFrom a b =>
    obtain ⟨h1, h2⟩ := hc _ a b hget (by unfold Incompat.causes; rw [hk])
    obtain ⟨t1, ht1⟩ := Option.isSome_iff_exists.1 h1
    obtain ⟨t2, ht2⟩ := Option.isSome_iff_exists.1 h2
    simp only [ht1, ht2, unwrapOr]
    exact ⟨_, rfl⟩
  | notRoot p v => exact ⟨_, rfl⟩
  | noVersions p s => exact ⟨_, rfl⟩
  | fromDependencyOf p s q t => exact ⟨_, rfl⟩
  | custom p s m => exact ⟨_, rfl⟩

theorem buildAll_ok (store : List (Incompat P S V M)) (hlt : CausesBelow store) (shared : List Nat) :
    ∀ (l : List Nat) (pre : List (Nat × DerivationTree P S V M)), l.Pairwise (· ≤ ·) →
      (∀ x ∈ l, x < store.length) →
      (∀ x ∈ l, ∀ inc a b, store[x]? = some inc → inc.causes = some (a, b) →
        ((SmallMap.get pre a).isSome = true ∨ a ∈ l) ∧ ((SmallMap.get pre b).isSome = true ∨ b ∈ l)) →
      ∃ pre', l.foldlM (m := R) (fun pre id => do
          let t ← buildNode store shared pre id
          pure (SmallMap.insert pre id t)) pre = .ok pre' ∧
        ∀ x, ((SmallMap.get pre x).isSome = true ∨ x ∈ l) → (SmallMap.get pre' x).isSome = true := by
  intro l
  induction l with
  | nil =>
    intro pre _ _ _
    refine ⟨pre, rfl, ?_⟩
    intro x hx
    rcases hx with h | h
    · exact h
    · cases h
  | cons x rest ih =>
    intro pre hsorted hvalid hclosed
    rw [List.pairwise_cons] at hsorted
    have hcx : ∀ inc a b, store[x]? = some inc → inc.causes = some (a, b) →
        (SmallMap.get pre a).isSome = true ∧ (SmallMap.get pre b).isSome = true := by
      intro inc a b hs hc
      obtain ⟨ha, hb⟩ := hlt x inc a b hs hc
      obtain ⟨h1, h2⟩ := hclosed x List.mem_cons_self inc a b hs hc
      refine ⟨?_, ?_⟩
      · rcases h1 with h | h
        · exact h
        · rcases List.mem_cons.1 h with e | h'
          · omega
          · have := hsorted.1 a h'; omega
      · rcases h2 with h | h
        · exact h
        · rcases List.mem_cons.1 h with e | h'
          · omega
          · have := hsorted.1 b h'; omega
    obtain ⟨t, ht⟩ := buildNode_ok store shared pre x (hvalid x List.mem_cons_self) hcx
    simp only [List.foldlM_cons, ht, bind, Except.bind, pure, Except.pure]
    have hins : ∀ y, ((SmallMap.get pre y).isSome = true ∨ y = x) →
        (SmallMap.get (SmallMap.insert pre x t) y).isSome = true := by
      intro y hy
      rw [SmallMap.get_insert]
      split
      · rfl
      · rename_i hne
        rcases hy with h | h
        · exact h
        · exact absurd h hne
    obtain ⟨pre', hr, hpost⟩ := ih (SmallMap.insert pre x t) hsorted.2
      (fun y hy => hvalid y (List.mem_cons_of_mem _ hy)) (by
        intro y hy inc a b hs hc
        obtain ⟨h1, h2⟩ := hclosed y (List.mem_cons_of_mem _ hy) inc a b hs hc
        refine ⟨?_, ?_⟩
        · rcases h1 with h | h
          · exact Or.inl (hins a (Or.inl h))
          · rcases List.mem_cons.1 h with e | h'
            · exact Or.inl (hins a (Or.inr e))
            · exact Or.inr h'
        · rcases h2 with h | h
          · exact Or.inl (hins b (Or.inl h))
          · rcases List.mem_cons.1 h with e | h'
            · exact Or.inl (hins b (Or.inr e))
            · exact Or.inr h')
    refine ⟨pre', hr, ?_⟩
    intro y hy
    apply hpost
    rcases hy with h | h
    · exact Or.inl (hins y (Or.inl h))
    · rcases List.mem_cons.1 h with e | h'
      · exact Or.inl (hins y (Or.inr e))
      · exact Or.inr h'

theorem buildDerivationTree_ok (st : State P S V M Pr) (hlt : CausesBelow st.store) (id : Nat)
    (hid : id < st.store.length) : ∃ tree, st.buildDerivationTree id = .ok tree := by
  unfold buildDerivationTree
  obtain ⟨⟨all, shared⟩, hcol⟩ := collectIds_ok st.store hlt (2 * st.store.length + 2) [id] [] []
    List.nodup_nil (fun x hx => by cases hx) (fun x hx => by rw [List.mem_singleton.1 hx]; exact hid) (by
    simp only [List.length_cons, List.length_nil]; omega)
  have hpost := collectIds_post st.store hlt hid hcol
  obtain ⟨pre', hbuild, hget⟩ := buildAll_ok st.store hlt shared (sortIds all) [] (sorted_sortIds all)
    (fun x hx => hpost.all_lt x ((mem_sortIds x all).1 hx)) (by
      intro x hx inc a b hs hc
      obtain ⟨h1, h2⟩ := hpost.closed x ((mem_sortIds x all).1 hx) inc a b hs hc
      exact ⟨Or.inr ((mem_sortIds a all).2 h1), Or.inr ((mem_sortIds b all).2 h2)⟩)
  have hroot : (SmallMap.get pre' id).isSome = true :=
    hget id (Or.inr ((mem_sortIds id all).2 (hpost.stack_in id (List.mem_singleton.2 rfl))))
  obtain ⟨tree, htree⟩ := Option.isSome_iff_exists.1 hroot
  simp only [hcol, bind, Except.bind, pure, Except.pure] at hbuild ⊢
  rw [hbuild]
  simp only [htree, unwrapOr]
  exact ⟨_, rfl⟩

end State
end
end Pubgrub
