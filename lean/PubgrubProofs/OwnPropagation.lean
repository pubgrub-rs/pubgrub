/-
Unit propagation and conflict resolution preserve the semantic bundle; the clauses of the package for
which `unitPropagation` is called are examined first, which discharges the obligations waived at its
decision.
-/
import PubgrubProofs.OwnMerge
import PubgrubProofs.DerivationChain

set_option linter.unusedSectionVars false

namespace Pubgrub
open VersionSet

section Lawful
variable {P S V M Pr : Type} [DecidableEq P] [VersionSet S V] [DecidableEq S] [LawfulVersionSet S V]

/-- no new decisions: every package decided in `st'` was decided in `st`, at the same version -/
def DecSub (st st' : State P S V M Pr) : Prop :=
  ∀ (p : P) (pa : PackageAssignments S V) (g : Nat) (v : V) (t : Term S),
    st'.ps.getPA p = some pa → pa.inter = .decision g v t →
    ∃ pa0 g0 t0, st.ps.getPA p = some pa0 ∧ pa0.inter = .decision g0 v t0

theorem DecSub.of_eq {st st' : State P S V M Pr} (h : st'.ps = st.ps) : DecSub st st' :=
  fun _ pa g _ t e1 e2 => ⟨pa, g, t, h ▸ e1, e2⟩

theorem DecSub.trans {a b c : State P S V M Pr} (h1 : DecSub a b) (h2 : DecSub b c) : DecSub a c := by
  intro p pa g v t e1 e2
  obtain ⟨pa0, g0, t0, e3, e4⟩ := h2 p pa g v t e1 e2
  exact h1 p pa0 g0 v t0 e3 e4

/-- the store grows at its end, no decision is added, and the chains of dated derivations are kept -/
structure Grow (st st' : State P S V M Pr) : Prop where
  store : StorePrefix st st'
  dec : DecSub st st'
  chain : st.DDChainInv → st'.DDChainInv

theorem Grow.refl (st : State P S V M Pr) : Grow st st := ⟨StorePrefix.refl st, DecSub.of_eq rfl, id⟩

theorem Grow.trans {a b c : State P S V M Pr} (h1 : Grow a b) (h2 : Grow b c) : Grow a c :=
  ⟨h1.store.trans h2.store, h1.dec.trans h2.dec, h2.chain ∘ h1.chain⟩

theorem Grow.of_prefix {st st' : State P S V M Pr} (h1 : StorePrefix st st') (h2 : st'.ps = st.ps) :
    Grow st st' := ⟨h1, DecSub.of_eq h2, fun h => h.of_prefix h1 h2⟩

theorem Grow.of_eq {st st' : State P S V M Pr} (h1 : st'.store = st.store) (h2 : st'.ps = st.ps) :
    Grow st st' := Grow.of_prefix (StorePrefix.of_eq h1) h2

theorem Grow.derive {st : State P S V M Pr} {q : P} {cause : Nat} {ps : PartialSolution P S V Pr}
    {b : List P} {c : List (Nat × Nat)} (hw : st.ps.WF')
    (hps : st.ps.addDerivation q cause st.store = .ok ps) :
    Grow st { st with buffer := b, ps := ps, contradicted := c } :=
  ⟨fun _ _ hx => hx,
    fun _ pa' g' _ t' e1 e2 => ⟨pa', g', t', PartialSolution.addDerivation_decided hw hps e1 e2, e2⟩,
    fun h => PartialSolution.addDerivation_ddchain h hps⟩

theorem State.grow_setBuffer (st : State P S V M Pr) {b : List P} : Grow st { st with buffer := b } :=
  Grow.of_eq rfl rfl

theorem State.grow_setCache (st : State P S V M Pr) {c : List (Nat × Nat)} :
    Grow st { st with contradicted := c } :=
  Grow.of_eq rfl rfl

theorem Grow.setPS (st : State P S V M Pr) {ps : PartialSolution P S V Pr}
    (ha : ps.assignments = st.ps.assignments) : Grow st { st with ps := ps } := by
  refine ⟨fun _ _ hx => hx, fun p pa g v t e1 e2 => ⟨pa, g, t, ?_, e2⟩, fun h => ?_⟩
  · unfold PartialSolution.getPA at e1 ⊢; rw [← ha]; exact e1
  · unfold State.DDChainInv; rw [ha]; exact h

namespace State

theorem propagateIncompats_sem (W : World P S V M) (root : P) (rv : V) (cur : P) :
    ∀ (ids : List Nat) (st : State P S V M Pr) {st' : State P S V M Pr} {r : Option Nat},
    propagateIncompats st ids = .ok (st', r) →
    Sem W root rv st (fun p i => p = cur ∧ i ∈ ids) →
    (∃ rest', Sem W root rv st' (fun p i => p = cur ∧ i ∈ rest') ∧ (r = none → rest' = [])) ∧
      st'.store = st.store ∧ st'.incompatibilities = st.incompatibilities ∧ Grow st st' := by
  intro ids
  induction ids with
  | nil =>
    intro st st' r hr h
    simp only [propagateIncompats] at hr
    injection hr with hr; injection hr with h1 h2; subst h1
    exact ⟨⟨[], h, fun _ => rfl⟩, rfl, rfl, Grow.refl _⟩
  | cons id rest ih =>
    intro st st' r hr h
    have hw := h.pinv.wf.wf
    have htop := PartialSolution.termsAt_top hw (Nat.le_refl _)
    unfold propagateIncompats at hr
    split at hr
    · -- cached
      rename_i hck
      apply ih _ hr
      apply Sem.discharge W root rv h
      intro pa g v t inc _ _ hinc _ _
      unfold SmallMap.containsKey at hck
      cases hg : SmallMap.get st.contradicted id with
      | none => rw [hg] at hck; cases hck
      | some l0 =>
        obtain ⟨hl0, hc⟩ := h.cache id l0 (SmallMap.mem_of_get hg)
        exact hc inc hinc _ hl0 (Nat.le_refl _)
    split at hr
    · cases hr
    rename_i inc hinc
    have hinc' := storeGet_ok hinc
    have ginc := h.sinv.store id inc hinc'
    split at hr
    · -- satisfied: conflict
      injection hr with hr; injection hr with h1 h2; subst h1; subst h2
      exact ⟨⟨id :: rest, h, fun e => by cases e⟩, rfl, rfl, Grow.refl _⟩
    · -- almost satisfied
      split at hr
      · cases hr
      rename_i q ps hps
      obtain ⟨hA, hB, hC, hD⟩ := ih _ hr (Sem.derive W root rv _ h hps)
      exact ⟨hA, hB, hC, (Grow.derive h.pinv.wf hps).trans hD⟩
    · -- contradicted
      rename_i q hrel
      have hc : inc.SContra st.ps.terms :=
        Incompat.sContra_of_relation ginc.sets
          (fun _ _ ho => PartialSolution.termIntersection_valid h.sinv.ps ho) hrel
      obtain ⟨hA, hB, hC, hD⟩ := ih _ hr (Sem.cacheInsert W root rv h hinc' hc)
      exact ⟨hA, hB, hC, st.grow_setCache.trans hD⟩
    · -- inconclusive: impossible for an owned clause of a decided package
      rename_i hrel
      apply ih _ hr
      apply Sem.discharge W root rv h
      intro pa g v t inc2 hpa hd hinc2 ho _
      rw [hinc'] at hinc2; injection hinc2 with hinc2; subst hinc2
      exfalso
      exact Incompat.owned_ne_inconclusive W root rv ginc ho st.ps.terms
        (PartialSolution.terms_of_decided hw hpa hd).1 hrel

end State

theorem Incompat.priorCause_kind {id1 id2 : Nat} {ia ib : Incompat P S V M} {p : P} {r : Incompat P S V M}
    (h : Incompat.priorCause id1 id2 ia ib p = .ok r) : r.kind = .derivedFrom id1 id2 := by
  unfold Incompat.priorCause at h
  simp only [bind, Except.bind, pure, Except.pure] at h
  split at h
  · cases h
  split at h
  · cases h
  injection h with h; subst h; rfl

namespace State

theorem IndexComplete.congr {st st' : State P S V M Pr} (h : st.IndexComplete)
    (hs : st'.store = st.store) (hi : st'.incompatibilities = st.incompatibilities) :
    st'.IndexComplete := by
  intro id inc hinc
  rw [hs] at hinc
  exact State.Rep.mono (h id inc hinc) (StorePrefix.of_eq hs)
    (fun p i hi' => by unfold State.indexOf at hi' ⊢; rw [hi]; exact hi')

theorem backtrack_sem (W : World P S V M) (root : P) (rv : V) {st st' : State P S V M Pr}
    {waive : P → Nat → Prop} {incompat : Nat} {changed : Bool} {dl : Nat}
    (hr : st.backtrack incompat changed dl = .ok st') (h : Sem W root rv st waive)
    (hic : st.IndexComplete) (hdl : dl < st.ps.currentDecisionLevel)
    (hch : changed = true → ∃ inc a b, st.store[incompat]? = some inc ∧ inc.kind = .derivedFrom a b) :
    Sem W root rv st' noWaive ∧ st'.IndexComplete ∧ Grow st st' := by
  obtain ⟨ps, hps, hc⟩ := backtrack_spec hr
  have h1 := Sem.backtrackPS W root rv h hdl hps
  have hic1 := hic.congr
    (st' := { st with ps := ps, contradicted := SmallMap.retainVals st.contradicted (fun l => l ≤ dl) }) rfl rfl
  have hg1 : Grow st
      { st with ps := ps, contradicted := SmallMap.retainVals st.contradicted (fun l => l ≤ dl) } :=
    ⟨fun _ _ hx => hx,
      fun p pa g v t e1 e2 => ⟨pa, g, t, PartialSolution.backtrack_decided h.pinv.wf.wf hps e1 e2, e2⟩,
      fun hc => PartialSolution.backtrack_ddchain hc hps⟩
  rcases hc with ⟨hc, hr⟩ | rfl
  · obtain ⟨inc, a, b, hinc, hk⟩ := hch hc
    obtain ⟨h2, hic2, _, h3, hps2⟩ := mergeIncompatibility_own W root rv hr h1
      (fun inc' hinc' p ho => by
        rw [show inc' = inc from Option.some.inj (hinc'.symm.trans hinc)] at ho
        unfold Incompat.OwnedBy at ho; rw [hk] at ho; exact ho.elim)
      (State.icx_of_indexComplete hic1 0 0)
    exact ⟨h2, State.indexComplete_of_icx hic2 (Nat.le_refl _), hg1.trans (Grow.of_prefix h3 hps2)⟩
  · exact ⟨h1, hic1, hg1⟩

theorem conflictResolution_sem (W : World P S V M) (root : P) (rv : V) :
    ∀ (fuel : Nat) (st : State P S V M Pr) (cur : Nat) (changed : Bool)
      {st' : State P S V M Pr} {r : Except Nat (P × Nat)} {waive : P → Nat → Prop},
    conflictResolution fuel st cur changed = .ok (st', r) → Sem W root rv st waive →
    st.IndexComplete →
    (changed = true → ∃ inc a b, st.store[cur]? = some inc ∧ inc.kind = .derivedFrom a b) →
    ∀ x, r = .ok x → Sem W root rv st' noWaive ∧ st'.IndexComplete ∧ Grow st st' := by
  intro fuel
  induction fuel with
  | zero => intro st cur changed st' r waive hr; simp [conflictResolution] at hr
  | succ fuel ih =>
    intro st cur changed st' r waive hr h hic hch x hx
    unfold conflictResolution at hr
    simp only [bind, Except.bind, pure, Except.pure] at hr
    split at hr
    · cases hr
    rename_i inc hinc
    split at hr
    · injection hr with hr; injection hr with h1 h2; subst h1; subst h2
      cases hx
    · split at hr
      · cases hr
      rename_i ps hss
      split at hr
      · rename_i prev hsearch
        split at hr
        · cases hr
        rename_i st1 hb
        injection hr with hr; injection hr with h1 h2; subst h1; subst h2
        have hlev : prev < st.ps.currentDecisionLevel := by
          apply PartialSolution.satisfierSearch_prev_lt h.pinv.wf (inc := inc) (store := st.store) (pkg := ps.1)
          rw [hss]
          obtain ⟨a, b⟩ := ps
          simp only at hsearch
          rw [hsearch]
        exact backtrack_sem W root rv hb h hic hlev hch
      · rename_i satisfierCause _
        split at hr
        · cases hr
        rename_i causeInc hcause
        split at hr
        · cases hr
        rename_i prior hprior
        have hk := Incompat.priorCause_kind hprior
        have hgood : StoreInv W root rv (st.store ++ [prior]) := by
          apply storeInv_push W root rv st.store prior h.sinv.store
          exact Incompat.priorCause_good W root rv st.store cur satisfierCause inc causeInc
            (storeGet_ok hinc) (storeGet_ok hcause) (h.sinv.store _ _ (storeGet_ok hinc))
            (h.sinv.store _ _ (storeGet_ok hcause)) ps.1 prior hprior st.store.length
            (storeGet_lt hinc) (storeGet_lt hcause)
        have hpre : Grow st ({ st with store := st.store ++ [prior] } : State P S V M Pr) :=
          Grow.of_prefix (StorePrefix.append st [prior]) rfl
        have hrec := ih _ _ _ hr (Sem.storeAppend W root rv h [prior] hgood) ?_ ?_ x hx
        · exact ⟨hrec.1, hrec.2.1, hpre.trans hrec.2.2⟩
        · exact State.indexComplete_of_icx
            (State.ICx.storePush (State.icx_of_indexComplete hic 0 0) prior ⟨_, _, hk⟩) (Nat.le_refl _)
        · intro _
          refine ⟨prior, _, _, ?_, hk⟩
          show (st.store ++ [prior])[st.store.length]? = some prior
          rw [List.getElem?_append_right (Nat.le_refl _)]; simp

theorem unitPropagationLoop_sem (W : World P S V M) (root : P) (rv : V) :
    ∀ (fuel : Nat) (st : State P S V M Pr) {st' : State P S V M Pr},
    unitPropagationLoop fuel st = .ok (st', none) →
    Sem W root rv st (fun p _ => st.buffer.getLast? = some p) → st.IndexComplete →
    Sem W root rv st' noWaive ∧ st'.IndexComplete ∧ Grow st st' := by
  intro fuel
  induction fuel with
  | zero => intro st st' hr; simp [unitPropagationLoop] at hr
  | succ fuel ih =>
    intro st st' hr h hic
    unfold unitPropagationLoop at hr
    split at hr
    · rename_i hnone
      injection hr with hr; injection hr with h1 h2; subst h1
      refine ⟨Sem.reWaive W root rv h ?_, hic, Grow.refl _⟩
      intro p id _ hw
      rw [hnone] at hw; cases hw
    rename_i current hcur
    simp only at hr
    split at hr
    · cases hr
    rename_i ids hids
    -- the state after the pop, with the obligations of `current` pending
    have h0 : Sem W root rv ({ st with buffer := st.buffer.dropLast } : State P S V M Pr)
        (fun p i => p = current ∧ i ∈ ids.reverse) := by
      apply Sem.reWaive W root rv (Sem.setBuffer W root rv h st.buffer.dropLast)
      intro p id hid hw
      rw [hcur] at hw; injection hw with hw; subst hw
      refine ⟨rfl, ?_⟩
      have : State.indexOf ({ st with buffer := st.buffer.dropLast } : State P S V M Pr) current = ids := by
        unfold State.indexOf
        simp only at hids ⊢
        rw [hids]; rfl
      rw [this] at hid
      exact List.mem_reverse.2 hid
    have hic0 : State.IndexComplete ({ st with buffer := st.buffer.dropLast } : State P S V M Pr) :=
      hic.congr rfl rfl
    split at hr
    · cases hr
    · rename_i st1 hp
      obtain ⟨⟨rest', h1, hrest⟩, e1, e2, e3⟩ := propagateIncompats_sem W root rv current _ _ hp h0
      have := hrest rfl
      subst this
      have hrec := ih _ hr (Sem.reWaive W root rv h1 (fun p id _ hw => absurd hw.2 (by simp)))
        (hic0.congr e1 e2)
      exact ⟨hrec.1, hrec.2.1, (st.grow_setBuffer.trans e3).trans hrec.2.2⟩
    · rename_i st1 conflictId hp
      obtain ⟨⟨rest', h1, _⟩, e1, e2, e3⟩ := propagateIncompats_sem W root rv current _ _ hp h0
      have hic1 : st1.IndexComplete := hic0.congr e1 e2
      split at hr
      · cases hr
      · injection hr with hr; injection hr with _ hr; cases hr
      · rename_i st2 packageAlmost rootCause hc
        obtain ⟨h2, hic2, hpre2⟩ := conflictResolution_sem W root rv _ _ _ _ hc h1 hic1
          (by intro e; cases e) _ rfl
        split at hr
        · cases hr
        rename_i ps hps
        have h2' : Sem W root rv st2 (fun p i => p = packageAlmost ∧ i ∈ rootCause :: []) :=
          Sem.reWaive W root rv h2 (fun _ _ _ hw => hw.elim)
        have h3 := Sem.derive W root rv [packageAlmost] h2' hps
        have hrec := ih _ hr (Sem.reWaive W root rv h3 (fun p id _ hw => absurd hw.2 (by simp)))
          (hic2.congr rfl rfl)
        have hg3 := Grow.derive (b := [packageAlmost])
          (c := SmallMap.insert st2.contradicted rootCause ps.currentDecisionLevel) h2.pinv.wf hps
        exact ⟨hrec.1, hrec.2.1,
          (((st.grow_setBuffer.trans e3).trans hpre2).trans hg3).trans hrec.2.2⟩

theorem unitPropagation_sem (W : World P S V M) (root : P) (rv : V)
    {fuel : Nat} {st st' : State P S V M Pr} {p : P}
    (hr : unitPropagation fuel st p = .ok (st', none))
    (h : Sem W root rv st (fun p' _ => p' = p)) (hic : st.IndexComplete) :
    Sem W root rv st' noWaive ∧ st'.IndexComplete ∧ Grow st st' := by
  unfold unitPropagation at hr
  have hres := unitPropagationLoop_sem W root rv _ _ hr
    (Sem.reWaive W root rv (Sem.setBuffer W root rv h [p]) (fun p' id _ hw => by subst hw; rfl))
    (hic.congr rfl rfl)
  exact ⟨hres.1, hres.2.1, st.grow_setBuffer.trans hres.2.2⟩

end State
end Lawful
end Pubgrub
