/-
Property C12: "choose_version(p, set) is only called with a non-empty set".
It follows from the invariant that no term of the partial solution is `Positive` of a set without
members (the invariant was also evaluated on the 205 171 states of the mirrored runs, where it holds).
Emptiness must be canonical
for this: `LawfulVersionSet` does not say that a member-free valid set is `empty` (a pathological
implementation could hand out a member-free set that is `≠ empty`, e.g. as a dependency set, and then
`choose_version` is legitimately asked about a member-free set), hence the extra class below.
-/
import PubgrubProofs.SatisfierTheory
import PubgrubProofs.NonEmptyLoops

set_option linter.unusedSectionVars false

namespace Pubgrub
open VersionSet

/-- canonical emptiness: a valid set without members is `empty` (true of `Range` over a dense order
without end points and of the bit set) -/
class CanonicalEmpty (S V : Type) [VersionSet S V] [LawfulVersionSet S V] : Prop where
  eq_empty_of_no_member : ∀ s : S, LawfulVersionSet.Valid V s → (∀ v : V, VersionSet.contains s v = false) →
    s = (empty : S)

variable {P S V M Pr E : Type} [DecidableEq P] [VersionSet S V] [DecidableEq S] [DecidableEq V]
  [LE Pr] [DecidableLE Pr] [LawfulVersionSet S V]

/-- a term that some choice makes true: a positive term needs a member, a negative term is true when
the package is not selected -/
def Term.Inhabited : Term S → Prop
  | .pos s => ∃ v : V, VersionSet.contains s v = true
  | .neg _ => True

/-- NonEmpty: every current and every accumulated term of the partial solution is inhabited -/
def PartialSolution.NonEmpty (ps : PartialSolution P S V Pr) : Prop :=
  ∀ p pa, (p, pa) ∈ ps.assignments →
    Term.Inhabited (V := V) pa.inter.term ∧ ∀ dd ∈ pa.dated, Term.Inhabited (V := V) dd.accumulated

/-! ### `CanonicalEmpty`, `Inhabited`, `NonEmpty` above are `CanonEmpty`, `Inh`, `NE` of InhabitedTerms.lean -/

theorem CanonicalEmpty.canonEmpty [CanonicalEmpty S V] : CanonEmpty S V :=
  CanonicalEmpty.eq_empty_of_no_member

theorem Term.inhabited_iff_inh (t : Term S) : Term.Inhabited (V := V) t ↔ Term.Inh (V := V) t := by
  cases t <;> exact Iff.rfl

theorem PartialSolution.nonEmpty_iff_ne (ps : PartialSolution P S V Pr) : ps.NonEmpty ↔ ps.NE := by
  constructor
  · intro h p pa hm
    obtain ⟨h1, h2⟩ := h p pa hm
    exact ⟨(Term.inhabited_iff_inh _).1 h1, fun dd hdd => (Term.inhabited_iff_inh _).1 (h2 dd hdd)⟩
  · intro h p pa hm
    obtain ⟨h1, h2⟩ := h p pa hm
    exact ⟨(Term.inhabited_iff_inh _).2 h1, fun dd hdd => (Term.inhabited_iff_inh _).2 (h2 dd hdd)⟩

theorem PartialSolution.NE.congr {ps ps' : PartialSolution P S V Pr} (h : ps.NE)
    (e : ps'.assignments = ps.assignments) : ps'.NE := by
  intro p pa hm
  rw [e] at hm
  exact h p pa hm

/-- every term of the partial solution of an unfinished state is inhabited -/
def RInvN (x : SolverState P S V M Pr × Request P S V M Pr E) : Prop :=
  x.1.phase ≠ .finished → x.1.st.ps.NE

theorem rinvN_finish (s : SolverState P S V M Pr) (r : Request P S V M Pr E) :
    RInvN (Solver.finish s r) := fun h => absurd rfl h

theorem rinvN_loopAgain (s : SolverState P S V M Pr) (st : State P S V M Pr) (h : st.ps.NE) :
    RInvN (E := E) (Solver.loopAgain s st) := fun _ => h

theorem rinvN_step (ce : CanonEmpty S V) (W : World P S V M) (root : P) (rv : V)
    (s : SolverState P S V M Pr) (req : Request P S V M Pr E) (a : Answer P S V M Pr E)
    (h0 : RInv W root rv (s, req)) (h1 : RInv' (s, req)) (hT : RInvT root rv (s, req))
    (h : RInvN (s, req)) : RInvN (Solver.step s a) := by
  by_cases hlive : s.phase = .finished
  · rw [Solver.step_finished s a hlive]
    exact fun hn => absurd hlive hn
  have hne : s.st.ps.NE := h hlive
  obtain ⟨hp, _⟩ := h1.live hlive
  apply Solver.step_cases (motive := RInvN) s a
  case stop => exact fun _ _ _ _ => rinvN_finish _ _
  case solved => exact fun _ _ _ _ _ _ => rinvN_finish _ _
  case propagated =>
    intro st L _ _ hu _
    have := (State.unitPropagation_carries (State.carries_ne ce W root rv) s.fuel s.st s.next h0.sinv hp
      (hT.live hlive) hne).of_ok hu
    cases L <;> exact fun _ => this
  case prioritized =>
    intro cur rest acc pr _ _
    cases rest <;> exact fun _ => hne
  case popped => exact fun _ _ _ _ _ _ _ _ _ _ => hne.congr rfl
  case fetch => exact fun _ _ _ _ _ _ _ _ => hne
  case noVersion =>
    intro p t inc st _ _ _ hadd
    exact rinvN_loopAgain s _ (hne.congr (by rw [(State.addIncompatibility_pinv hadd hp).2]))
  case redecided =>
    intro p t v ps _ _ _ _ hps
    exact rinvN_loopAgain _ _ (PartialSolution.addDecision_ne hne hps)
  case unavailable =>
    intro p v m st _ _ hadd
    exact rinvN_loopAgain s _ (hne.congr (by rw [(State.addIncompatibility_pinv hadd hp).2]))
  case available =>
    intro p v deps st start stop ps _ _ hadd hps
    obtain ⟨_, eps⟩ := State.addIncompatibilityFromDependencies_pinv hadd hp
    exact rinvN_loopAgain _ _ (PartialSolution.addVersion_ne (hne.congr (by rw [eps])) hps)

theorem reachable_rinvN [CanonicalEmpty S V] (W : World P S V M) (hW : W.SetsValid) (debug : Bool)
    (fuel : Nat) (root : P) (rv : V) (x : SolverState P S V M Pr × Request P S V M Pr E)
    (h : Reachable W debug fuel root rv x) : RInvN x := by
  induction h with
  | start => exact fun _ => PartialSolution.ne_empty
  | step hreach ha ih =>
    exact rinvN_step CanonicalEmpty.canonEmpty W root rv _ _ _
      (reachable_rinv W hW debug fuel root rv _ hreach)
      (reachable_rinv' W hW debug fuel root rv _ hreach)
      (reachable_rinvT W hW debug fuel root rv _ hreach) ih

theorem choosing_of_chooseVersion {s : SolverState P S V M Pr} {p : P} {set : S}
    (hc : Solver.Coherent (E := E) (s, .chooseVersion p set)) : s.phase = .choosing p (.pos set) := by
  unfold Solver.Coherent at hc
  split at hc
  · cases hc
  · cases hc
  · obtain ⟨_, hc⟩ := hc; cases hc
  · rename_i p' t hph
    obtain ⟨set', hreq, ht⟩ := hc
    simp only at hreq
    injection hreq with e1 e2
    subst e1; subst e2; subst ht
    exact hph
  · cases hc
  · simp [Request.isFinal] at hc

theorem reachable_nonEmpty [CanonicalEmpty S V] (W : World P S V M) (hW : W.SetsValid) (debug : Bool)
    (fuel : Nat) (root : P) (rv : V) (x : SolverState P S V M Pr × Request P S V M Pr E)
    (h : Reachable W debug fuel root rv x) (hph : x.2.isFinal = false) : x.1.st.ps.NonEmpty := by
  exact (PartialSolution.nonEmpty_iff_ne _).2
    (reachable_rinvN W hW debug fuel root rv x h
      (live_of_not_final (reachable_coherent W debug fuel root rv x h) hph))

/-- C12: `choose_version` is only called with a set that has a member -/
theorem choose_nonempty [CanonicalEmpty S V] (W : World P S V M) (hW : W.SetsValid) (debug : Bool)
    (fuel : Nat) (root : P) (rv : V) (s : SolverState P S V M Pr) (p : P) (set : S)
    (h : Reachable (E := E) W debug fuel root rv (s, .chooseVersion p set)) :
    ∃ v : V, VersionSet.contains set v = true := by
  have hph := choosing_of_chooseVersion (reachable_coherent W debug fuel root rv _ h)
  have hlive : s.phase ≠ .finished := by rw [hph]; intro e; cases e
  have hne : s.st.ps.NE := reachable_rinvN W hW debug fuel root rv _ h hlive
  obtain ⟨_, hterm, _⟩ := (reachable_rinv' W hW debug fuel root rv _ h).choosing p (.pos set) hph
  simp only [PartialSolution.termIntersectionForPackage, Option.map_eq_some_iff] at hterm
  obtain ⟨pa, hpa, ht⟩ := hterm
  have := (hne p pa (SmallMap.mem_of_get hpa)).1
  rw [ht] at this
  exact this

end Pubgrub
