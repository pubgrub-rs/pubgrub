/-
Property C09: `collapse_no_versions` never panics on a tree produced by `resolve`.
By `collapse_no_panic_partial` (CollapseSound.lean) the only panic of `collapseNoVersions` is a derived
node one of whose causes is a `NoVersions` leaf and the other a `NotRoot` leaf
(`DerivationTree.NoVersionsBesideNotRoot`); no tree carried by a `NoSolution` result has such a node.

Why.  The tree is `buildDerivationTree terminal` of the store (TreeOf.lean: `buildDerivationTree_spec`,
`IsTreeOf`: a derived node's two subtrees are the trees of the two cause ids of a `derivedFrom a b`
clause; an external leaf's kind is the clause's kind), so it suffices that no stored clause has kind
`derivedFrom a b` with `store[a]` of kind `noVersions` and `store[b]` of kind `notRoot` or the other way
round.  The only `notRoot` clause is id 0, `{root: ¬{rv}}`; a `derivedFrom` clause is `priorCause` of the
current conflict clause and the satisfier's cause on a package that occurs in both, so the
`noVersions p s` partner would have `p = root`.
(J) every stored clause of kind `noVersions root s` has `contains s rv = true`: `s` is the positive
    term of `root` in the partial solution at the moment `choose_version(root, s)` answered `None`; the
    root's term is always a subset of `{rv}` (its first derivation, from clause 0, is `Positive {rv}`;
    later terms are intersections) and is inhabited (`reachable_nonEmpty`, NonEmpty.lean), so it
    contains `rv`.
(K) hence such a clause is `isTerminal root rv` (one term, package = root, term contains rv).
    In `conflictResolution` the terminal test comes before any `priorCause`; so the initial conflict
    clause is never a `noVersions root _` leaf that gets resolved; and after the first resolution
    step the current clause is `derivedFrom`, not a leaf.
(L) the other way round — current clause = clause 0 (`notRoot`), cause = a `noVersions` clause — cannot
    happen either: clause 0 `{root: ¬{rv}}` is never the conflict clause, because the root's term is
    inhabited and within `{rv}`, so it is not a subset of `¬{rv}` (clause 0 is never `satisfied`);
    and it is not the *cause* side with a `noVersions root s` current clause by (K).
The run-level invariant `RInvK` (CollapseRunInv.lean) carries (J) and the conclusion (D) of (K), (L): "for
every `derivedFrom a b` clause in the store, not (`store[a]` is `noVersions` and `store[b]` is `notRoot`)
and not the converse"; both are `StoreCK` (CollapseInvariants.lean).
-/
import PubgrubProofs.TreeLink
import PubgrubProofs.CollapseSound
import PubgrubProofs.SatisfierTheory
import PubgrubProofs.NonEmpty
import PubgrubProofs.CollapseRunInv

set_option linter.unusedSectionVars false

namespace Pubgrub
open VersionSet

variable {P S V M Pr E : Type} [DecidableEq P] [VersionSet S V] [DecidableEq S] [DecidableEq V]
  [LE Pr] [DecidableLE Pr] [LawfulVersionSet S V] [CanonicalEmpty S V]

theorem reachable_rinvK (W : World P S V M) (hW : W.SetsValid) (debug : Bool) (fuel : Nat)
    (root : P) (rv : V) (x : SolverState P S V M Pr × Request P S V M Pr E)
    (h : Reachable W debug fuel root rv x) : RInvK root rv x := by
  induction h with
  | start => exact rinvK_start debug fuel root rv
  | step hreach ha ih =>
    exact rinvK_step CanonicalEmpty.canonEmpty W root rv _ _ _
      (reachable_rinv W hW debug fuel root rv _ hreach)
      (reachable_rinv' W hW debug fuel root rv _ hreach)
      (reachable_rinvT W hW debug fuel root rv _ hreach)
      (reachable_rinvN W hW debug fuel root rv _ hreach) ih

theorem noSolution_tree_no_noVersionsBesideNotRoot (W : World P S V M) (hW : W.SetsValid) (debug : Bool)
    (fuel : Nat) (root : P) (rv : V) (s : SolverState P S V M Pr) (tree : DerivationTree P S V M)
    (h : Reachable (E := E) W debug fuel root rv (s, .noSolution tree)) :
    ¬ tree.NoVersionsBesideNotRoot := by
  obtain ⟨terminal, inc, hinc, hterm, htree, hinv, -, -⟩ :=
    noSolution_tree_origin W hW debug fuel root rv s tree h
  have hck := (reachable_rinvK (E := E) W hW debug fuel root rv _ h).noSol tree rfl
  obtain ⟨all, shared, _, ht⟩ := buildDerivationTree_spec s.st terminal tree htree
  exact ht.no_noVersionsBesideNotRoot hck

/-- C09: `collapse_no_versions` does not panic on a tree produced by `resolve` -/
theorem noSolution_collapse_no_panic (W : World P S V M) (hW : W.SetsValid) (debug : Bool)
    (fuel : Nat) (root : P) (rv : V) (s : SolverState P S V M Pr) (tree : DerivationTree P S V M)
    (h : Reachable (E := E) W debug fuel root rv (s, .noSolution tree)) :
    ∃ t', tree.collapseNoVersions = .ok t' :=
  collapse_no_panic_partial tree (noSolution_tree_no_noVersionsBesideNotRoot W hW debug fuel root rv s tree h)

end Pubgrub
