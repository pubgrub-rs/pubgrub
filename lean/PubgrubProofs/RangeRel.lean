/-
The dedicated sweeps `is_disjoint` / `subset_of` agree with the intersection, and canonical
segment lists over a dense order without end points are determined by their points
(property C10, second half).
-/
import PubgrubProofs.RangeSet

namespace Pubgrub.Range
open Pubgrub Bound
variable {V : Type} [LinearOrder V]

theorem rel_wf_nil : WF ([] : Range V) := rfl

theorem endSmaller_of_not_valid {rs le re : Bound V} (h1 : validSegment rs le = false)
    (h2 : validSegment rs re = true) : leftEndIsSmaller le re = true :=
  leftEndIsSmaller_iff.2 ((validSegment_eq_false_iff.1 h1).trans (validSegment_iff.1 h2).le)

theorem not_endSmaller_of_not_valid {ls le re : Bound V} (h1 : validSegment ls re = false)
    (h2 : validSegment ls le = true) : leftEndIsSmaller le re = false :=
  leftEndIsSmaller_eq_false_iff.2 ((validSegment_eq_false_iff.1 h1).trans_lt (validSegment_iff.1 h2))

theorem isDisjoint_iff_inter_empty (a b : Range V) (ha : WF a) (hb : WF b) :
    isDisjoint a b = true ↔ intersection a b = [] := by
  fun_induction isDisjoint a b with
  | case1 ls le l rs re r hv ih =>
    have hv : validSegment rs le = false := by simpa using hv
    have hsm := endSmaller_of_not_valid hv (wf_head_valid hb)
    rw [ih (wf_tail ha) hb, intersection]
    simp [hsm, hv]
  | case2 ls le l rs re r hv1 hv2 ih =>
    have hv1 : validSegment rs le = true := by simpa using hv1
    have hv2 : validSegment ls re = false := by simpa using hv2
    have hsm := not_endSmaller_of_not_valid hv2 (wf_head_valid ha)
    rw [ih ha (wf_tail hb), intersection]
    simp [hsm, hv2]
  | case3 ls le l rs re r hv1 hv2 =>
    have hv1 : validSegment rs le = true := by simpa using hv1
    have hv2 : validSegment ls re = true := by simpa using hv2
    rw [intersection]
    by_cases hsm : leftEndIsSmaller le re = true <;> simp [hsm, hv1, hv2]
  | case4 b => simp [intersection]
  | case5 x l => simp [intersection]

theorem not_valid_of_gap {e s : Bound V} (h : endBeforeStartWithGap e s = true) :
    validSegment s e = false :=
  validSegment_eq_false_iff.2 (gap_iff.1 h).le

theorem interStart_ne {c1 s1 : Bound V} (h : leftStartIsSmaller c1 s1 = false) :
    interStart s1 c1 ≠ s1 := fun he =>
  (leftStartIsSmaller_eq_false_iff.1 h).not_ge
    ((le_max_right _ _).trans_eq ((startCut_interStart s1 c1).symm.trans (congrArg _ he)))

theorem interStart_eq {c1 s1 : Bound V} (h : leftStartIsSmaller c1 s1 = true) :
    interStart s1 c1 = s1 :=
  startCut_injective ((startCut_interStart s1 c1).trans (max_eq_left (leftStartIsSmaller_iff.1 h)))

theorem leftEndIsSmaller_refl (e : Bound V) : leftEndIsSmaller e e = true :=
  leftEndIsSmaller_iff.2 le_rfl

theorem valid_of_startSmaller {c1 s1 s2 : Bound V} (h : leftStartIsSmaller c1 s1 = true)
    (hv : validSegment s1 s2 = true) : validSegment c1 s2 = true :=
  validSegment_iff.2 ((leftStartIsSmaller_iff.1 h).trans_lt (validSegment_iff.1 hv))

/-- the sweep of `subset_of` in any of its states: `c` is the current containing segment, `cs` the
rest of the containing iterator -/
theorem subsetGo_iff (a : Range V) (c : Seg V) (cs : Range V) (ha : WF a) :
    subsetGo a c cs = true ↔ intersection a (c :: cs) = a := by
  fun_induction subsetGo a c cs with
  | case1 c cs => simp [intersection]
  | case2 s ss c hv =>
    obtain ⟨s1, s2⟩ := s; obtain ⟨c1, c2⟩ := c
    have hv : validSegment s1 c2 = false := by simpa using hv
    have hsm := not_endSmaller_of_not_valid hv (wf_head_valid ha)
    rw [intersection]
    simp [hsm, hv, intersection]
  | case3 s ss c hv c' cs' ih =>
    obtain ⟨s1, s2⟩ := s; obtain ⟨c1, c2⟩ := c
    have hv : validSegment s1 c2 = false := by simpa using hv
    have hsm := not_endSmaller_of_not_valid hv (wf_head_valid ha)
    rw [ih ha]
    conv => rhs; rw [intersection]
    simp [hsm, hv]
  | case4 s ss c cs hv hst =>
    obtain ⟨s1, s2⟩ := s; obtain ⟨c1, c2⟩ := c
    have hv : validSegment s1 c2 = true := by simpa using hv
    have hst : leftStartIsSmaller c1 s1 = false := by simpa using hst
    have hne := interStart_ne hst
    rw [intersection]
    by_cases hsm : leftEndIsSmaller s2 c2 = true
    · by_cases hv2 : validSegment c1 s2 = true
      · simp [hsm, hv2, hne]
      · have hA := after_inter ss ((c1, c2) :: cs) (.inl (wf_after ha))
        simp only [hsm, hv2, if_true, if_false, Bool.false_eq_true, false_iff]
        intro heq
        have := hA (s1, s2) (by rw [heq]; simp)
        have := not_valid_of_gap this
        have := wf_head_valid ha
        simp_all
    · simp [hsm, hv, hne]
  | case5 s ss c cs hv hst hen =>
    obtain ⟨s1, s2⟩ := s; obtain ⟨c1, c2⟩ := c
    have hv : validSegment s1 c2 = true := by simpa using hv
    have hen : leftEndIsSmaller s2 c2 = false := by simpa using hen
    have hne : c2 ≠ s2 := by
      rintro rfl; simp [leftEndIsSmaller_refl] at hen
    rw [intersection]
    simp [hen, hv, hne]
  | case6 s ss c cs hv hst hen ih =>
    obtain ⟨s1, s2⟩ := s; obtain ⟨c1, c2⟩ := c
    have hv : validSegment s1 c2 = true := by simpa using hv
    have hst : leftStartIsSmaller c1 s1 = true := by simpa using hst
    have hen : leftEndIsSmaller s2 c2 = true := by simpa using hen
    have hv2 := valid_of_startSmaller hst (wf_head_valid ha)
    rw [ih (wf_tail ha)]
    conv => rhs; rw [intersection]
    simp [hen, hv2, interStart_eq hst]

theorem subsetOf_iff_inter_eq (a b : Range V) (ha : WF a) (hb : WF b) :
    subsetOf a b = true ↔ intersection a b = a := by
  cases b with
  | nil => cases a <;> simp [subsetOf, intersection, isEmpty]
  | cons c cs => simpa [subsetOf] using subsetGo_iff a c cs ha

theorem startSmaller_antisymm {a b : Bound V} (h1 : leftStartIsSmaller a b = true)
    (h2 : leftStartIsSmaller b a = true) : a = b :=
  startCut_injective (le_antisymm (leftStartIsSmaller_iff.1 h1) (leftStartIsSmaller_iff.1 h2))

theorem endSmaller_antisymm {a b : Bound V} (h1 : leftEndIsSmaller a b = true)
    (h2 : leftEndIsSmaller b a = true) : a = b :=
  endCut_injective (le_antisymm (leftEndIsSmaller_iff.1 h1) (leftEndIsSmaller_iff.1 h2))

section Dense
variable [DenselyOrdered V] [NoMinOrder V] [NoMaxOrder V] [Nonempty V]

theorem startSmaller_of_subset {s e s' : Bound V} (hv : validSegment s e = true)
    (h : ∀ v, Seg.Mem v (s, e) → aboveStart v s') : leftStartIsSmaller s' s = true := by
  by_contra hc
  have hc := leftStartIsSmaller_eq_false_iff.1 (by simpa using hc)
  obtain ⟨v, h1, h2⟩ := Cut.exists_before (lt_min (validSegment_iff.1 hv) hc)
  exact (h2.trans_le (min_le_right _ _)).not_ge (aboveStart_iff.1
    (h v ⟨aboveStart_iff.2 h1, belowEnd_iff.2 (h2.trans_le (min_le_left _ _))⟩))

theorem endSmaller_of_subset {s e e' : Bound V} {t : Range V} (ha : WF ((s, e) :: t))
    (h : ∀ v, aboveStart v s → belowEnd v e' → Range.Mem v ((s, e) :: t)) :
    leftEndIsSmaller e' e = true := by
  by_contra hc
  have hc := leftEndIsSmaller_eq_false_iff.1 (by simpa using hc)
  obtain ⟨hval, hgap, ht⟩ := (wf_cons_iff _ _ _).1 ha
  -- a point beyond `e`, below `e'` and before the next start (if any)
  obtain ⟨v, h1, h2, h3⟩ : ∃ v, e.endCut ≤ .before v ∧ .before v < e'.endCut ∧
      ∀ x ∈ t.head?, .before v < x.1.startCut := by
    cases t with
    | nil =>
      obtain ⟨v, h1, h2⟩ := Cut.exists_before hc
      exact ⟨v, h1, h2, nofun⟩
    | cons x t =>
      obtain ⟨v, h1, h2⟩ := Cut.exists_before (lt_min hc (gap_iff.1 (hgap x rfl)))
      refine ⟨v, h1, h2.trans_le (min_le_left _ _), fun y hy => ?_⟩
      cases hy; exact h2.trans_le (min_le_right _ _)
  have hv1 : ¬ belowEnd v e := fun hb => h1.not_gt (belowEnd_iff.1 hb)
  rcases (mem_cons _ _ _).1 (h v (above_of_not_below hval v hv1) (belowEnd_iff.2 h2)) with hm | hm
  · exact hv1 hm.2
  · cases t with
    | nil => exact (mem_nil v).1 hm
    | cons x t =>
      exact (h3 x rfl).not_ge (aboveStart_iff.1 (above_head ht hm))

end Dense

/-! ### canonical lists are determined by their points (for a non-empty `V`, see the end of the file) -/

theorem exists_mem_of_ne_nil [DenselyOrdered V] [NoMinOrder V] [NoMaxOrder V] [Nonempty V]
    (a : Range V) (ha : WF a) (h : a ≠ []) : ∃ v, Range.Mem v a := by
  cases a with
  | nil => exact absurd rfl h
  | cons x t =>
    obtain ⟨v, hv⟩ := seg_exists_mem (wf_head_valid ha)
    exact ⟨v, (mem_cons _ _ _).2 (Or.inl hv)⟩

theorem ext_of_dense [DenselyOrdered V] [NoMinOrder V] [NoMaxOrder V] [Nonempty V]
    (a b : Range V) (ha : WF a) (hb : WF b) (h : ∀ v, Range.Mem v a ↔ Range.Mem v b) : a = b := by
  induction a generalizing b with
  | nil =>
    cases b with
    | nil => rfl
    | cons y t' =>
      obtain ⟨v, hv⟩ := exists_mem_of_ne_nil _ hb (by simp)
      exact ((mem_nil v).1 ((h v).2 hv)).elim
  | cons x t ih =>
    cases b with
    | nil =>
      obtain ⟨v, hv⟩ := exists_mem_of_ne_nil _ ha (by simp)
      exact ((mem_nil v).1 ((h v).1 hv)).elim
    | cons y t' =>
      obtain ⟨s, e⟩ := x
      obtain ⟨s', e'⟩ := y
      have hs : s = s' := by
        apply startSmaller_antisymm
        · exact startSmaller_of_subset (wf_head_valid hb) fun v hv =>
            above_head ha ((h v).2 ((mem_cons _ _ _).2 (Or.inl hv)))
        · exact startSmaller_of_subset (wf_head_valid ha) fun v hv =>
            above_head hb ((h v).1 ((mem_cons _ _ _).2 (Or.inl hv)))
      subst hs
      have he : e = e' := by
        apply endSmaller_antisymm
        · exact endSmaller_of_subset hb fun v h1 h2 =>
            (h v).1 ((mem_cons _ _ _).2 (Or.inl ⟨h1, h2⟩))
        · exact endSmaller_of_subset ha fun v h1 h2 =>
            (h v).2 ((mem_cons _ _ _).2 (Or.inl ⟨h1, h2⟩))
      subst he
      have key : ∀ (t₁ t₂ : Range V), WF ((s, e) :: t₁) →
          (∀ v, Range.Mem v ((s, e) :: t₁) → Range.Mem v ((s, e) :: t₂)) →
          ∀ v, Range.Mem v t₁ → Range.Mem v t₂ := by
        intro t₁ t₂ h₁ hsub v hv
        rcases (mem_cons _ _ _).1 (hsub v ((mem_cons _ _ _).2 (Or.inr hv))) with hm | hm
        · exact absurd hm.2 (beyond_of_after (wf_after h₁) hv)
        · exact hm
      rw [ih t' (wf_tail ha) (wf_tail hb) fun v =>
        ⟨key t t' ha (fun v => (h v).1) v, key t' t hb (fun v => (h v).2) v⟩]

/-! ### the two dense-order statements need a non-empty `V` -/

/-- the empty type as a linear order (used only for the counterexample below) -/
@[reducible] def emptyLinearOrder : LinearOrder Empty where
  le := fun _ _ => True
  lt := fun _ _ => False
  min := fun a _ => a
  max := fun a _ => a
  compare := fun _ _ => .eq
  le_refl := fun a => a.elim
  le_trans := fun a => a.elim
  le_antisymm := fun a => a.elim
  le_total := fun a => a.elim
  toDecidableLE := fun a => a.elim
  toDecidableLT := fun a => a.elim
  toDecidableEq := fun a => a.elim
  lt_iff_le_not_ge := fun a => a.elim
  min_def := fun a => a.elim
  max_def := fun a => a.elim
  compare_eq_compareOfLessAndEq := fun a => a.elim

/-- Without `[Nonempty V]` the statement of `ext_of_dense` is false: over the empty type the
canonical lists `[(unb, unb)]` and `[]` have the same (no) points. -/
theorem ext_of_dense_needs_nonempty :
    ¬ (∀ (V : Type) [LinearOrder V] [DenselyOrdered V] [NoMinOrder V] [NoMaxOrder V]
      (a b : Range V) (_ : WF a) (_ : WF b) (_ : ∀ v, Range.Mem v a ↔ Range.Mem v b), a = b) := by
  intro h
  have := @h Empty emptyLinearOrder ⟨fun a => a.elim⟩ ⟨fun a => a.elim⟩ ⟨fun a => a.elim⟩
    [(unb, unb)] [] rfl rfl (fun v => v.elim)
  simp at this

/-- Without `[Nonempty V]` the statement of `exists_mem_of_ne_nil` is false as well. -/
theorem exists_mem_of_ne_nil_needs_nonempty :
    ¬ (∀ (V : Type) [LinearOrder V] [DenselyOrdered V] [NoMinOrder V] [NoMaxOrder V]
      (a : Range V) (_ : WF a) (_ : a ≠ []), ∃ v, Range.Mem v a) := by
  intro h
  obtain ⟨v, _⟩ := @h Empty emptyLinearOrder ⟨fun a => a.elim⟩ ⟨fun a => a.elim⟩
    ⟨fun a => a.elim⟩ [(unb, unb)] rfl (by simp)
  exact v.elim

end Pubgrub.Range

