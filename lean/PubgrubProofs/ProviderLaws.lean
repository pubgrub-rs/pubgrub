/-
Property C18, last clause: "`versions(p)` enumerates exactly what was added, versions ascending".

`OfflineDependencyProvider::versions(p)` of `/repo/src/solver.rs` is `self.dependencies.get(p).map(|k| k.keys())`:
the keys of a `BTreeMap<V, _>`, i.e. the added versions in strictly ascending order.  The model
`Offline.versionsOf` is unordered (insertion order of the association list); `sortedVersions` is its
ascending enumeration.  `choose_version` is `keys().rev().find(|v| range.contains(v))`: the last
element of the ascending enumeration that lies in the set (`chooseVersion_eq_last`).
-/
import PubgrubProofs.OfflineLaws

namespace Pubgrub
namespace Offline

section SortDefs
variable {V : Type} [LT V] [DecidableLT V]

/-- insert `x` into an ascending list (before the first element greater than `x`) -/
def insertAsc (x : V) : List V → List V
  | [] => [x]
  | y :: ys => if x < y then x :: y :: ys else y :: insertAsc x ys

/-- insertion sort, ascending -/
def sortAsc : List V → List V
  | [] => []
  | x :: xs => insertAsc x (sortAsc xs)

theorem insertAsc_perm (x : V) (l : List V) : (insertAsc x l).Perm (x :: l) := by
  induction l with
  | nil => exact List.Perm.refl _
  | cons y ys ih =>
    unfold insertAsc
    split
    · exact List.Perm.refl _
    · exact ((List.Perm.cons y ih).trans (List.Perm.swap x y ys))

theorem sortAsc_perm (l : List V) : (sortAsc l).Perm l := by
  induction l with
  | nil => exact List.Perm.refl _
  | cons x xs ih => exact (insertAsc_perm x _).trans (List.Perm.cons x ih)

theorem mem_insertAsc (x a : V) (l : List V) : a ∈ insertAsc x l ↔ a = x ∨ a ∈ l := by
  rw [(insertAsc_perm x l).mem_iff, List.mem_cons]

theorem mem_sortAsc (a : V) (l : List V) : a ∈ sortAsc l ↔ a ∈ l :=
  (sortAsc_perm l).mem_iff

theorem length_sortAsc (l : List V) : (sortAsc l).length = l.length :=
  (sortAsc_perm l).length_eq

end SortDefs

section SortOrder
variable {V : Type} [LinearOrder V]

theorem insertAsc_pairwise_le (x : V) (l : List V) (h : l.Pairwise (· ≤ ·)) :
    (insertAsc x l).Pairwise (· ≤ ·) := by
  induction l with
  | nil => simp [insertAsc]
  | cons y ys ih =>
    rw [List.pairwise_cons] at h
    unfold insertAsc
    split
    · rename_i hxy
      rw [List.pairwise_cons]
      refine ⟨?_, List.pairwise_cons.mpr h⟩
      intro a ha
      rcases List.mem_cons.mp ha with rfl | ha
      · exact le_of_lt hxy
      · have := h.1 a ha
        order
    · rename_i hxy
      rw [List.pairwise_cons]
      refine ⟨?_, ih h.2⟩
      intro a ha
      rcases (mem_insertAsc x a ys).mp ha with rfl | ha
      · order
      · exact h.1 a ha

theorem sortAsc_pairwise_le (l : List V) : (sortAsc l).Pairwise (· ≤ ·) := by
  induction l with
  | nil => simp [sortAsc]
  | cons x xs ih => exact insertAsc_pairwise_le x _ ih

theorem sortAsc_nodup (l : List V) (h : l.Nodup) : (sortAsc l).Nodup :=
  (sortAsc_perm l).nodup_iff.mpr h

theorem sortAsc_pairwise_lt (l : List V) (h : l.Nodup) : (sortAsc l).Pairwise (· < ·) := by
  have h1 := sortAsc_pairwise_le l
  have h2 : (sortAsc l).Pairwise (· ≠ ·) := sortAsc_nodup l h
  exact (h1.and h2).imp (fun ⟨hle, hne⟩ => lt_of_le_of_ne hle hne)

theorem getLast?_of_pairwise_le (l : List V) (h : l.Pairwise (· ≤ ·)) (v : V)
    (hv : l.getLast? = some v) : v ∈ l ∧ ∀ w ∈ l, w ≤ v := by
  obtain ⟨ys, rfl⟩ := List.getLast?_eq_some_iff.mp hv
  rw [List.pairwise_append] at h
  refine ⟨by simp, ?_⟩
  intro w hw
  rcases List.mem_append.mp hw with hw | hw
  · exact h.2.2 w hw v (by simp)
  · simp at hw
    subst hw
    exact le_refl _

end SortOrder

section Versions
variable {P S V : Type} [DecidableEq P]

/-- `versions(p)`: the added versions of `p` in ascending order (`BTreeMap::keys`) -/
def sortedVersions [LT V] [DecidableLT V] (o : Offline P S V) (p : P) : List V :=
  sortAsc (versionsOf o p)

theorem sortedVersions_perm_of [LT V] [DecidableLT V] (o : Offline P S V) (p : P) :
    (sortedVersions o p).Perm (versionsOf o p) :=
  sortAsc_perm _

theorem mem_sortedVersions_of [LT V] [DecidableLT V] (o : Offline P S V) (p : P) (v : V) :
    v ∈ sortedVersions o p ↔ v ∈ versionsOf o p :=
  mem_sortAsc v _

theorem length_sortedVersions_of [LT V] [DecidableLT V] (o : Offline P S V) (p : P) :
    (sortedVersions o p).length = (versionsOf o p).length :=
  length_sortAsc _

variable [LinearOrder V]

/-- ascending for any store (weakly: a raw store may repeat a key) -/
theorem sortedVersions_sorted_le (o : Offline P S V) (p : P) :
    (sortedVersions o p).Pairwise (· ≤ ·) :=
  sortAsc_pairwise_le _

theorem sortedVersions_sorted_of (o : Offline P S V) (h : (o.map Prod.fst).Nodup) (p : P) :
    (sortedVersions o p).Pairwise (· < ·) :=
  sortAsc_pairwise_lt _ (versionsOf_nodup_of o h p)

/-- C18: `versions(p)` is strictly ascending -/
theorem sortedVersions_sorted (ops : List (AddOp P S V)) (p : P) :
    (sortedVersions (run ops) p).Pairwise (· < ·) :=
  sortedVersions_sorted_of _ (run_nodupKeys ops) p

/-- C18: `versions(p)` enumerates exactly the versions added for `p` -/
theorem mem_sortedVersions (ops : List (AddOp P S V)) (p : P) (v : V) :
    v ∈ sortedVersions (run ops) p ↔ ∃ op ∈ ops, op.p = p ∧ op.v = v := by
  rw [mem_sortedVersions_of, mem_versionsOf_run]

/-- C18: `versions(p)` is a permutation of the unordered enumeration `versionsOf` -/
theorem sortedVersions_perm (ops : List (AddOp P S V)) (p : P) :
    (sortedVersions (run ops) p).Perm (versionsOf (run ops) p) :=
  sortedVersions_perm_of _ p

theorem sortedVersions_nodup (ops : List (AddOp P S V)) (p : P) :
    (sortedVersions (run ops) p).Nodup :=
  (sortedVersions_perm ops p).nodup_iff.mpr (versionsOf_nodup ops p)

theorem count_sortedVersions (ops : List (AddOp P S V)) (p : P) (v : V) :
    (sortedVersions (run ops) p).count v = if ∃ op ∈ ops, op.p = p ∧ op.v = v then 1 else 0 := by
  rw [(sortedVersions_nodup ops p).count]
  simp only [mem_sortedVersions]

/-- `versions(p)` is `None` (here: empty) exactly for the packages never added -/
theorem sortedVersions_eq_nil_iff (ops : List (AddOp P S V)) (p : P) :
    sortedVersions (run ops) p = [] ↔ ∀ op ∈ ops, op.p ≠ p := by
  rw [List.eq_nil_iff_forall_not_mem]
  constructor
  · intro h op hop hp
    exact h op.v ((mem_sortedVersions ops p op.v).mpr ⟨op, hop, hp, rfl⟩)
  · intro h v hv
    obtain ⟨op, hop, hp, -⟩ := (mem_sortedVersions ops p v).mp hv
    exact h op hop hp

variable [VersionSet S V]

theorem chooseVersion_eq_last_of (o : Offline P S V) (p : P) (s : S) :
    chooseVersion o p s =
      ((sortedVersions o p).filter (fun v => VersionSet.contains s v)).getLast? := by
  cases h : ((sortedVersions o p).filter (fun v => VersionSet.contains s v)).getLast? with
  | none =>
    rw [List.getLast?_eq_none_iff, List.filter_eq_nil_iff] at h
    rw [chooseVersion_eq_none_iff]
    intro w hw
    have := h w ((mem_sortedVersions_of o p w).mpr hw)
    simpa using this
  | some v =>
    have hs : ((sortedVersions o p).filter (fun v => VersionSet.contains s v)).Pairwise (· ≤ ·) :=
      (sortedVersions_sorted_le o p).sublist List.filter_sublist
    obtain ⟨h1, h2⟩ := getLast?_of_pairwise_le _ hs v h
    rw [chooseVersion_eq_some_iff]
    rw [List.mem_filter, mem_sortedVersions_of] at h1
    refine ⟨h1.1, h1.2, ?_⟩
    intro w hw hc
    exact h2 w (List.mem_filter.mpr ⟨(mem_sortedVersions_of o p w).mpr hw, hc⟩)

/-- C18: `choose_version` on the provider built by `ops` -/
theorem chooseVersion_eq_last (ops : List (AddOp P S V)) (p : P) (s : S) :
    chooseVersion (run ops) p s =
      ((sortedVersions (run ops) p).filter (fun v => VersionSet.contains s v)).getLast? :=
  chooseVersion_eq_last_of _ p s

/-- in the shape of the Rust: first match of the reversed key list -/
theorem chooseVersion_eq_find_rev (ops : List (AddOp P S V)) (p : P) (s : S) :
    chooseVersion (run ops) p s =
      (sortedVersions (run ops) p).reverse.find? (fun v => VersionSet.contains s v) := by
  rw [chooseVersion_eq_last, List.getLast?_eq_head?_reverse, ← List.filter_reverse,
    List.head?_filter]

end Versions

/-! ### Non-vacuity -/

section Example

private def bs' (b0 b1 b2 b3 : Bool) : BitSet 4 := ⟨[b0, b1, b2, b3]⟩

/-- versions of package `0` added in the order `3, 1, 2`, with `1` added twice -/
private def exOps' : List (AddOp Nat (BitSet 4) Nat) :=
  [ ⟨0, 3, []⟩, ⟨0, 1, [(1, bs' true false false false)]⟩, ⟨1, 2, []⟩, ⟨0, 2, []⟩, ⟨0, 1, []⟩ ]

example : versionsOf (run exOps') 0 = [3, 1, 2] := by decide
example : sortedVersions (run exOps') 0 = [1, 2, 3] := by decide
example : sortedVersions (run exOps') 1 = [2] := by decide
example : sortedVersions (run exOps') 2 = [] := by decide
example : chooseVersion (run exOps') 0 (bs' false true true false) = some 2 := by decide
example : ((sortedVersions (run exOps') 0).filter
    (fun v => VersionSet.contains (bs' false true true false) v)).getLast? = some 2 := by decide
example : (sortedVersions (run exOps') 0).reverse.find?
    (fun v => VersionSet.contains (bs' false true true false) v) = some 2 := by decide

-- the abstract theorems instantiate at the concrete types of the driver
example (ops : List (AddOp Nat (BitSet 4) Nat)) (s : BitSet 4) :
    chooseVersion (run ops) 0 s =
      ((sortedVersions (run ops) 0).filter (fun v => VersionSet.contains s v)).getLast? :=
  chooseVersion_eq_last ops 0 s
example (ops : List (AddOp String (Range Nat) Nat)) :
    (sortedVersions (run ops) "a").Pairwise (· < ·) :=
  sortedVersions_sorted ops "a"

end Example

end Offline
end Pubgrub
