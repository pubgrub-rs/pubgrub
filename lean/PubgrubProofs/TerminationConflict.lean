/-
The bundle `MInv` of state-level invariants, and conflict resolution: it needs at most (global index of
the satisfier) + 1 units of fuel and ends in a backtrack after which the learned clause's term for the
returned package meets that package's term.
-/
import PubgrubProofs.NoOutOfFuel
import PubgrubProofs.TerminationResolvent
import PubgrubProofs.TerminationRank
import PubgrubProofs.TerminationKInv

set_option linter.unusedSectionVars false

namespace Pubgrub
open VersionSet

section
variable {P S V M Pr : Type} [DecidableEq P] [VersionSet S V] [DecidableEq S] [DecidableEq V]
  [LawfulVersionSet S V]
variable {W : World P S V M} {root : P} {rv : V} (fw : FiniteWorld W root rv)

/-- all the state-level invariants used by the termination proof -/
structure MInv (st : State P S V M Pr) : Prop where
  s : SInv W root rv st
  p : PInv st
  t : TInv root rv st
  ne : st.ps.NE
  k : KInv fw st
  acc : st.AccInv

theorem Term.Inh.exists_eval {t : Term S} (h : t.Inh (V := V)) : ∃ x : Option V, t.eval x = true := by
  cases t with
  | pos s => obtain ⟨v, hv⟩ := h; exact ⟨some v, hv⟩
  | neg s => exact ⟨none, rfl⟩

namespace State

theorem backtrack_kinv {st st' : State P S V M Pr} {cur : Nat} {changed : Bool} {dl : Nat}
    (hr : st.backtrack cur changed dl = .ok st') (hp : PInv st) (hs : StoreInv W root rv st.store)
    (h : KInv fw st) : KInv fw st' := by
  obtain ⟨ps, hps, hc⟩ := backtrack_spec hr
  have hbt : BtStep st.ps ps dl := (PartialSolution.backtrack_step hp.wf dl).of_ok hps
  have h1 : KInv fw ({ st with ps := ps, contradicted := SmallMap.retainVals st.contradicted (fun l => l ≤ dl) } :
      State P S V M Pr) := h.backtrack fw hp.wf hbt rfl rfl
  rcases hc with ⟨-, hr⟩ | rfl
  · exact mergeIncompatibility_kinv fw hr hs h1
  · exact h1

/-- what is new about the result of conflict resolution -/
structure CRPost (ps : PartialSolution P S V Pr) (st' : State P S V M Pr) (pkg : P) (rc : Nat) : Prop where
  k : KInv fw st'
  acc : st'.AccInv
  bt : ∃ prev, BtStep ps st'.ps prev ∧ prev ≤ ps.currentDecisionLevel
  meet : ∃ inc c, st'.store[rc]? = some inc ∧ inc.get pkg = some c ∧
    ∀ t, st'.ps.terms pkg = some t → ∃ x : Option V, t.eval x = true ∧ c.eval x = true

theorem conflictResolution_term (ce : CanonEmpty S V) :
    ∀ (fuel : Nat) (st : State P S V M Pr) (cur : Nat) (changed : Bool) (g : Nat) (inc : Incompat P S V M),
    MInv fw st → st.store[cur]? = some inc → st.ps.Satisfies inc → st.ps.SatBefore inc g → g + 1 ≤ fuel →
    Fueled (conflictResolution fuel st cur changed)
      (fun x => ∀ pkg rc, x.2 = .ok (pkg, rc) → CRPost fw st.ps x.1 pkg rc) := by
  intro fuel
  induction fuel with
  | zero => intro st cur changed g inc _ _ _ _ hf; exact absurd hf (Nat.not_succ_le_zero g)
  | succ fuel ih =>
    intro st cur changed g inc hm hinc hsat hbefore hf
    have hs := hm.s
    have hp := hm.p
    have ht := hm.t
    have hw := hp.wf
    have gi := hs.store cur inc hinc
    unfold conflictResolution
    refine Fueled.bind_ok (storeGet_some hinc) ?_
    have hterm : inc.isTerminal st.rootPackage st.rootVersion = inc.isTerminal root rv := by
      rw [hs.root, hs.rv]
    rw [hterm]
    split
    · exact Fueled.ok (fun pkg rc h => by cases h)
    rename_i hnt
    have hnt' : inc.isTerminal root rv = false := by
      cases h : inc.isTerminal root rv with
      | true => exact absurd h hnt
      | false => rfl
    have hlvl : st.ps.currentDecisionLevel ≠ 0 := by
      intro h0
      rw [terminal_of_level0 W root rv hs ht hinc hsat h0] at hnt'; cases hnt'
    have hctx := TInv.searchCtx hs hp ht
    have hsearch := PartialSolution.satisfierSearch_safe hctx gi.nodup gi.sets hsat hnt'
    refine Fueled.bind (Fueled.intro (PartialSolution.satisfierSearch_nooof _ _ _)
      (fun a ha => (⟨ha, hsearch.of_ok ha⟩ :
        st.ps.satisfierSearch inc st.store = .ok a ∧ SearchPost st.ps inc a))) ?_
    intro ⟨pkg, search⟩ _ ⟨hss, hpost⟩
    dsimp only
    cases search with
    | differentDecisionLevels prev =>
      dsimp only
      refine Fueled.bind (Fueled.intro (State.backtrack_nooof hw cur changed prev)
        (fun a ha => (⟨ha, (backtrack_safe hp cur changed prev).of_ok ha⟩ :
          st.backtrack cur changed prev = .ok a ∧ (BtStep st.ps a.ps prev ∧
            ∀ (i : Nat) (inc : Incompat P S V M), st.store[i]? = some inc → a.store[i]? = some inc)))) ?_
      intro st1 _ ⟨hst1, hbt, hstore⟩
      refine Fueled.ok ?_
      intro pkg' rc' h
      injection h with h; injection h with h1 h2; subst h1; subst h2
      obtain ⟨hgetp, hprev1, ⟨pa, hpa, hlt⟩, _⟩ := hpost
      simp only at hgetp hprev1 hpa hlt
      have hdl : prev ≤ st.ps.currentDecisionLevel :=
        Nat.le_trans (Nat.le_of_lt hlt) (PartialSolution.highest_le hw.wf hpa)
      obtain ⟨tp, htp⟩ := Option.isSome_iff_exists.1 hgetp
      refine ⟨backtrack_kinv fw hst1 hp hs.store hm.k, hm.acc.backtrack hw hbt rfl hstore,
        ⟨prev, hbt, hdl⟩, inc, tp, hstore _ _ hinc, htp, ?_⟩
      -- the term left of the package meets its term in the incompatibility
      intro t1 ht1
      simp only [PartialSolution.terms, PartialSolution.termIntersectionForPackage,
        Option.map_eq_some_iff] at ht1
      obtain ⟨pa1, hpa1, rfl⟩ := ht1
      obtain ⟨pa0, k1, k2⟩ := hbt.getPA_inv hw.wf hpa1
      rw [hpa] at k1; injection k1 with k1; subst k1
      have hpam := SmallMap.mem_of_get hpa
      obtain ⟨i, _, hwf, hwx⟩ := hw.entry_of_mem hpam
      have himp : pa.inter.term.Imp tp := by
        obtain ⟨pa', hpa', himp⟩ := hsat pkg tp (SmallMap.mem_of_get htp)
        rw [hpa] at hpa'; injection hpa' with hpa'; subst hpa'; exact himp
      obtain ⟨x, hx⟩ := (hm.ne pkg pa hpam).1.exists_eval
      refine ⟨x, ?_, himp x hx⟩
      rcases (PartialSolution.btG_eq_some hwx k2).2 with ⟨_, e⟩ | ⟨_, _, last, hl, e⟩
      · simp only at e; subst e; exact hx
      · simp only at e; subst e
        have hlm : last ∈ pa.dated :=
          (PartialSolution.popWhileAbove_sublist prev pa.dated).subset (List.mem_of_getLast? hl)
        exact PackageAssignments.term_imp_dated hwf (ht.shrink _ hpam) hlm x hx
    | sameDecisionLevels c =>
      dsimp only
      obtain ⟨pa, dd, tp, hpa, hdd, hc, htp, himp, hlt, hoth⟩ :=
        PartialSolution.satisfierSearch_same hctx ht.shrink gi.nodup gi.sets hsat hnt' hbefore hss
      have hgetp : (inc.get pkg).isSome = true := by rw [htp]; rfl
      obtain ⟨causeInc, hcause, hcget, _⟩ := ht.cause pkg pa (SmallMap.mem_of_get hpa) dd hdd
      rw [hc] at hcause
      refine Fueled.bind_ok (storeGet_some hcause) ?_
      obtain ⟨prior, hprior⟩ := Incompat.priorCause_ok cur c hgetp hcget
      refine Fueled.bind_ok hprior ?_
      obtain ⟨hs2, hp2, ht2, hat, hsat2⟩ :=
        resolve_step W root rv hs hp ht hinc hcause hsat hlvl hpa hdd hc hprior
      have hext : ∀ (i : Nat) (inc' : Incompat P S V M), st.store[i]? = some inc' →
          (st.store ++ [prior])[i]? = some inc' := by
        intro i inc' hi
        rw [List.getElem?_append_left (List.getElem?_eq_some_iff.1 hi).1]; exact hi
      have hk2 : KInv fw ({ st with store := st.store ++ [prior] } : State P S V M Pr) :=
        hm.k.storeAppend fw [prior] (by
          intro i hi
          rw [List.mem_singleton] at hi; subst hi
          exact oki_priorCause fw (hm.k.oki fw hinc) (hm.k.oki fw hcause) gi.nodup
            (hs.store _ _ hcause).nodup hprior)
      exact ih ({ st with store := st.store ++ [prior] } : State P S V M Pr) st.store.length true
        dd.globalIndex prior ⟨hs2, hp2, ht2, hm.ne, hk2, hm.acc.storeExt rfl hext⟩ hat hsat2
        (satBefore_priorCause ce W root rv hs ht hm.acc hinc hcause hpa hdd hc htp himp hoth hprior)
        (Nat.le_of_succ_le_succ (Nat.le_trans (Nat.succ_le_succ (Nat.succ_le_of_lt hlt)) hf))

end State
end
end Pubgrub
