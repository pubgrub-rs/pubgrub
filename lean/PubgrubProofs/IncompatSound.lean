/-
Local soundness of every way the solver creates an incompatibility (used by the store invariant,
properties C06 / C02 / C03).
-/
import PubgrubProofs.StoreDefs
import PubgrubProofs.TermLaws
import PubgrubProofs.AssocListLaws

set_option linter.unusedSectionVars false

namespace Pubgrub
open VersionSet

variable {P S V M : Type} [DecidableEq P] [VersionSet S V] [DecidableEq S] [LawfulVersionSet S V]

theorem foldlM_ok_inv {α β : Type} {f : β → α → R β} (I : β → Prop) :
    ∀ {l : List α} {b b' : β}, l.foldlM f b = .ok b' → I b →
      (∀ a ∈ l, ∀ b b', I b → f b a = .ok b' → I b') → I b' := by
  intro l
  induction l with
  | nil => intro b b' hr hb _; cases hr; exact hb
  | cons a l ih =>
    intro b b' hr hb hf
    rw [List.foldlM_cons] at hr
    cases h1 : f b a with
    | error e => rw [h1] at hr; cases hr
    | ok b1 =>
      rw [h1] at hr
      exact ih hr (hf a List.mem_cons_self b b1 hb h1) fun a ha => hf a (List.mem_cons_of_mem _ ha)

namespace SmallMap
variable {K T : Type} [DecidableEq K]

theorem key_mem_of_mem {m : SmallMap K T} {k : K} {v : T} (h : (k, v) ∈ m) : k ∈ m.map Prod.fst :=
  List.mem_map.mpr ⟨(k, v), h, rfl⟩

theorem nodup_cons {a : K} {b : T} {m : SmallMap K T} :
    NoDupKeys ((a, b) :: m) ↔ (∀ v, (a, v) ∉ m) ∧ NoDupKeys m := by
  simp [NoDupKeys, List.nodup_cons]

theorem get_eq_some_iff_mem (m : SmallMap K T) (h : NoDupKeys m) (k : K) (v : T) :
    get m k = some v ↔ (k, v) ∈ m :=
  AssocList.get_eq_some_iff_mem m h k v

theorem get_of_mem {m : SmallMap K T} (hn : NoDupKeys m) {k : K} {v : T} (h : (k, v) ∈ m) :
    get m k = some v :=
  (get_eq_some_iff_mem m hn k v).2 h

theorem nodup_insert (m : SmallMap K T) (h : NoDupKeys m) (k : K) (v : T) : NoDupKeys (insert m k v) :=
  AssocList.nodup_keys_insert m k v h

theorem nodup_remove (m : SmallMap K T) (h : NoDupKeys m) (k : K) : NoDupKeys (remove m k) :=
  AssocList.nodup_keys_remove m h k

theorem get_remove (m : SmallMap K T) (h : NoDupKeys m) (k k' : K) :
    get (remove m k) k' = if k' = k then none else get m k' :=
  AssocList.get_remove m h k k'

/- With distinct keys membership is `get`, so the members after `insert` and `remove` are read off
`get_insert` and `get_remove`. -/

theorem mem_insert_iff (m : SmallMap K T) (h : NoDupKeys m) (k : K) (v : T) (k' : K) (v' : T) :
    (k', v') ∈ insert m k v ↔ (k' = k ∧ v' = v) ∨ (k' ≠ k ∧ (k', v') ∈ m) := by
  rw [← get_eq_some_iff_mem _ (nodup_insert m h k v), get_insert, ← get_eq_some_iff_mem m h]
  by_cases hk : k' = k
  · simp [hk, eq_comm]
  · simp [hk]

theorem mem_remove_iff (m : SmallMap K T) (h : NoDupKeys m) (k : K) (k' : K) (v' : T) :
    (k', v') ∈ remove m k ↔ k' ≠ k ∧ (k', v') ∈ m := by
  rw [← get_eq_some_iff_mem _ (nodup_remove m h k), get_remove m h, ← get_eq_some_iff_mem m h]
  by_cases hk : k' = k
  · simp [hk]
  · simp [hk]

theorem nodup_filter {m : SmallMap K T} (hn : NoDupKeys m) (q : K × T → Bool) :
    NoDupKeys (m.filter q) := by
  unfold NoDupKeys at *
  exact (List.Sublist.map _ List.filter_sublist).nodup hn

theorem get_filter_ne (m : SmallMap K T) (p k : K) :
    get (m.filter (fun kv => decide (kv.1 ≠ p))) k = if k = p then none else get m k := by
  induction m with
  | nil => simp [get]
  | cons x m ih =>
    obtain ⟨a, b⟩ := x
    simp only [ne_eq, decide_not] at ih ⊢
    by_cases h : a = p
    · subst h
      by_cases h2 : k = a
      · subst h2; simpa [List.filter, get] using ih
      · simp [List.filter, get, ih, h2]
    · by_cases h2 : k = a
      · subst h2; simp [List.filter, get, h]
      · simp [List.filter, get, h, h2, ih]

theorem get_filterMap (g : K × T → Option (K × T))
    (hg : ∀ x y, g x = some y → y.1 = x.1) :
    ∀ (l : SmallMap K T), NoDupKeys l → ∀ k,
      get (l.filterMap g) k = (get l k).bind (fun v => (g (k, v)).map Prod.snd) := by
  intro l
  induction l with
  | nil => intro _ k; rfl
  | cons x rest ih =>
    intro hn k
    obtain ⟨a, b⟩ := x
    rw [nodup_cons] at hn
    have ih' := ih hn.2
    rw [List.filterMap_cons]
    cases hgx : g (a, b) with
    | none =>
      simp only
      by_cases hk : k = a
      · subst hk
        rw [ih' k, (get_eq_none_iff rest k).2 hn.1]
        simp [get, hgx]
      · rw [ih' k]; simp [get, hk]
    | some y =>
      obtain ⟨a', b'⟩ := y
      have ha : a' = a := hg _ _ hgx
      subst ha
      simp only
      by_cases hk : k = a'
      · subst hk; simp [get, hgx]
      · simp [get, hk, ih' k]

/-- the value `merge` leaves at a key, from the values of the two maps at that key -/
def mergeOpt (g : T → T → T) : Option T → Option T → Option T
  | some a, some b => some (g a b)
  | some a, none => some a
  | none, some b => some b
  | none, none => none

theorem merge_spec (g : T → T → T) (m2 : List (K × T)) (hn2 : NoDupKeys m2) (m : SmallMap K T)
    (hn : NoDupKeys m) :
    NoDupKeys (merge m m2 (fun a b => some (g a b))) ∧
    ∀ k, get (merge m m2 (fun a b => some (g a b))) k = mergeOpt g (get m k) (get m2 k) := by
  induction m2 generalizing m with
  | nil => refine ⟨by simpa [merge] using hn, fun k => ?_⟩; cases h : get m k <;> simp [merge, get, h, mergeOpt]
  | cons x m2 ih =>
    obtain ⟨a, b⟩ := x
    rw [nodup_cons] at hn2
    have ha2 : get m2 a = none := (get_eq_none_iff m2 a).2 hn2.1
    -- the first step inserts at `a` the merged value `w`
    obtain ⟨w, hw, hstep⟩ : ∃ w, mergeOpt g (get m a) (some b) = some w ∧
        merge m ((a, b) :: m2) (fun a b => some (g a b)) =
          merge (insert m a w) m2 (fun a b => some (g a b)) := by
      cases hga : get m a <;> simp only [merge, List.foldl_cons, hga] <;> exact ⟨_, rfl, rfl⟩
    obtain ⟨h1, h2⟩ := ih hn2.2 (insert m a w) (nodup_insert m hn a w)
    rw [hstep]
    refine ⟨h1, fun k => ?_⟩
    rw [h2, get_insert, get_cons]
    by_cases hk : k = a
    · subst hk
      rw [if_pos rfl, if_pos rfl, ha2, hw]
      rfl
    · rw [if_neg hk, if_neg hk]

end SmallMap

namespace Incompat

theorem allTrue_iff_get {σ : P → Option V} {i : Incompat P S V M} (hn : SmallMap.NoDupKeys i.terms) :
    i.AllTrue σ ↔ ∀ k t, SmallMap.get i.terms k = some t → t.eval (σ k) = true := by
  constructor
  · intro h k t hg; exact h k t (SmallMap.mem_of_get hg)
  · intro h k t hx; exact h k t (SmallMap.get_of_mem hn hx)

theorem _root_.Pubgrub.Term.eval_pos {x : S} {o : Option V} (h : (Term.pos x).eval o = true) :
    ∃ w, o = some w ∧ contains x w = true := by
  cases o with
  | none => cases h
  | some w => exact ⟨w, rfl, h⟩

theorem good_of_single {W : World P S V M} {root : P} {rv : V} {store : List (Incompat P S V M)} {id : Nat}
    {i : Incompat P S V M} {p : P} {t : Term S} (hi : i.terms = [(p, t)]) (ht : t.Valid)
    (hfalse : ∀ σ, IsSolution W root rv σ → t.eval (σ p) ≠ true)
    (hk : i.KindTrue W root rv store id) : i.Good W root rv store id := by
  refine ⟨fun σ hσ h => hfalse σ hσ (h p t (hi ▸ List.mem_singleton_self _)), ?_, ?_, hk⟩
  · rw [hi]
    exact List.pairwise_singleton _ p
  · intro q u hq
    rw [hi, List.mem_singleton] at hq
    cases hq
    exact ht

theorem notRoot_good (W : World P S V M) (root : P) (rv : V) (store : List (Incompat P S V M)) (id : Nat) :
    (notRoot (M := M) root rv : Incompat P S V M).Good W root rv store id := by
  refine good_of_single rfl (LawfulVersionSet.valid_singleton rv) (fun σ hσ h => ?_) ⟨rfl, rfl, rfl⟩
  rw [hσ.root] at h
  simp [Term.eval, (LawfulVersionSet.contains_singleton rv rv).2 rfl] at h

theorem noVersions_good (W : World P S V M) (root : P) (rv : V) (store : List (Incompat P S V M)) (id : Nat)
    (p : P) (t : Term S) (ht : t.Valid) (s : S) (hs : unwrapPositive t = .ok s)
    (hnone : ∀ v ∈ W.versions p, contains s v = false)
    (i : Incompat P S V M) (hi : noVersions p t = .ok i) : i.Good W root rv store id := by
  cases t with
  | neg n => cases hs
  | pos r =>
    cases hs
    cases hi
    refine good_of_single rfl ht (fun σ hσ h => ?_) ⟨hnone, rfl⟩
    obtain ⟨w, hw, hc⟩ := Term.eval_pos h
    rw [hnone w (hσ.offered p w hw)] at hc
    cases hc

theorem customVersion_good (W : World P S V M) (root : P) (rv : V) (store : List (Incompat P S V M)) (id : Nat)
    (p : P) (v : V) (m : M) (h : W.deps p v = .unavailable m) :
    (customVersion p v m : Incompat P S V M).Good W root rv store id := by
  refine good_of_single rfl (LawfulVersionSet.valid_singleton v) (fun σ hσ he => ?_) ⟨v, rfl, h, rfl⟩
  obtain ⟨w, hw, hc⟩ := Term.eval_pos he
  obtain rfl := (LawfulVersionSet.contains_singleton v w).1 hc
  obtain ⟨ds, hds, -⟩ := hσ.deps p w hw
  cases h.symm.trans hds

theorem fromDependency_good_of (W : World P S V M) (root : P) (rv : V)
    (store : List (Incompat P S V M)) (id : Nat) (p : P) (s : S) (q : P) (t : S)
    (hdep : ∀ w, contains s w = true → ∃ ds, W.deps p w = .available ds ∧ (q, t) ∈ ds)
    (hs : LawfulVersionSet.Valid V s) (ht : LawfulVersionSet.Valid V t) :
    (fromDependency (M := M) p s (q, t) : Incompat P S V M).Good W root rv store id := by
  -- a solution that picks a version of `p` in `s` picks a version of `q` in `t`
  have key : ∀ {σ}, IsSolution W root rv σ → ∀ {w}, σ p = some w → contains s w = true →
      ∃ u, σ q = some u ∧ contains t u = true := by
    intro σ hσ w hw hc
    obtain ⟨ds, hds, hmem⟩ := hdep w hc
    obtain ⟨ds', hds', hall⟩ := hσ.deps p w hw
    cases hds.symm.trans hds'
    exact hall q t hmem
  have hk : (fromDependency (M := M) p s (q, t)).KindTrue W root rv store id := ⟨hdep, hs, ht, rfl⟩
  have vc := LawfulVersionSet.valid_complement _ ht
  -- the three shapes of the terms
  by_cases hqp : q = p
  · subst hqp
    refine good_of_single (if_pos rfl) (LawfulVersionSet.valid_intersection _ _ hs vc) (fun σ hσ h => ?_) hk
    obtain ⟨w, hw, hc⟩ := Term.eval_pos h
    rw [LawfulVersionSet.contains_intersection _ _ _ hs vc, LawfulVersionSet.contains_complement _ _ ht,
      Bool.and_eq_true, Bool.not_eq_true'] at hc
    obtain ⟨u, hu, hcu⟩ := key hσ hw hc.1
    cases hw.symm.trans hu
    cases hc.2.symm.trans hcu
  · by_cases hte : t = (empty : S)
    · subst hte
      refine good_of_single ((if_neg hqp).trans (if_pos rfl)) hs (fun σ hσ h => ?_) hk
      obtain ⟨w, hw, hc⟩ := Term.eval_pos h
      obtain ⟨u, -, hcu⟩ := key hσ hw hc
      rw [LawfulVersionSet.contains_empty] at hcu
      cases hcu
    · have hterms : (fromDependency (M := M) p s (q, t)).terms = [(p, .pos s), (q, .neg t)] :=
        (if_neg hqp).trans (if_neg hte)
      refine ⟨fun σ hσ h => ?_, ?_, ?_, hk⟩
      · obtain ⟨w, hw, hc⟩ := Term.eval_pos (h p _ (hterms ▸ List.mem_cons_self ..))
        obtain ⟨u, hu, hcu⟩ := key hσ hw hc
        have hq := h q (.neg t) (hterms ▸ List.mem_cons_of_mem _ (List.mem_cons_self ..))
        rw [hu] at hq
        simp [Term.eval, hcu] at hq
      · rw [hterms]
        simpa [SmallMap.NoDupKeys] using fun e => hqp e.symm
      · intro k x hx
        rw [hterms] at hx
        simp only [List.mem_cons, Prod.mk.injEq, List.not_mem_nil, or_false] at hx
        rcases hx with ⟨-, rfl⟩ | ⟨-, rfl⟩
        · exact hs
        · exact ht

theorem fromDependency_good (W : World P S V M) (hW : W.SetsValid) (root : P) (rv : V)
    (store : List (Incompat P S V M)) (id : Nat)
    (p : P) (v : V) (ds : List (P × S)) (h : W.deps p v = .available ds) (d : P × S) (hd : d ∈ ds) :
    (fromDependency (M := M) p (VersionSet.singleton v) d : Incompat P S V M).Good W root rv store id := by
  obtain ⟨q, t⟩ := d
  apply fromDependency_good_of
  · intro w hw
    have := (LawfulVersionSet.contains_singleton v w).1 hw
    subst this
    exact ⟨ds, h, hd⟩
  · exact LawfulVersionSet.valid_singleton v
  · exact hW p v ds h _ hd

theorem priorCause_spec (ia ib : Incompat P S V M)
    (na : SmallMap.NoDupKeys ia.terms) (nb : SmallMap.NoDupKeys ib.terms) (a b : Nat) (pivot : P)
    (r : Incompat P S V M) (hr : priorCause a b ia ib pivot = .ok r) :
    ∃ t1 t2 merged, SmallMap.get ia.terms pivot = some t1 ∧ SmallMap.get ib.terms pivot = some t2 ∧
      SmallMap.NoDupKeys merged ∧
      (∀ k, SmallMap.get merged k =
        if k = pivot then none else
        SmallMap.mergeOpt Term.intersection (SmallMap.get ia.terms k) (SmallMap.get ib.terms k)) ∧
      r.kind = .derivedFrom a b ∧
      r.terms = if Term.union t1 t2 ≠ (Term.any : Term S) then SmallMap.insert merged pivot (Term.union t1 t2)
        else merged := by
  unfold priorCause at hr
  cases h1 : SmallMap.get ia.terms pivot with
  | none => simp [SmallMap.splitOne, h1, unwrapOr, bind, Except.bind] at hr
  | some t1 =>
    cases h2 : SmallMap.get ib.terms pivot with
    | none => simp [SmallMap.splitOne, h1, h2, unwrapOr, bind, Except.bind] at hr
    | some t2 =>
      simp only [SmallMap.splitOne, h1, h2, unwrapOr, bind, Except.bind, pure, Except.pure,
        Except.ok.injEq] at hr
      have hnr := SmallMap.nodup_remove ia.terms na pivot
      have hnf := SmallMap.nodup_filter nb (fun kv => decide (kv.1 ≠ pivot))
      obtain ⟨hnm, hm⟩ := SmallMap.merge_spec Term.intersection _ hnf _ hnr
      refine ⟨t1, t2, _, rfl, rfl, hnm, ?_, ?_, ?_⟩
      · intro k
        rw [hm k, SmallMap.get_remove _ na, SmallMap.get_filter_ne]
        by_cases hk : k = pivot
        · subst hk; simp [SmallMap.mergeOpt]
        · simp [hk]
      · rw [← hr]
      · rw [← hr]

theorem priorCause_entailed (ia ib : Incompat P S V M)
    (na : SmallMap.NoDupKeys ia.terms) (nb : SmallMap.NoDupKeys ib.terms)
    (sa : ia.SetsValid) (sb : ib.SetsValid) (a b : Nat) (pivot : P)
    (r : Incompat P S V M) (hr : priorCause a b ia ib pivot = .ok r) (σ : P → Option V)
    (h : r.AllTrue σ) : ia.AllTrue σ ∨ ib.AllTrue σ := by
  obtain ⟨t1, t2, merged, hg1, hg2, hnm, hm, _, hterms⟩ := priorCause_spec ia ib na nb a b pivot r hr
  have v1 : t1.Valid := sa _ _ (SmallMap.mem_of_get hg1)
  have v2 : t2.Valid := sb _ _ (SmallMap.mem_of_get hg2)
  have hunion : (Term.union t1 t2).eval (σ pivot) = true := by
    by_cases hany : Term.union t1 t2 = Term.any
    · rw [hany]; exact Term.eval_any _
    · rw [if_pos hany] at hterms
      apply h pivot
      rw [hterms]
      exact SmallMap.mem_of_get (by rw [SmallMap.get_insert, if_pos rfl])
  have hmerged : ∀ k t, k ≠ pivot → SmallMap.get merged k = some t → t.eval (σ k) = true := by
    intro k t hk hg
    apply h k
    rw [hterms]
    split
    · exact SmallMap.mem_of_get (by rw [SmallMap.get_insert, if_neg hk]; exact hg)
    · exact SmallMap.mem_of_get hg
  -- away from the pivot the resolvent holds the intersection of the two terms, or the one there is
  have hside : ∀ k, k ≠ pivot →
      (∀ t, SmallMap.get ia.terms k = some t → t.eval (σ k) = true) ∧
      (∀ t, SmallMap.get ib.terms k = some t → t.eval (σ k) = true) := by
    intro k hk
    have e := hm k
    rw [if_neg hk] at e
    cases hx : SmallMap.get ia.terms k <;> cases hy : SmallMap.get ib.terms k <;> rw [hx, hy] at e
    · exact ⟨nofun, nofun⟩
    · exact ⟨nofun, fun t ht => Option.some.inj ht ▸ hmerged k _ hk e⟩
    · exact ⟨fun t ht => Option.some.inj ht ▸ hmerged k _ hk e, nofun⟩
    · have := hmerged k _ hk e
      rw [Term.eval_intersection _ _ (sa _ _ (SmallMap.mem_of_get hx)) (sb _ _ (SmallMap.mem_of_get hy)),
        Bool.and_eq_true] at this
      exact ⟨fun t ht => Option.some.inj ht ▸ this.1, fun t ht => Option.some.inj ht ▸ this.2⟩
  rw [Term.eval_union _ _ v1 v2, Bool.or_eq_true] at hunion
  rcases hunion with h1 | h2
  · left
    rw [allTrue_iff_get na]
    intro k t hg
    by_cases hk : k = pivot
    · subst hk
      exact Option.some.inj (hg1.symm.trans hg) ▸ h1
    · exact (hside k hk).1 t hg
  · right
    rw [allTrue_iff_get nb]
    intro k t hg
    by_cases hk : k = pivot
    · subst hk
      exact Option.some.inj (hg2.symm.trans hg) ▸ h2
    · exact (hside k hk).2 t hg

theorem priorCause_good (W : World P S V M) (root : P) (rv : V) (store : List (Incompat P S V M))
    (a b : Nat) (ia ib : Incompat P S V M) (ha : store[a]? = some ia) (hb : store[b]? = some ib)
    (ga : ia.Good W root rv store a) (gb : ib.Good W root rv store b) (pivot : P)
    (r : Incompat P S V M) (hr : priorCause a b ia ib pivot = .ok r) (id : Nat) (hida : a < id) (hidb : b < id) :
    r.Good W root rv store id := by
  obtain ⟨t1, t2, merged, hg1, hg2, hnm, hm, hkind, hterms⟩ :=
    priorCause_spec ia ib ga.nodup gb.nodup a b pivot r hr
  have v1 : t1.Valid := ga.sets _ _ (SmallMap.mem_of_get hg1)
  have v2 : t2.Valid := gb.sets _ _ (SmallMap.mem_of_get hg2)
  have hnr : SmallMap.NoDupKeys r.terms := by
    rw [hterms]; split
    · exact SmallMap.nodup_insert _ hnm _ _
    · exact hnm
  refine ⟨?_, hnr, ?_, ?_⟩
  · intro σ hσ hall
    rcases priorCause_entailed ia ib ga.nodup gb.nodup ga.sets gb.sets a b pivot r hr σ hall with h | h
    · exact ga.valid σ hσ h
    · exact gb.valid σ hσ h
  · have hmv : ∀ k t, (k, t) ∈ merged → t.Valid := by
      intro k t hkt
      have hg := SmallMap.get_of_mem hnm hkt
      rw [hm k] at hg
      split at hg
      · cases hg
      · cases hx : SmallMap.get ia.terms k <;> cases hy : SmallMap.get ib.terms k <;>
          rw [hx, hy] at hg <;> simp only [SmallMap.mergeOpt, Option.some.injEq, reduceCtorEq] at hg <;>
          subst hg
        · exact gb.sets _ _ (SmallMap.mem_of_get hy)
        · exact ga.sets _ _ (SmallMap.mem_of_get hx)
        · exact Term.valid_intersection _ _ (ga.sets _ _ (SmallMap.mem_of_get hx))
            (gb.sets _ _ (SmallMap.mem_of_get hy))
    intro k t hkt
    rw [hterms] at hkt
    split at hkt
    · rw [SmallMap.mem_insert_iff _ hnm] at hkt
      rcases hkt with ⟨_, rfl⟩ | ⟨_, hkt⟩
      · exact Term.valid_union _ _ v1 v2
      · exact hmv k t hkt
    · exact hmv k t hkt
  · simp only [KindTrue, hkind]
    exact ⟨hida, hidb, ia, ib, pivot, r, ha, hb, hr, rfl⟩

theorem asDependency_some {i : Incompat P S V M} {p1 p2 : P} (h : i.asDependency = some (p1, p2)) :
    ∃ s t, i.kind = .fromDependencyOf p1 s p2 t ∧ p1 ≠ p2 := by
  unfold asDependency at h
  split at h
  · rename_i a s b t hk
    split at h
    · rename_i hne
      simp only [Option.some.injEq, Prod.mk.injEq] at h
      obtain ⟨rfl, rfl⟩ := h
      exact ⟨s, t, hk, hne⟩
    · cases h
  · cases h

theorem fromDependency_key (p : P) (s : S) (d : P × S) :
    p ∈ (fromDependency (M := M) p s d : Incompat P S V M).terms.map Prod.fst := by
  unfold fromDependency
  simp only
  split
  · simp
  · split <;> simp

theorem get_fromDependency_terms (p q : P) (s t : S) (h : p ≠ q) :
    SmallMap.get (fromDependency (M := M) p s (q, t)).terms p = some (Term.pos s) ∧
    SmallMap.get (fromDependency (M := M) p s (q, t)).terms q =
      if t = (empty : S) then none else some (Term.neg t) := by
  simp only [fromDependency, if_neg h.symm]
  split <;> simp [SmallMap.get, h.symm]

/-- what `mergeDependents` returns when it merges, for incompatibilities whose terms are those their
kind records: both come from dependencies of the same package on the same package with the same set,
and the result is the dependency of the union of their version sets -/
theorem mergeDependents_ok_some {ia ib r : Incompat P S V M}
    (hr : mergeDependents ia ib = .ok (some r))
    (hta : ∀ p s q t, ia.kind = .fromDependencyOf p s q t →
      ia.terms = (fromDependency (M := M) p s (q, t)).terms)
    (htb : ∀ p s q t, ib.kind = .fromDependencyOf p s q t →
      ib.terms = (fromDependency (M := M) p s (q, t)).terms) :
    ∃ p q s1 s2 t, p ≠ q ∧ ia.kind = .fromDependencyOf p s1 q t ∧ ib.kind = .fromDependencyOf p s2 q t ∧
      r = fromDependency p (union s1 s2) (q, t) := by
  unfold mergeDependents at hr
  cases ha : ia.asDependency with
  | none => simp [ha] at hr
  | some pa =>
    obtain ⟨p1, p2⟩ := pa
    cases hb : ib.asDependency with
    | none => simp [ha, hb] at hr
    | some o =>
      simp only [ha, hb] at hr
      by_cases ho : (p1, p2) ≠ o
      · simp [ho] at hr
      · rw [if_neg ho] at hr
        have ho : (p1, p2) = o := not_not.mp ho
        subst ho
        obtain ⟨s1, t1, hka, hne⟩ := asDependency_some ha
        obtain ⟨s2, t2, hkb, _⟩ := asDependency_some hb
        obtain ⟨a1, a2⟩ := get_fromDependency_terms (M := M) p1 p2 s1 t1 hne
        obtain ⟨b1, b2⟩ := get_fromDependency_terms (M := M) p1 p2 s2 t2 hne
        rw [← hta _ _ _ _ hka] at a1 a2
        rw [← htb _ _ _ _ hkb] at b1 b2
        simp only [Incompat.get, a1, a2, b1, b2, unwrapOr, unwrapPositive, bind, Except.bind, pure,
          Except.pure] at hr
        have main : t1 = t2 ∧ r = fromDependency p1 (union s1 s2) (p2, t1) := by
          by_cases e1 : t1 = (empty : S) <;> by_cases e2 : t2 = (empty : S)
          · simp [e1, e2] at hr
            exact ⟨by rw [e1, e2], by rw [← hr, e1]⟩
          · simp [e1, e2] at hr
          · simp [e1, e2] at hr
          · simp only [if_neg e1, if_neg e2] at hr
            by_cases e : t1 = t2
            · subst e
              simp [unwrapNegative] at hr
              exact ⟨rfl, hr.symm⟩
            · simp [e] at hr
        obtain ⟨rfl, rfl⟩ := main
        exact ⟨p1, p2, s1, s2, t1, hne, hka, hkb, rfl⟩

theorem Good.terms_of_fromDependencyOf {W : World P S V M} {root : P} {rv : V}
    {store : List (Incompat P S V M)} {id : Nat} {i : Incompat P S V M} (g : i.Good W root rv store id)
    {p q : P} {s t : S} (hk : i.kind = .fromDependencyOf p s q t) :
    (∀ w, contains s w = true → ∃ ds, W.deps p w = .available ds ∧ (q, t) ∈ ds) ∧
      LawfulVersionSet.Valid V s ∧ LawfulVersionSet.Valid V t ∧
      i.terms = (fromDependency (M := M) p s (q, t)).terms := by
  have k := g.kind
  simp only [KindTrue, hk] at k
  exact k

theorem mergeDependents_good (W : World P S V M) (root : P) (rv : V) (store : List (Incompat P S V M))
    (a b : Nat) (ia ib : Incompat P S V M)
    (ga : ia.Good W root rv store a) (gb : ib.Good W root rv store b)
    (r : Incompat P S V M) (hr : mergeDependents ia ib = .ok (some r)) (id : Nat) :
    r.Good W root rv store id := by
  obtain ⟨p, q, s1, s2, t, _, hka, hkb, rfl⟩ := mergeDependents_ok_some hr
    (fun _ _ _ _ hk => (ga.terms_of_fromDependencyOf hk).2.2.2)
    (fun _ _ _ _ hk => (gb.terms_of_fromDependencyOf hk).2.2.2)
  obtain ⟨da, vs1, vt, _⟩ := ga.terms_of_fromDependencyOf hka
  obtain ⟨db, vs2, _, _⟩ := gb.terms_of_fromDependencyOf hkb
  apply fromDependency_good_of
  · intro w hw
    rw [LawfulVersionSet.contains_union _ _ _ vs1 vs2, Bool.or_eq_true] at hw
    exact hw.elim (da w) (db w)
  · exact LawfulVersionSet.valid_union _ _ vs1 vs2
  · exact vt

theorem good_append (W : World P S V M) (root : P) (rv : V) (store extra : List (Incompat P S V M))
    (id : Nat) (i : Incompat P S V M) (g : i.Good W root rv store id) (hid : id ≤ store.length) :
    i.Good W root rv (store ++ extra) id := by
  refine ⟨g.valid, g.nodup, g.sets, ?_⟩
  have k := g.kind
  unfold KindTrue at k ⊢
  cases hk : i.kind with
  | derivedFrom a b =>
    rw [hk] at k
    simp only at k ⊢
    obtain ⟨h1, h2, ia, ib, pivot, r, ha, hb, hr, ht⟩ := k
    refine ⟨h1, h2, ia, ib, pivot, r, ?_, ?_, hr, ht⟩
    · rw [List.getElem?_append_left (by omega)]; exact ha
    · rw [List.getElem?_append_left (by omega)]; exact hb
  | _ => rw [hk] at k; exact k

theorem isTerminal_no_solution (W : World P S V M) (root : P) (rv : V) (i : Incompat P S V M)
    (hv : i.ValidFor W root rv) (ht : i.isTerminal root rv = true) :
    ¬ ∃ σ, IsSolution W root rv σ := by
  rintro ⟨σ, hσ⟩
  apply hv σ hσ
  unfold isTerminal at ht
  intro p t hpt
  split at ht
  · rename_i h; rw [h] at hpt; cases hpt
  · rename_i q u h
    rw [h] at hpt
    simp only [List.mem_singleton, Prod.mk.injEq] at hpt
    obtain ⟨rfl, rfl⟩ := hpt
    simp only [Bool.and_eq_true, decide_eq_true_eq] at ht
    obtain ⟨rfl, hc⟩ := ht
    rw [hσ.root, ← Term.contains_eq_eval]
    exact hc
  · cases ht

end Incompat
end Pubgrub
