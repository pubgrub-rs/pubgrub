/-
After `choose_version` answered `None`, or the dependencies were `Unavailable`, the new incompatibility
is a trigger for the package in flight.
-/
import PubgrubProofs.PSPending

set_option linter.unusedSectionVars false

namespace Pubgrub
open VersionSet

section PS
variable {P S V M Pr : Type} [DecidableEq P] [VersionSet S V] [DecidableEq S]
  [LawfulVersionSet S V]

theorem Term.relationWith_ne_contradicted_of_common (tp cur : Term S) (v : V) (h1 : tp.Valid) (h2 : cur.Valid)
    (hv1 : tp.contains v = true) (hv2 : cur.contains v = true) : tp.relationWith cur ≠ .contradicted := by
  intro h
  have := ((Term.relationWith_contradicted_iff tp cur h1 h2).1 h).2 (some v)
  rw [Term.contains_eq_eval] at hv1 hv2
  exact this ⟨hv1, hv2⟩

namespace State

theorem get_updIndex_self (idx : List (P × List Nat)) (p : P) (f : List Nat → List Nat) :
    SmallMap.get (updIndex idx p f) p = some (f ((SmallMap.get idx p).getD [])) := by
  unfold updIndex
  cases h : SmallMap.get idx p with
  | none => simp only [SmallMap.get_insert, if_true, Option.getD_none]
  | some ids => simp only [SmallMap.get_insert, if_true, Option.getD_some]

theorem get_updIndex_ne (idx : List (P × List Nat)) (p q : P) (f : List Nat → List Nat) (h : q ≠ p) :
    SmallMap.get (updIndex idx p f) q = SmallMap.get idx q := by
  unfold updIndex
  cases h' : SmallMap.get idx p with
  | none => simp only [SmallMap.get_insert, if_neg h]
  | some ids => simp only [SmallMap.get_insert, if_neg h]

theorem addIncompatibility_single {st st' : State P S V M Pr} {inc : Incompat P S V M} {p : P} {tp : Term S}
    (hterms : inc.terms = [(p, tp)]) (hdep : inc.asDependency = none)
    (hr : addIncompatibility st inc = .ok st') :
    st'.ps = st.ps ∧ st'.contradicted = st.contradicted ∧ st'.store = st.store ++ [inc] ∧
    ∃ ids, SmallMap.get st'.incompatibilities p = some ids ∧ st.store.length ∈ ids := by
  unfold addIncompatibility at hr
  obtain ⟨e1, e2, _, inc', hinc', hc⟩ := mergeIncompatibility_spec hr
  simp only at hinc'
  rw [List.getElem?_append_right (Nat.le_refl _)] at hinc'
  simp only [Nat.sub_self, List.getElem?_cons_zero] at hinc'
  injection hinc' with hinc'; subst hinc'
  rcases hc with ⟨e3, e4⟩ | ⟨past, pastInc, merged, _, hm, _, _⟩
  · refine ⟨e1, e2, e3, ?_⟩
    rw [e4, hterms]
    simp only [List.foldl_cons, List.foldl_nil]
    exact ⟨_, get_updIndex_self _ _ _, by simp⟩
  · unfold Incompat.mergeDependents at hm
    rw [hdep] at hm
    simp only at hm
    cases hm

theorem trigger_single {st st' : State P S V M Pr} {inc : Incompat P S V M} {p : P} {tp cur : Term S}
    (hterms : inc.terms = [(p, tp)]) (hdep : inc.asDependency = none)
    (hr : addIncompatibility st inc = .ok st') (h : PInv st)
    (hcur : st.ps.termIntersectionForPackage p = some cur) (hrel : tp.relationWith cur ≠ .contradicted) :
    ∃ ids id, SmallMap.get st'.incompatibilities p = some ids ∧ id ∈ ids ∧ Trigger st' p id := by
  obtain ⟨e1, e2, e3, ids, hids, hmem⟩ := addIncompatibility_single hterms hdep hr
  refine ⟨ids, _, hids, hmem, ?_, inc, ?_, ?_, tp, cur, ?_, e1 ▸ hcur, hrel⟩
  · rw [e2]
    cases hg : SmallMap.get st.contradicted st.store.length with
    | none => rfl
    | some lvl => exact absurd (h.cache _ (SmallMap.mem_of_get hg)) (Nat.lt_irrefl _)
  · rw [e3, List.getElem?_append_right (Nat.le_refl _)]; simp
  · intro q t hm hq
    rw [hterms, List.mem_singleton] at hm
    injection hm with hm; exact absurd hm hq
  · unfold Incompat.get
    rw [hterms]; simp [SmallMap.get]

theorem pending_single {st st' : State P S V M Pr}
    {inc : Incompat P S V M} {p : P} {tp cur : Term S}
    (hterms : inc.terms = [(p, tp)]) (hdep : inc.asDependency = none)
    (hr : addIncompatibility st inc = .ok st') (h : PInv st) (hpos : st.ps.InflightPos p)
    (hcur : st.ps.termIntersectionForPackage p = some cur) (hrel : tp.relationWith cur ≠ .contradicted) :
    Pending st' p := by
  obtain ⟨ids, id, hids, hmem, htr⟩ := trigger_single hterms hdep hr h hcur hrel
  exact Or.inr ⟨(addIncompatibility_single hterms hdep hr).1 ▸ hpos, ids, hids, id, hmem, htr⟩

theorem _root_.Pubgrub.PInv.storeAppend {st : State P S V M Pr} (h : PInv st) (extra : List (Incompat P S V M)) :
    PInv { st with store := st.store ++ extra } := by
  refine ⟨h.wf, ?_⟩
  intro kv hkv
  simp only [List.length_append]
  exact Nat.lt_of_lt_of_le (h.cache kv hkv) (Nat.le_add_right _ _)

theorem addIncompatibility_pinv {st st' : State P S V M Pr} {inc : Incompat P S V M}
    (hr : addIncompatibility st inc = .ok st') (h : PInv st) : PInv st' ∧ st'.ps = st.ps := by
  unfold addIncompatibility at hr
  have := mergeIncompatibility_pinv hr (h.storeAppend [inc])
  exact this

theorem foldlM_merge_pinv :
    ∀ (ids : List Nat) {st st' : State P S V M Pr},
    ids.foldlM (m := R) (fun st id => mergeIncompatibility st id) st = .ok st' →
    PInv st → PInv st' ∧ st'.ps = st.ps := by
  intro ids st st' hr h
  refine foldlM_ok_inv (fun st' => PInv st' ∧ st'.ps = st.ps) hr ⟨h, rfl⟩ ?_
  intro id _ st1 st2 h1 h2
  obtain ⟨h3, e3⟩ := mergeIncompatibility_pinv h2 h1.1
  exact ⟨h3, e3.trans h1.2⟩

theorem addIncompatibilityFromDependencies_pinv {st st' : State P S V M Pr} {p : P} {v : V}
    {deps : List (P × S)} {start stop : Nat}
    (hr : addIncompatibilityFromDependencies st p v deps = .ok (st', start, stop)) (h : PInv st) :
    PInv st' ∧ st'.ps = st.ps := by
  obtain ⟨h1, -, -⟩ := addIncompatibilityFromDependencies_spec hr
  have := foldlM_merge_pinv _ h1 (h.storeAppend _)
  exact this

end State
end PS
end Pubgrub
