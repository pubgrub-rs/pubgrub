/-
The state-level freshness invariant `QFresh` (every queued package's priority is the one last reported,
and it was reported for the package's current set unless the package is pending re-prioritisation) and
its preservation by the operations of the partial solution and by unit propagation.
-/
import PubgrubProofs.PSInvariant


namespace Pubgrub
open VersionSet

section PS
variable {P S V M Pr : Type} [DecidableEq P] [VersionSet S V] [DecidableEq S]
  [LawfulVersionSet S V]

/-- freshness of the queue with respect to the map `lp` of the last reported `(set, priority)`:
every queued priority is the last reported one, and was reported for the current set of the package
unless the package is pending -/
def PartialSolution.QFresh (lp : P → Option (S × Pr)) (ps : PartialSolution P S V Pr) : Prop :=
  ∀ q pr, SmallMap.get ps.queue q = some pr → ∃ sq, lp q = some (sq, pr) ∧
    ∀ i pa set, ps.assignments[i]? = some (q, pa) → pa.inter = .derivations (.pos set) →
      ps.Pend i pa ∨ sq = set

namespace PartialSolution

/-- `addDerivation` preserves freshness: the package derived for becomes pending, pending is monotone -/
theorem addDerivation_qfresh {lp : P → Option (S × Pr)} {ps ps' : PartialSolution P S V Pr} {p : P}
    {cause : Nat} {store : List (Incompat P S V M)} (h : ps.WF') (hq : ps.QFresh lp)
    (hr : ps.addDerivation p cause store = .ok ps') : ps'.QFresh lp := by
  obtain ⟨eq, hent⟩ := addDerivation_pend h.wf hr
  intro q pr hqq
  obtain ⟨sq, hlp, hall⟩ := hq q pr (eq ▸ hqq)
  refine ⟨sq, hlp, fun i qa s hi hs => ?_⟩
  rcases hent i q qa s hi hs with hp | ⟨_, hi', hmono⟩
  · exact Or.inl hp
  · exact (hall i qa s hi' hs).imp_left hmono

theorem backtrack_qfresh {lp : P → Option (S × Pr)} {ps ps' : PartialSolution P S V Pr} {dl' : Nat}
    (h : ps.WF') (hdl : dl' ≤ ps.currentDecisionLevel) (hr : ps.backtrack dl' = .ok ps') :
    ps'.QFresh lp := by
  obtain ⟨_, _, _, e3⟩ := backtrack_wf' h hdl hr
  intro q pr hq
  rw [e3] at hq
  simp [SmallMap.get] at hq

theorem addDecision_qfresh {lp : P → Option (S × Pr)} {ps ps' : PartialSolution P S V Pr} {debug : Bool}
    {p : P} {v : V} (h : ps.WF) (hq : ps.QFresh lp) (hch : ps.changed = ps.assignments.length)
    (hqn : SmallMap.get ps.queue p = none) (hr : addDecision debug ps p v = .ok ps')
    {t : Term S} {pa : PackageAssignments S V} (hpa : ps.getPA p = some pa) (ht : pa.inter = .derivations t) :
    ps'.QFresh lp := by
  obtain ⟨oldIdx, hget, hge, e1, e2, e3, e4, e5, hk⟩ := addDecision_spec h hr hpa ht
  intro q pr hqq
  rw [e3] at hqq
  obtain ⟨sq, hlp, hall⟩ := hq q pr hqq
  refine ⟨sq, hlp, ?_⟩
  have hqp : q ≠ p := by
    intro e; subst e; rw [hqn] at hqq; cases hqq
  have hold : ∀ (i : Nat) (qa : PackageAssignments S V) (s : S), ps.assignments[i]? = some (q, qa) →
      qa.inter = .derivations (.pos s) → sq = s := by
    intro i qa s hi hs
    rcases hall i qa s hi hs with ⟨h1, _⟩ | h1
    · have := (List.getElem?_eq_some_iff.1 hi).1
      omega
    · exact h1
  intro k qa s hkq hs
  rcases addDecision_entry h hr hpa ht hkq with ⟨_, e, _⟩ | ⟨_, j, hj, _⟩
  · exact absurd e hqp
  · exact Or.inr (hold j qa s hj hs)

theorem kept_qfresh (lp : P → Option (S × Pr)) :
    Kept M (fun ps : PartialSolution P S V Pr => ps.QFresh lp) :=
  ⟨fun h hq hr => addDerivation_qfresh h hq hr, fun h hdl hr => backtrack_qfresh h hdl hr⟩

end PartialSolution

theorem State.unitPropagation_qfresh {lp : P → Option (S × Pr)} {fuel : Nat}
    {st st' : State P S V M Pr} {p : P} {r : Option Nat}
    (hr : st.unitPropagation fuel p = .ok (st', r)) (h : PInv st) (hq : st.ps.QFresh lp) :
    st'.ps.QFresh lp :=
  (unitPropagationLoop_kept (PartialSolution.kept_qfresh lp) _ _ hr ⟨h.wf, h.cache⟩).2 hq

end PS
end Pubgrub
