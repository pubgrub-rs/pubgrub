/-
Property C11 for `Range V` over any linear order.  The term laws (PubgrubProofs/TermLaws.lean, wrapped in
PubgrubProps/C11.lean) are proved for lawful version sets; `Range V` is lawful only over dense orders
without end points.  Over a discrete order "evaluating the terms on every concrete choice" has to range
over the points of the dense completion (as property C10 says for `==`): the laws are transported along
`Range.denseHom : VSetHom (Range V) V (Range (Dense V)) (Dense V)` (PubgrubProofs/RangeHom.lean), with
which every `Term` operation commutes (HomTerm.lean).
-/
import PubgrubProofs.RangeHom
import PubgrubProofs.HomTerm
import PubgrubProofs.TermLaws
import PubgrubProofs.VSetInstances

set_option linter.unusedSectionVars false

namespace Pubgrub
open VersionSet

variable {V : Type} [LinearOrder V] [Nonempty V]

/-- the meaning of a term over `Range V` on a choice of the dense completion -/
def Term.evalD (t : Term (Range V)) (c : Option (Dense V)) : Bool :=
  (Term.mapH Range.denseHom t).eval c

/-- canonical sets -/
def Term.WFR : Term (Range V) → Prop
  | .pos s => Range.WF s
  | .neg s => Range.WF s

theorem Term.valid_mapH_iff (t : Term (Range V)) :
    (Term.mapH Range.denseHom t).Valid ↔ t.WFR := by
  cases t with
  | pos s => exact Range.wf_mapR Dense.ι Dense.ι_strictMono s
  | neg s => exact Range.wf_mapR Dense.ι Dense.ι_strictMono s

theorem Term.evalD_some (t : Term (Range V)) (v : V) :
    t.evalD (some (Dense.ι v)) = t.eval (some v) ∧ t.evalD none = t.eval none :=
  ⟨Term.eval_mapH _ t (some v), Term.eval_mapH _ t none⟩

theorem term_operations_any_order (t1 t2 : Term (Range V)) (h1 : t1.WFR) (h2 : t2.WFR)
    (c : Option (Dense V)) :
    (Term.negate t1).evalD c = !t1.evalD c ∧
    (Term.intersection t1 t2).evalD c = (t1.evalD c && t2.evalD c) ∧
    (Term.union t1 t2).evalD c = (t1.evalD c || t2.evalD c) := by
  have v1 := (Term.valid_mapH_iff t1).2 h1
  have v2 := (Term.valid_mapH_iff t2).2 h2
  refine ⟨?_, ?_, ?_⟩
  · unfold Term.evalD
    rw [← Term.negate_mapH]
    exact Term.eval_negate _ c
  · unfold Term.evalD
    rw [← Term.intersection_mapH]
    exact Term.eval_intersection _ _ v1 v2 c
  · unfold Term.evalD
    rw [← Term.union_mapH]
    exact Term.eval_union _ _ v1 v2 c

theorem term_closed_any_order (t1 t2 : Term (Range V)) (h1 : t1.WFR) (h2 : t2.WFR) :
    (Term.negate t1).WFR ∧ (Term.intersection t1 t2).WFR ∧ (Term.union t1 t2).WFR := by
  have v1 := (Term.valid_mapH_iff t1).2 h1
  have v2 := (Term.valid_mapH_iff t2).2 h2
  refine ⟨?_, ?_, ?_⟩
  · rw [← Term.valid_mapH_iff, ← Term.negate_mapH]
    exact Term.valid_negate _ v1
  · rw [← Term.valid_mapH_iff, ← Term.intersection_mapH]
    exact Term.valid_intersection _ _ v1 v2
  · rw [← Term.valid_mapH_iff, ← Term.union_mapH]
    exact Term.valid_union _ _ v1 v2

theorem term_tests_any_order (t1 t2 : Term (Range V)) (h1 : t1.WFR) (h2 : t2.WFR) :
    (Term.subsetOf t1 t2 = true ↔ ∀ c : Option (Dense V), t1.evalD c = true → t2.evalD c = true) ∧
    (Term.isDisjoint t1 t2 = true ↔ ∀ c : Option (Dense V), ¬ (t1.evalD c = true ∧ t2.evalD c = true)) := by
  have v1 := (Term.valid_mapH_iff t1).2 h1
  have v2 := (Term.valid_mapH_iff t2).2 h2
  refine ⟨?_, ?_⟩
  · rw [← Term.subsetOf_mapH Range.denseHom]
    exact Term.subsetOf_iff _ _ v1 v2
  · rw [← Term.isDisjoint_mapH Range.denseHom]
    exact Term.isDisjoint_iff _ _ v1 v2

theorem term_relation_any_order (t o : Term (Range V)) (h1 : t.WFR) (h2 : o.WFR) :
    (Term.relationWith t o = .satisfied ↔ ∀ c : Option (Dense V), o.evalD c = true → t.evalD c = true) ∧
    (Term.relationWith t o = .contradicted ↔
      (¬ ∀ c : Option (Dense V), o.evalD c = true → t.evalD c = true) ∧
      ∀ c : Option (Dense V), ¬ (t.evalD c = true ∧ o.evalD c = true)) ∧
    (Term.relationWith t o = .inconclusive ↔
      (¬ ∀ c : Option (Dense V), o.evalD c = true → t.evalD c = true) ∧
      ¬ ∀ c : Option (Dense V), ¬ (t.evalD c = true ∧ o.evalD c = true)) := by
  have v1 := (Term.valid_mapH_iff t).2 h1
  have v2 := (Term.valid_mapH_iff o).2 h2
  rw [← Term.relationWith_mapH Range.denseHom]
  exact ⟨Term.relationWith_satisfied_iff _ _ v1 v2, Term.relationWith_contradicted_iff _ _ v1 v2,
    Term.relationWith_inconclusive_iff _ _ v1 v2⟩

end Pubgrub
