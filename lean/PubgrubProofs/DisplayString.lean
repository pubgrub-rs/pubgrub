/-
Property C15, Display clause at the level of the string: "distinct sets print differently".
`DisplayLaws.lean` shows that `Range.display showV r = renderAtoms showV (displayAtoms r)` and that the
structured text determines the range.  Here: the rendering `renderAtoms showV` is injective, i.e. the text can
be read back unambiguously, provided the version printer `showV` is injective and never produces an empty
string or one of the characters the range syntax uses: ' ' ',' '|' '<' '>' '=' '*' '∅'.  (For `u32` and
`SemanticVersion` the printer produces digits and dots only.)

Route: `String.toList_intercalate` turns the text into `List.intercalate` on `List Char`;
`Intercalate.lean` proves that joining `c`-free pieces with a separator containing `c` is injective (split
at the first `c`); atom texts are injective, non-empty and free of ' ' ',' '|' '∅'; hence `renderAtoms showV` is
injective (`renderAtoms_injective`, on all structures, not only those of ranges).
-/
import PubgrubProofs.DisplayLaws
import PubgrubProofs.Intercalate

namespace Pubgrub
open VersionSet

variable {V : Type} [DecidableEq V]

/-- the characters of the range syntax -/
def Range.syntaxChars : List Char := [' ', ',', '|', '<', '>', '=', '*', '∅']

/-- a version printer the range syntax can be read back through: injective, never empty, never a
character of the range syntax -/
structure CleanPrinter (showV : V → String) : Prop where
  inj : ∀ a b, showV a = showV b → a = b
  nonempty : ∀ v, (showV v).toList ≠ []
  clean : ∀ v c, c ∈ (showV v).toList → c ∉ Range.syntaxChars

namespace DisplayStringAux
open Range

/-- the characters of one atom, given the characters of the versions -/
def atomChars (sv : V → List Char) : Atom V → List Char
  | .ge v => '>' :: '=' :: sv v
  | .gt v => '>' :: sv v
  | .le v => '<' :: '=' :: sv v
  | .lt v => '<' :: sv v
  | .eq v => sv v
  | .star => ['*']

omit [DecidableEq V] in
theorem toList_render (showV : V → String) (a : Atom V) :
    (Atom.render showV a).toList = atomChars (fun v => (showV v).toList) a := by
  cases a <;> simp [Atom.render, atomChars]

/-- a version printer at the level of character lists -/
structure CleanChars (sv : V → List Char) : Prop where
  inj : ∀ a b, sv a = sv b → a = b
  nonempty : ∀ v, sv v ≠ []
  clean : ∀ v c, c ∈ sv v → c ∉ Range.syntaxChars

omit [DecidableEq V] in
theorem CleanChars.head {sv : V → List Char} (hp : CleanChars sv) {v : V} {c : Char} {r : List Char}
    (h : sv v = c :: r) : c ∉ Range.syntaxChars :=
  hp.clean v c (h ▸ List.mem_cons_self)

theorem sign_mem_syntaxChars : '>' ∈ Range.syntaxChars ∧ '<' ∈ Range.syntaxChars ∧
    '=' ∈ Range.syntaxChars ∧ '*' ∈ Range.syntaxChars := by decide

omit [DecidableEq V] in
/-- the sign of an atom can be read off its text: two texts that agree either carry the same sign, or
one of the version texts would have to start with a sign character -/
theorem atomChars_inj {sv : V → List Char} (hp : CleanChars sv) (a b : Atom V)
    (h : atomChars sv a = atomChars sv b) : a = b := by
  obtain ⟨gt, lt, eq, star⟩ := sign_mem_syntaxChars
  cases a <;> cases b <;>
    simp only [atomChars, List.cons.injEq, Char.reduceEq, false_and, true_and] at h
  case ge.ge | gt.gt | le.le | lt.lt | eq.eq => exact congrArg _ (hp.inj _ _ h)
  case star.star => rfl
  case ge.gt | le.lt => exact (hp.head h.symm eq).elim
  case gt.ge | lt.le => exact (hp.head h eq).elim
  case ge.eq | gt.eq => exact (hp.head h.symm gt).elim
  case eq.ge | eq.gt => exact (hp.head h gt).elim
  case le.eq | lt.eq => exact (hp.head h.symm lt).elim
  case eq.le | eq.lt => exact (hp.head h lt).elim
  case star.eq => exact (hp.head h.symm star).elim
  case eq.star => exact (hp.head h star).elim

omit [DecidableEq V] in
theorem atomChars_not_mem {sv : V → List Char} (hp : CleanChars sv) (a : Atom V) (c : Char)
    (hc : c = ' ' ∨ c = ',' ∨ c = '|' ∨ c = '∅') : c ∉ atomChars sv a := by
  intro h
  have key : ∀ v, c ∉ sv v := fun v hv =>
    hp.clean v c hv (by rcases hc with rfl | rfl | rfl | rfl <;> decide)
  cases a <;> simp only [atomChars, List.mem_cons, List.not_mem_nil, or_false] at h
  all_goals rcases hc with rfl | rfl | rfl | rfl <;> simp [key] at h

omit [DecidableEq V] in
theorem atomChars_ne_nil {sv : V → List Char} (hp : CleanChars sv) (a : Atom V) :
    atomChars sv a ≠ [] := by
  cases a <;> simp [atomChars, hp.nonempty]

/-- the characters of one segment: atoms joined by ", " -/
def segChars (sv : V → List Char) (atoms : List (Atom V)) : List Char :=
  [',', ' '].intercalate (atoms.map (atomChars sv))

/-- the characters of a non-empty structure: segments joined by " | " -/
def textChars (sv : V → List Char) (segs : List (List (Atom V))) : List Char :=
  [' ', '|', ' '].intercalate (segs.map (segChars sv))

omit [DecidableEq V] in
theorem segChars_not_mem {sv : V → List Char} (hp : CleanChars sv) (atoms : List (Atom V)) (c : Char)
    (hc : c = '|' ∨ c = '∅') : c ∉ segChars sv atoms := by
  intro h
  rcases mem_intercalate _ h with h | ⟨x, hx, hcx⟩
  · rcases hc with rfl | rfl <;> simp at h
  · obtain ⟨a, _, rfl⟩ := List.mem_map.1 hx
    exact atomChars_not_mem hp a c (by rcases hc with rfl | rfl <;> simp) hcx

omit [DecidableEq V] in
theorem textChars_not_mem {sv : V → List Char} (hp : CleanChars sv) (segs : List (List (Atom V))) :
    '∅' ∉ textChars sv segs := by
  intro h
  rcases mem_intercalate _ h with h | ⟨x, hx, hcx⟩
  · simp at h
  · obtain ⟨a, _, rfl⟩ := List.mem_map.1 hx
    exact segChars_not_mem hp a _ (Or.inr rfl) hcx

omit [DecidableEq V] in
/-- joining atoms with ", " can be read back: split at the first ',' -/
theorem segChars_injective {sv : V → List Char} (hp : CleanChars sv) :
    Function.Injective (segChars sv) := by
  intro l1 l2 h
  have hpiece : ∀ (l : List (Atom V)), ∀ x ∈ l.map (atomChars sv), ',' ∉ x ∧ x ≠ [] := by
    intro l x hx
    obtain ⟨a, _, rfl⟩ := List.mem_map.1 hx
    exact ⟨atomChars_not_mem hp a _ (Or.inr (Or.inl rfl)), atomChars_ne_nil hp a⟩
  have := intercalate_inj (c := ',') (pre := []) (post := [' ']) (by simp) _ _
    (hpiece l1) (hpiece l2) h
  exact (List.map_inj_right fun a b hab => atomChars_inj hp a b hab).1 this

omit [DecidableEq V] in
/-- joining segments with " | " can be read back: split at the first '|' -/
theorem textChars_inj_cons {sv : V → List Char} (hp : CleanChars sv) (x1 x2 : List (Atom V))
    (t1 t2 : List (List (Atom V))) (h : textChars sv (x1 :: t1) = textChars sv (x2 :: t2)) :
    x1 :: t1 = x2 :: t2 := by
  have hpiece : ∀ (l : List (List (Atom V))), ∀ x ∈ l.map (segChars sv), '|' ∉ x := by
    intro l x hx
    obtain ⟨a, _, rfl⟩ := List.mem_map.1 hx
    exact segChars_not_mem hp a _ (Or.inl rfl)
  have := intercalate_inj_cons (c := '|') (pre := [' ']) (post := [' ']) (by simp)
    (t1.map (segChars sv)) (segChars sv x1) (segChars sv x2) (t2.map (segChars sv))
    (hpiece (x1 :: t1)) (hpiece (x2 :: t2)) h
  exact (List.map_inj_right fun a b hab => segChars_injective hp hab).1 this

theorem lit_empty_toList : "∅".toList = ['∅'] := by simp
theorem lit_comma_toList : ", ".toList = [',', ' '] := by simp
theorem lit_bar_toList : " | ".toList = [' ', '|', ' '] := by simp

omit [DecidableEq V] in
theorem toList_renderSeg (showV : V → String) (atoms : List (Atom V)) :
    (", ".intercalate (atoms.map (Atom.render showV))).toList =
      segChars (fun v => (showV v).toList) atoms := by
  rw [String.toList_intercalate, lit_comma_toList, List.map_map, segChars]
  congr 1
  apply List.map_congr_left
  intro a _
  exact toList_render showV a

omit [DecidableEq V] in
theorem renderAtoms_nil (showV : V → String) : renderAtoms showV [] = "∅" := rfl

omit [DecidableEq V] in
theorem toList_renderAtoms (showV : V → String) (segs : List (List (Atom V))) :
    (renderAtoms showV segs).toList =
      match segs with
      | [] => ['∅']
      | _ => textChars (fun v => (showV v).toList) segs := by
  cases segs with
  | nil => rw [renderAtoms_nil, lit_empty_toList]
  | cons x t =>
    simp only [renderAtoms]
    rw [String.toList_intercalate, lit_bar_toList, List.map_map, textChars]
    congr 1
    apply List.map_congr_left
    intro atoms _
    exact toList_renderSeg showV atoms

omit [DecidableEq V] in
theorem cleanChars_of_printer {showV : V → String} (hp : CleanPrinter showV) :
    CleanChars (fun v => (showV v).toList) where
  inj a b h := hp.inj a b (String.toList_inj.1 h)
  nonempty := hp.nonempty
  clean := hp.clean

omit [DecidableEq V] in
theorem renderAtoms_injective {showV : V → String} (hp : CleanPrinter showV) :
    Function.Injective (renderAtoms showV) := by
  intro s1 s2 h
  have hc := cleanChars_of_printer hp
  have h' := congrArg String.toList h
  rw [toList_renderAtoms, toList_renderAtoms] at h'
  cases s1 with
  | nil =>
    cases s2 with
    | nil => rfl
    | cons x2 t2 =>
      exfalso
      apply textChars_not_mem hc (x2 :: t2)
      simp only at h'
      rw [← h']; simp
  | cons x1 t1 =>
    cases s2 with
    | nil =>
      exfalso
      apply textChars_not_mem hc (x1 :: t1)
      simp only at h'
      rw [h']; simp
    | cons x2 t2 => exact textChars_inj_cons hc x1 x2 t1 t2 h'

end DisplayStringAux

open DisplayStringAux in
/-- C15: the Display text determines the range — distinct ranges, a fortiori distinct sets, print
differently (any segment lists; no order on `V` is needed) -/
theorem display_injective_string (showV : V → String) (hp : CleanPrinter showV) (a b : Range V)
    (h : Range.display showV a = Range.display showV b) : a = b := by
  rw [Range.display_eq_render', Range.display_eq_render'] at h
  have := renderAtoms_injective hp h
  exact (List.map_inj_right fun _ _ hxy => Range.segAtoms_injective hxy).1 this

theorem distinct_sets_display_differently (showV : V → String) (hp : CleanPrinter showV) (a b : Range V)
    [LT V] [LE V] [DecidableLT V] [DecidableLE V]
    (hne : ∃ x, Range.contains a x ≠ Range.contains b x) :
    Range.display showV a ≠ Range.display showV b := by
  intro h
  obtain ⟨x, hx⟩ := hne
  exact hx (by rw [display_injective_string showV hp a b h])

/-- the decimal printer of natural numbers (the stand-in for `u32`) is clean -/
theorem cleanPrinter_nat : CleanPrinter (fun n : Nat => toString n) where
  inj a b h := by
    have h' := congrArg String.toList h
    simp only [Nat.toString_eq_repr, Nat.toList_repr] at h'
    have := congrArg (fun l => Nat.ofDigitChars 10 l 0) h'
    simpa only [Nat.ofDigitChars_ten_toDigits] using this
  nonempty v := by
    simp only [Nat.toString_eq_repr, Nat.toList_repr]
    exact Nat.toDigits_ne_nil
  clean v c hc := by
    simp only [Nat.toString_eq_repr, Nat.toList_repr] at hc
    have hd := Nat.isDigit_of_mem_toDigits (by decide) (by decide) hc
    intro hm
    simp only [Range.syntaxChars, List.mem_cons, List.not_mem_nil, or_false] at hm
    rcases hm with rfl | rfl | rfl | rfl | rfl | rfl | rfl | rfl <;> exact absurd hd (by decide)

end Pubgrub
