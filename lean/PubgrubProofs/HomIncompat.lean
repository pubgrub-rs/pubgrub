/-
Homomorphisms of version sets: commutation lemmas for `PubgrubModel/Incompat.lean`.
-/
import PubgrubProofs.HomTerm

set_option linter.unusedSectionVars false

namespace Pubgrub
open VersionSet

section IncompatLemmas
variable {P S V S' V' M : Type} [DecidableEq P] {_ : VersionSet S V} {_ : VersionSet S' V'}
  [DecidableEq S] [DecidableEq S']

@[simp] theorem Incompat.mapH_terms (h : VSetHom S V S' V') (i : Incompat P S V M) :
    (Incompat.mapH h i).terms = i.terms.map fun kv => (kv.1, Term.mapH h kv.2) := rfl

@[simp] theorem Incompat.mapH_kind (h : VSetHom S V S' V') (i : Incompat P S V M) :
    (Incompat.mapH h i).kind = Kind.mapH h i.kind := rfl

theorem termsMapH_eq (h : VSetHom S V S' V') (l : List (P × Term S)) :
    termsMapH h l = l.map fun kv => (kv.1, Term.mapH h kv.2) := rfl

theorem depsMapH_eq (h : VSetHom S V S' V') (l : List (P × S)) :
    depsMapH h l = l.map fun kv => (kv.1, h.f kv.2) := rfl

theorem Incompat.mapH_mk (h : VSetHom S V S' V') (t : SmallMap P (Term S)) (k : Kind P S V M) :
    Incompat.mapH h { terms := t, kind := k } =
      { terms := t.map fun kv => (kv.1, Term.mapH h kv.2), kind := Kind.mapH h k } := rfl

@[simp] theorem Incompat.notRoot_mapH (h : VSetHom S V S' V') (p : P) (v : V) :
    (Incompat.notRoot p (h.ι v) : Incompat P S' V' M) = Incompat.mapH h (Incompat.notRoot p v) := by
  simp [Incompat.notRoot, Incompat.mapH, termsMapH, Kind.mapH, h.map_singleton]

@[simp] theorem Incompat.noVersions_mapH (h : VSetHom S V S' V') (p : P) (t : Term S) :
    (Incompat.noVersions p (Term.mapH h t) : R (Incompat P S' V' M)) =
      (Incompat.noVersions p t).map (Incompat.mapH h) := by
  cases t <;> simp [Incompat.noVersions, Incompat.mapH, termsMapH, Kind.mapH]

@[simp] theorem Incompat.customVersion_mapH (h : VSetHom S V S' V') (p : P) (v : V) (m : M) :
    (Incompat.customVersion p (h.ι v) m : Incompat P S' V' M) =
      Incompat.mapH h (Incompat.customVersion p v m) := by
  simp [Incompat.customVersion, Incompat.mapH, termsMapH, Kind.mapH, h.map_singleton]

@[simp] theorem Incompat.fromDependency_mapH (h : VSetHom S V S' V') (p : P) (versions : S) (dep : P × S) :
    (Incompat.fromDependency p (h.f versions) (dep.1, h.f dep.2) : Incompat P S' V' M) =
      Incompat.mapH h (Incompat.fromDependency p versions dep) := by
  simp only [Incompat.fromDependency, Incompat.mapH, termsMapH, Kind.mapH, VSetHom.f_eq_empty_iff]
  split
  · simp [h.map_intersection, h.map_complement]
  · split <;> simp

@[simp] theorem Incompat.asDependency_mapH (h : VSetHom S V S' V') (i : Incompat P S V M) :
    (Incompat.mapH h i).asDependency = i.asDependency := by
  obtain ⟨t, k⟩ := i
  cases k <;> simp [Incompat.asDependency, Incompat.mapH, Kind.mapH]

@[simp] theorem Incompat.get_mapH (h : VSetHom S V S' V') (i : Incompat P S V M) (p : P) :
    (Incompat.mapH h i).get p = (i.get p).map (Term.mapH h) := by
  simp [Incompat.get]

@[simp] theorem Incompat.unwrapPositive_mapH (h : VSetHom S V S' V') (t : Term S) :
    Incompat.unwrapPositive (Term.mapH h t) = (Incompat.unwrapPositive t).map h.f := by
  cases t <;> rfl

@[simp] theorem Incompat.unwrapNegative_mapH (h : VSetHom S V S' V') (t : Term S) :
    Incompat.unwrapNegative (Term.mapH h t) = (Incompat.unwrapNegative t).map h.f := by
  cases t <;> rfl

@[simp] theorem Incompat.causes_mapH (h : VSetHom S V S' V') (i : Incompat P S V M) :
    (Incompat.mapH h i).causes = i.causes := by
  obtain ⟨t, k⟩ := i
  cases k <;> rfl

@[simp] theorem Incompat.isTerminal_mapH (h : VSetHom S V S' V') (i : Incompat P S V M) (root : P) (rv : V) :
    (Incompat.mapH h i).isTerminal root (h.ι rv) = i.isTerminal root rv := by
  obtain ⟨t, k⟩ := i
  match t with
  | [] => rfl
  | [(p, t)] => simp [Incompat.isTerminal, Incompat.mapH, termsMapH]
  | _ :: _ :: _ => rfl

theorem Incompat.relationGo_mapH (h : VSetHom S V S' V') (terms : P → Option (Term S)) (rel : Relation P)
    (l : List (P × Term S)) :
    Incompat.relationGo (fun p => (terms p).map (Term.mapH h)) rel
        (l.map fun kv => (kv.1, Term.mapH h kv.2)) = Incompat.relationGo terms rel l := by
  induction l generalizing rel with
  | nil => rfl
  | cons x l ih =>
    obtain ⟨p, t⟩ := x
    simp only [List.map_cons, Incompat.relationGo, Option.map_map]
    cases terms p with
    | none => simp only [Option.map_none, ih]
    | some o =>
      simp only [Option.map_some, Function.comp, Term.relationWith_mapH, ih]

@[simp] theorem Incompat.relation_mapH (h : VSetHom S V S' V') (i : Incompat P S V M)
    (terms : P → Option (Term S)) :
    (Incompat.mapH h i).relation (fun p => (terms p).map (Term.mapH h)) = i.relation terms := by
  simp only [Incompat.relation, Incompat.mapH_terms, Incompat.relationGo_mapH]

theorem Incompat.mergeDependents_mapH (h : VSetHom S V S' V') (a b : Incompat P S V M) :
    (Incompat.mapH h a).mergeDependents (Incompat.mapH h b) =
      (a.mergeDependents b).map (Option.map (Incompat.mapH h)) := by
  unfold Incompat.mergeDependents
  simp only [Incompat.asDependency_mapH, Incompat.get_mapH]
  cases ha : a.asDependency with
  | none => rfl
  | some pp =>
    obtain ⟨p1, p2⟩ := pp
    cases hb : b.asDependency with
    | none => rfl
    | some o =>
      simp only [ne_eq, Term.optMapH_eq_iff]
      split
      · rfl
      split
      · rfl
      cases a.get p1 with
      | none => rfl
      | some t1 =>
        cases t1 with
        | neg s => rfl
        | pos s1 =>
          cases b.get p1 with
          | none => rfl
          | some t2 =>
            cases t2 with
            | neg s => rfl
            | pos s2 =>
              cases a.get p2 with
              | none =>
                simp [Incompat.unwrapPositive, ← h.map_union, ← h.map_empty,
                  ← Incompat.fromDependency_mapH]
              | some t =>
                cases t with
                | pos s => rfl
                | neg s =>
                  simp [Incompat.unwrapPositive, Incompat.unwrapNegative, ← h.map_union,
                    ← Incompat.fromDependency_mapH]

theorem Incompat.priorCause_mapH (h : VSetHom S V S' V') (id1 id2 : Nat) (a b : Incompat P S V M) (p : P) :
    Incompat.priorCause id1 id2 (Incompat.mapH h a) (Incompat.mapH h b) p =
      (Incompat.priorCause id1 id2 a b p).map (Incompat.mapH h) := by
  unfold Incompat.priorCause
  simp only [Incompat.mapH_terms, SmallMap.splitOne_mapVals, SmallMap.get_mapVals]
  cases SmallMap.splitOne a.terms p with
  | none => rfl
  | some x =>
    obtain ⟨t1, rest⟩ := x
    cases SmallMap.get b.terms p with
    | none => rfl
    | some t2 =>
      have hfil : List.filter (fun kv => decide (kv.1 ≠ p)) (b.terms.map fun kv => (kv.1, Term.mapH h kv.2)) =
          (List.filter (fun kv => decide (kv.1 ≠ p)) b.terms).map fun kv => (kv.1, Term.mapH h kv.2) := by
        rw [List.filter_map]; rfl
      have hm := SmallMap.merge_mapVals (Term.mapH h) rest
        (List.filter (fun kv => decide (kv.1 ≠ p)) b.terms)
        (fun a b => some (Term.intersection a b)) (fun a b => some (Term.intersection a b))
        (by intro a b; simp)
      simp only [Option.map_some, hom_unwrapOr_some, except_ok_bind, hfil, hm, Term.union_mapH, ne_eq,
        Term.mapH_eq_any_iff, except_pure_eq, exceptMap_ok, Incompat.mapH_mk, Kind.mapH]
      split <;> simp
