/-
The operations between the loops do not panic and keep `XInv`: `add_incompatibility`,
`add_incompatibility_from_dependencies`, `backtrack`; `add_decision` (with its debug assertions),
`add_version` and `pick_highest_priority_pkg` succeed under the invariants.
-/
import PubgrubProofs.IndexInvariant

set_option linter.unusedSectionVars false

namespace Pubgrub
open VersionSet

section
variable {P S V M Pr : Type} [DecidableEq P] [VersionSet S V] [DecidableEq S] [DecidableEq V]
  [LawfulVersionSet S V]

namespace State

theorem addIncompatibility_np (W : World P S V M) (root : P) (rv : V) {st : State P S V M Pr}
    {inc : Incompat P S V M} (hs : SInv W root rv st) (hx : XInv st)
    (g : inc.Good W root rv st.store st.store.length) (hna : st.debug = true → inc.NoAny) :
    NoPanic (addIncompatibility st inc) (fun st' => XInv st' ∧
      (∀ q, (SmallMap.get st.incompatibilities q).isSome = true →
        (SmallMap.get st'.incompatibilities q).isSome = true) ∧
      (inc.asDependency = none → KeysIndexed st'.incompatibilities inc)) := by
  unfold addIncompatibility
  have hs2 : SInv W root rv ({ st with store := st.store ++ [inc] } : State P S V M Pr) :=
    ⟨storeInv_push W root rv st.store inc hs.store g, hs.root, hs.rv, hs.ps⟩
  have hx2 : XInv ({ st with store := st.store ++ [inc] } : State P S V M Pr) :=
    hx.storeAppend [inc] (fun hd i hi => by rw [List.mem_singleton.1 hi]; exact hna hd)
  have hget : ({ st with store := st.store ++ [inc] } : State P S V M Pr).store[st.store.length]? = some inc := by
    show (st.store ++ [inc])[st.store.length]? = some inc
    rw [List.getElem?_append_right (Nat.le_refl _)]; simp
  exact mergeIncompatibility_np W root rv hs2 hx2 hget

theorem mergeIncompatibility_length {st st' : State P S V M Pr} {id : Nat}
    (hr : mergeIncompatibility st id = .ok st') : st.store.length ≤ st'.store.length := by
  obtain ⟨_, _, _, inc, _, hc⟩ := mergeIncompatibility_spec hr
  rcases hc with ⟨e, _⟩ | ⟨_, _, _, _, _, e, _⟩
  · rw [e]
  · rw [e, List.length_append]; exact Nat.le_add_right _ _

theorem foldlM_merge_np (W : World P S V M) (root : P) (rv : V) :
    ∀ (ids : List Nat) (st : State P S V M Pr), SInv W root rv st → XInv st →
    (∀ id ∈ ids, id < st.store.length) →
    NoPanic (ids.foldlM (m := R) (fun st id => mergeIncompatibility st id) st) (fun st' => XInv st' ∧
      ∀ q, (SmallMap.get st.incompatibilities q).isSome = true →
        (SmallMap.get st'.incompatibilities q).isSome = true) := by
  intro ids
  induction ids with
  | nil =>
    intro st hs hx _
    exact NoPanic.pure' ⟨hx, fun q h => h⟩
  | cons a rest ih =>
    intro st hs hx hids
    simp only [List.foldlM_cons]
    have ha : a < st.store.length := hids a List.mem_cons_self
    obtain ⟨inc, hinc⟩ : ∃ i, st.store[a]? = some i := ⟨st.store[a], List.getElem?_eq_getElem ha⟩
    refine NoPanic.bind (mergeIncompatibility_np W root rv hs hx hinc) ?_
    intro st1 h1 ⟨hx1, hmono1, _⟩
    have hlen := mergeIncompatibility_length h1
    refine (ih st1 (mergeIncompatibility_inv W root rv h1 hs) hx1
      (fun id hid => Nat.lt_of_lt_of_le (hids id (List.mem_cons_of_mem _ hid)) hlen)).mono ?_
    intro st' _ ⟨hx', hmono'⟩
    exact ⟨hx', fun q hq => hmono' q (hmono1 q hq)⟩

theorem addIncompatibilityFromDependencies_np (W : World P S V M) (hW : W.SetsValid) (root : P) (rv : V)
    {st : State P S V M Pr} {p : P} {v : V} {deps : List (P × S)}
    (hs : SInv W root rv st) (hx : XInv st) (hd : W.deps p v = .available deps) :
    NoPanic (addIncompatibilityFromDependencies st p v deps) (fun r => XInv r.1 ∧
      ∀ q, (SmallMap.get st.incompatibilities q).isSome = true →
        (SmallMap.get r.1.incompatibilities q).isSome = true) := by
  unfold addIncompatibilityFromDependencies
  simp only
  have hs2 : SInv W root rv ({ st with store := (st.store ++
      deps.map fun dep => Incompat.fromDependency (M := M) p (VersionSet.singleton v) dep) } : State P S V M Pr) := by
    refine ⟨?_, hs.root, hs.rv, hs.ps⟩
    apply storeInv_append W root rv _ _ hs.store
    intro k i hi
    have hmem := List.mem_of_getElem? hi
    rw [List.mem_map] at hmem
    obtain ⟨d, hdm, rfl⟩ := hmem
    exact Incompat.fromDependency_good W hW root rv _ _ p v deps hd d hdm
  have hx2 : XInv ({ st with store := (st.store ++
      deps.map fun dep => Incompat.fromDependency (M := M) p (VersionSet.singleton v) dep) } : State P S V M Pr) := by
    refine hx.storeAppend _ ?_
    intro _ i hi
    rw [List.mem_map] at hi
    obtain ⟨d, _, rfl⟩ := hi
    exact Incompat.noAny_fromDependency _ _ _
  refine NoPanic.bind (foldlM_merge_np W root rv _ _ hs2 hx2 ?_) ?_
  · intro id hid
    rw [List.mem_range'_1] at hid
    simp only [List.length_append, List.length_map] at hid ⊢
    omega
  · intro st' _ ⟨hx', hmono⟩
    exact NoPanic.pure' ⟨hx', hmono⟩

end State

theorem PartialSolution.backtrack_ok {ps : PartialSolution P S V Pr} (h : ps.WF') (dl : Nat) :
    ∃ ps', ps.backtrack dl = .ok ps' := by
  rw [PartialSolution.backtrack_eq]
  obtain ⟨asg, hasg⟩ := filterMapM_total (PartialSolution.btF (P := P) (S := S) (V := V) dl)
    ps.assignments (by
    intro x hx
    obtain ⟨p, pa⟩ := x
    rcases PartialSolution.sat_btG_cases dl p (h.wfx _ hx) with ⟨_, e⟩ | ⟨_, _, e⟩ | ⟨_, _, _, _, e⟩ <;>
      exact ⟨_, e⟩)
  rw [hasg]
  exact ⟨_, rfl⟩

namespace State

theorem backtrack_np (W : World P S V M) (root : P) (rv : V) {st : State P S V M Pr} {cur : Nat}
    {inc : Incompat P S V M} (hs : SInv W root rv st) (hp : PInv st) (hx : XInv st)
    (hinc : st.store[cur]? = some inc) (changed : Bool) (dl : Nat)
    (hdep : changed = true → inc.asDependency = none)
    (hk : changed = false → KeysIndexed st.incompatibilities inc) :
    NoPanic (st.backtrack cur changed dl) (fun st' => XInv st' ∧ KeysIndexed st'.incompatibilities inc) := by
  unfold State.backtrack
  obtain ⟨ps', hps⟩ := PartialSolution.backtrack_ok hp.wf dl
  refine NoPanic.bind_ok hps ?_
  have hbt := (PartialSolution.backtrack_step hp.wf dl).of_ok hps
  have hs1 : SInv W root rv ({ st with ps := ps', contradicted :=
      (SmallMap.retainVals st.contradicted (fun l => decide (l ≤ dl))) } : State P S V M Pr) :=
    ⟨hs.store, hs.root, hs.rv, PartialSolution.backtrack_termsValid hs.ps hps⟩
  have hx1 : XInv ({ st with ps := ps', contradicted :=
      (SmallMap.retainVals st.contradicted (fun l => decide (l ≤ dl))) } : State P S V M Pr) := by
    refine ⟨hx.idx, hx.md, ?_, hx.buf, hx.noAny⟩
    intro p pa' hpa'
    obtain ⟨pa, hpa, _⟩ := hbt.getPA_inv hp.wf.wf hpa'
    exact hx.asg p pa hpa
  dsimp only
  split
  · rename_i hc
    refine (mergeIncompatibility_np W root rv hs1 hx1 hinc).mono ?_
    intro st' _ ⟨hx', _, hk'⟩
    exact ⟨hx', hk' (hdep hc)⟩
  · rename_i hc
    refine NoPanic.pure' ⟨hx1, hk ?_⟩
    cases changed with
    | true => exact absurd rfl hc
    | false => rfl

end State
namespace PartialSolution

theorem swapIndices_ok {α : Type} (l : List α) {i j : Nat} (hi : i < l.length) (hj : j < l.length) :
    ∃ l', swapIndices l i j = .ok l' := by
  unfold swapIndices
  rw [List.getElem?_eq_getElem hi, List.getElem?_eq_getElem hj]
  exact ⟨_, rfl⟩

theorem addDecisionCore_ok {ps : PartialSolution P S V Pr} (h : ps.WF) {p : P} {v : V} {t : Term S}
    {pa : PackageAssignments S V} (hpa : ps.getPA p = some pa) (ht : pa.inter = .derivations t) :
    ∃ ps', addDecisionCore ps p v = .ok ps' := by
  obtain ⟨i, hidx, hi⟩ := getElem_of_getPA hpa
  have hge := undecided_ge h hi ht
  have hlt := (List.getElem?_eq_some_iff.1 hi).1
  unfold addDecisionCore
  simp only [bind, Except.bind, pure, Except.pure, hidx, hpa, unwrapOr]
  split
  · obtain ⟨l', hl'⟩ := swapIndices_ok (ps.assignments.set i
      (p, { pa with highest := ps.currentDecisionLevel + 1,
                    inter := .decision ps.nextGlobalIndex v (Term.exact v) }))
      (i := ps.currentDecisionLevel) (j := i) (by rw [List.length_set]; omega) (by rw [List.length_set]; exact hlt)
    rw [hl']
    exact ⟨_, rfl⟩
  · exact ⟨_, rfl⟩

theorem addDecision_ok {ps : PartialSolution P S V Pr} (h : ps.WF) {p : P} {v : V} {t : Term S}
    {pa : PackageAssignments S V} (hpa : ps.getPA p = some pa) (ht : pa.inter = .derivations t)
    (hv : t.contains v = true) (hch : ps.changed = ps.assignments.length) (debug : Bool) :
    ∃ ps', addDecision debug ps p v = .ok ps' := by
  have heq : addDecision debug ps p v = addDecisionCore ps p v := by
    unfold addDecision addDecisionCore
    cases debug with
    | false => rfl
    | true =>
      simp only [if_true, hpa, ht, hv, hch, ne_eq, not_true_eq_false, if_false, Bool.not_true,
        Bool.false_eq_true, bind, Except.bind, pure, Except.pure]
  rw [heq]
  exact addDecisionCore_ok h hpa ht

theorem addVersion_ok {ps : PartialSolution P S V Pr} (h : ps.WF) {p : P} {v : V} {t : Term S}
    {pa : PackageAssignments S V} (hpa : ps.getPA p = some pa) (ht : pa.inter = .derivations t)
    (hv : t.contains v = true) (hch : ps.changed = ps.assignments.length) (debug : Bool)
    (news : List (Incompat P S V M)) :
    ∃ ps', addVersion debug ps p v news = .ok ps' := by
  unfold addVersion
  split
  · exact addDecision_ok h hpa ht hv hch debug
  · dsimp only
    split
    · exact addDecision_ok h hpa ht hv hch debug
    · exact ⟨_, rfl⟩

theorem toPrioritize_ok {ps : PartialSolution P S V Pr} (h : ps.WF) : ∃ L, ps.toPrioritize = .ok L := by
  unfold toPrioritize
  rw [if_neg (Nat.not_lt.2 h.changed_le)]
  exact ⟨_, rfl⟩

end PartialSolution

theorem XInv.decide {st : State P S V M Pr} (hx : XInv st) (hw : st.ps.WF) {ps' : PartialSolution P S V Pr}
    {debug : Bool} {p : P} {v : V} (hr : PartialSolution.addDecision debug st.ps p v = .ok ps') (hw' : ps'.WF)
    {t : Term S} {pa : PackageAssignments S V} (hpa : st.ps.getPA p = some pa) (ht : pa.inter = .derivations t) :
    XInv ({ st with ps := ps' } : State P S V M Pr) := by
  refine ⟨hx.idx, hx.md, ?_, hx.buf, hx.noAny⟩
  intro q qa hq
  have hstep := PartialSolution.addDecision_step hw hr hw' hpa ht
  rcases hstep.mem q qa (SmallMap.mem_of_get hq) with hm | ⟨rfl, _⟩
  · exact hx.asg q qa (PartialSolution.getPA_of_mem hw hm)
  · exact hx.asg q pa hpa

end
end Pubgrub
