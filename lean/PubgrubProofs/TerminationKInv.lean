/-
`KInv` is preserved by the operations on the store and on the partial solution.
-/
import PubgrubProofs.SatisfierTheory
import PubgrubProofs.TerminationMeasure

set_option linter.unusedSectionVars false

namespace Pubgrub
open VersionSet

section
variable {P S V M Pr : Type} [DecidableEq P] [VersionSet S V] [DecidableEq S] [LawfulVersionSet S V]
variable {W : World P S V M} {root : P} {rv : V} (fw : FiniteWorld W root rv)

/-- every term of the incompatibility is fine -/
def Incompat.OKI (inc : Incompat P S V M) : Prop := ∀ kv ∈ inc.terms, OKT fw kv.1 kv.2

theorem KInv.oki {st : State P S V M Pr} (h : KInv fw st) {id : Nat} {inc : Incompat P S V M}
    (hinc : st.store[id]? = some inc) : inc.OKI fw := h.store inc (List.mem_of_getElem? hinc)

theorem KInv.get {st : State P S V M Pr} (h : KInv fw st) {id : Nat} {inc : Incompat P S V M}
    (hinc : st.store[id]? = some inc) {p : P} {t : Term S} (ht : inc.get p = some t) : OKT fw p t :=
  h.oki fw hinc (p, t) (SmallMap.mem_of_get ht)

theorem KInv.terms {st : State P S V M Pr} (h : KInv fw st) {p : P} {t : Term S}
    (ht : st.ps.terms p = some t) : OKT fw p t := by
  simp only [PartialSolution.terms, PartialSolution.termIntersectionForPackage, Option.map_eq_some_iff] at ht
  obtain ⟨pa, hpa, rfl⟩ := ht
  exact (h.ps _ (SmallMap.mem_of_get hpa)).1

theorem oki_single {inc : Incompat P S V M} {p : P} {t : Term S} (h : inc.terms = [(p, t)])
    (ht : OKT fw p t) : inc.OKI fw := by
  intro kv hkv
  rw [h, List.mem_singleton] at hkv
  subst hkv; exact ht

theorem oki_notRoot : (Incompat.notRoot root rv : Incompat P S V M).OKI fw :=
  oki_single fw rfl ⟨fw.root_mem, GeneratedSet.rootVersion rfl⟩

theorem oki_fromDependency {p q : P} {vs s : S} (hp : OKT fw p (Term.pos vs)) (hq : OKT fw q (Term.neg s)) :
    (Incompat.fromDependency (M := M) p vs (q, s)).OKI fw := by
  intro kv hkv
  unfold Incompat.fromDependency at hkv
  simp only at hkv
  split at hkv
  · rename_i e
    subst e
    rw [List.mem_singleton] at hkv; subst hkv
    exact ⟨hp.1, GeneratedSet.intersection _ _ hp.2 (GeneratedSet.complement _ hq.2)⟩
  · split at hkv
    · rw [List.mem_singleton] at hkv; subst hkv; exact hp
    · simp only [List.mem_cons, List.not_mem_nil, or_false] at hkv
      rcases hkv with e | e <;> subst e
      · exact hp
      · exact hq

theorem oki_priorCause {ia ib r : Incompat P S V M} (ha : ia.OKI fw) (hb : ib.OKI fw)
    (na : SmallMap.NoDupKeys ia.terms) (nb : SmallMap.NoDupKeys ib.terms) {a b : Nat} {pivot : P}
    (hr : Incompat.priorCause a b ia ib pivot = .ok r) : r.OKI fw := by
  intro kv hkv
  exact Incompat.priorCause_terms na nb hr (R := OKT fw) (fun k t h _ => ha _ h) (fun k t h _ => hb _ h)
    (fun k t u _ _ h1 h2 => h1.intersection fw h2) (fun t1 t2 h1 h2 _ => (ha _ h1).union fw (hb _ h2))
    kv.1 kv.2 hkv

theorem oki_merged (store : List (Incompat P S V M)) {a b : Nat} {ia ib r : Incompat P S V M}
    (ga : ia.Good W root rv store a) (gb : ib.Good W root rv store b) (ha : ia.OKI fw) (hb : ib.OKI fw)
    (hr : Incompat.mergeDependents ia ib = .ok (some r)) : r.OKI fw := by
  obtain ⟨p1, p2, s1, s2, t, hne, _, hta, htb, _, _, rfl⟩ :=
    Incompat.mergeDependents_spec W root rv store a b ia ib ga gb r hr
  have m1 : (p1, Term.pos s1) ∈ ia.terms := by
    rw [hta, Incompat.mem_fromDependency_terms s1 t hne]; exact Or.inl rfl
  have m2 : (p1, Term.pos s2) ∈ ib.terms := by
    rw [htb, Incompat.mem_fromDependency_terms s2 t hne]; exact Or.inl rfl
  have o1 := ha _ m1
  have o2 := hb _ m2
  intro kv hkv
  obtain ⟨k, x⟩ := kv
  rw [Incompat.mem_fromDependency_terms _ t hne] at hkv
  rcases hkv with e | ⟨hte, e⟩
  · injection e with e1 e2
    show OKT fw k x
    rw [e1, e2]
    exact ⟨o1.1, GeneratedSet.union _ _ o1.2 o2.2⟩
  · injection e with e1 e2
    show OKT fw k x
    rw [e1, e2]
    have m3 : (p2, Term.neg t) ∈ ia.terms := by
      rw [hta, Incompat.mem_fromDependency_terms s1 t hne]; exact Or.inr ⟨hte, rfl⟩
    exact ha _ m3

theorem KInv.congr {st st' : State P S V M Pr} (h : KInv fw st) (e1 : st'.ps.assignments = st.ps.assignments)
    (e2 : st'.store = st.store) : KInv fw st' := by
  refine ⟨?_, ?_⟩
  · rw [e1]; exact h.ps
  · rw [e2]; exact h.store

theorem KInv.storeAppend {st : State P S V M Pr} (h : KInv fw st) (extra : List (Incompat P S V M))
    (hx : ∀ inc ∈ extra, inc.OKI fw) : KInv fw { st with store := st.store ++ extra } := by
  refine ⟨h.ps, ?_⟩
  intro inc hinc
  rcases List.mem_append.1 hinc with h1 | h1
  · exact h.store inc h1
  · exact hx inc h1

namespace State

theorem mergeIncompatibility_kinv {st st' : State P S V M Pr} {id : Nat}
    (hr : mergeIncompatibility st id = .ok st') (hs : StoreInv W root rv st.store) (h : KInv fw st) :
    KInv fw st' := by
  obtain ⟨e1, _, _, inc, hinc, hc⟩ := mergeIncompatibility_spec hr
  rcases hc with ⟨e3, _⟩ | ⟨past, pastInc, merged, hpast, hm, e3, _⟩
  · exact h.congr fw (by rw [e1]) e3
  · refine ⟨by rw [e1]; exact h.ps, ?_⟩
    rw [e3]
    intro i hi
    rcases List.mem_append.1 hi with h1 | h1
    · exact h.store i h1
    · rw [List.mem_singleton] at h1; subst h1
      exact oki_merged fw st.store (hs _ _ hinc) (hs _ _ hpast) (h.oki fw hinc) (h.oki fw hpast) hm

theorem addIncompatibility_kinv {st st' : State P S V M Pr} {inc : Incompat P S V M}
    (hr : addIncompatibility st inc = .ok st') (hs : StoreInv W root rv (st.store ++ [inc]))
    (h : KInv fw st) (hi : inc.OKI fw) : KInv fw st' := by
  unfold addIncompatibility at hr
  exact mergeIncompatibility_kinv fw hr hs (h.storeAppend fw [inc] (by
    intro i hi'; rw [List.mem_singleton] at hi'; subst hi'; exact hi))

theorem addIncompatibilityFromDependencies_kinv (hW : W.SetsValid) {st st' : State P S V M Pr} {p : P} {v : V}
    {deps : List (P × S)} {start stop : Nat}
    (hr : addIncompatibilityFromDependencies st p v deps = .ok (st', start, stop))
    (hs : SInv W root rv st) (h : KInv fw st) (hd : W.deps p v = .available deps)
    (hv : v ∈ W.versions p) (hp : p ∈ fw.pkgs) : KInv fw st' := by
  obtain ⟨h1, -, -⟩ := addIncompatibilityFromDependencies_spec hr
  have hgood : ∀ inc ∈ deps.map (fun dep => Incompat.fromDependency (M := M) p (VersionSet.singleton v) dep),
      inc.OKI fw := by
    intro inc hinc
    rw [List.mem_map] at hinc
    obtain ⟨d, hdm, rfl⟩ := hinc
    obtain ⟨q, s⟩ := d
    exact oki_fromDependency fw ⟨hp, GeneratedSet.version v hv⟩
      ⟨fw.deps_mem p v deps hv hd _ hdm, GeneratedSet.dep p v deps s hp hv hd hdm⟩
  have hsA : SInv W root rv ({ st with store := (st.store ++
      deps.map (fun dep => Incompat.fromDependency (M := M) p (VersionSet.singleton v) dep)) } :
      State P S V M Pr) := by
    refine ⟨?_, hs.root, hs.rv, hs.ps⟩
    apply storeInv_append W root rv _ _ hs.store
    intro k i hi
    have hmem := List.mem_of_getElem? hi
    rw [List.mem_map] at hmem
    obtain ⟨d, hdm, rfl⟩ := hmem
    exact Incompat.fromDependency_good W hW root rv _ _ p v deps hd d hdm
  exact (foldlM_ok_inv (fun st => SInv W root rv st ∧ KInv fw st) h1 ⟨hsA, h.storeAppend fw _ hgood⟩
    fun _ _ _ _ hb hm => ⟨mergeIncompatibility_inv W root rv hm hb.1, mergeIncompatibility_kinv fw hm hb.1.store hb.2⟩).2

end State

theorem KInv.derive {st : State P S V M Pr} (h : KInv fw st) (hs : SInv W root rv st) (hw : st.ps.WF)
    {q : P} {id : Nat} {ps : PartialSolution P S V Pr} (hps : st.ps.addDerivation q id st.store = .ok ps)
    {st' : State P S V M Pr} (e1 : st'.ps = ps) (e2 : st'.store = st.store) : KInv fw st' := by
  obtain ⟨inc, t, t', pa', hinc, ht, hnone, hstep⟩ :=
    PartialSolution.addDerivation_step W root rv hs.store hw hps
  have hok : OKT fw q t := h.get fw hinc ht
  -- the new term
  have ht' : OKT fw q t' := by
    cases hpa : st.ps.getPA q with
    | none => rw [hnone hpa]; exact hok.negate fw
    | some pa =>
      rw [hstep.term_of_some hw hps hinc ht hpa]
      exact (h.ps _ (SmallMap.mem_of_get hpa)).1.intersection fw (hok.negate fw)
  refine ⟨?_, by rw [e2]; exact h.store⟩
  rw [e1]
  intro kv hkv
  obtain ⟨k, ka⟩ := kv
  rcases hstep.mem k ka hkv with hold | ⟨rfl, rfl⟩
  · exact h.ps _ hold
  · simp only
    rw [hstep.inter]
    refine ⟨ht', ?_⟩
    intro dd hdd
    rcases hstep.mem_dated hdd with ⟨pa, hpa, hdd'⟩ | rfl
    · exact (h.ps _ (SmallMap.mem_of_get hpa)).2 dd hdd'
    · exact ht'

theorem KInv.decide {st : State P S V M Pr} (h : KInv fw st) (hw : st.ps.WF)
    {ps' : PartialSolution P S V Pr} {debug : Bool} {p : P} {v : V}
    (hr : PartialSolution.addDecision debug st.ps p v = .ok ps') (hw' : ps'.WF)
    {t : Term S} {pa : PackageAssignments S V} (hpa : st.ps.getPA p = some pa)
    (ht : pa.inter = .derivations t) (hv : v ∈ W.versions p)
    {st' : State P S V M Pr} (e1 : st'.ps = ps') (e2 : st'.store = st.store) : KInv fw st' := by
  have hstep := PartialSolution.addDecision_step hw hr hw' hpa ht
  have hold := h.ps _ (SmallMap.mem_of_get hpa)
  refine ⟨?_, by rw [e2]; exact h.store⟩
  rw [e1]
  intro kv hkv
  obtain ⟨k, ka⟩ := kv
  rcases hstep.mem k ka hkv with hold' | ⟨rfl, rfl⟩
  · exact h.ps _ hold'
  · simp only [PackageAssignments.decide, AssignInter.term]
    exact ⟨⟨hold.1.1, GeneratedSet.version v hv⟩, hold.2⟩

theorem KInv.backtrack {st : State P S V M Pr} (h : KInv fw st) (hw : st.ps.WF')
    {ps' : PartialSolution P S V Pr} {dl : Nat} (hbt : BtStep st.ps ps' dl)
    {st' : State P S V M Pr} (e1 : st'.ps = ps') (e2 : st'.store = st.store) : KInv fw st' := by
  refine ⟨?_, by rw [e2]; exact h.store⟩
  rw [e1]
  intro kv hkv
  obtain ⟨k, ka⟩ := kv
  obtain ⟨qa, hm, hg⟩ := hbt.mem hkv
  have hold := h.ps _ hm
  simp only at hold ⊢
  rcases (PartialSolution.btG_eq_some (hw.wfx _ hm) hg).2 with ⟨_, e⟩ | ⟨_, _, last, hl, e⟩
  · simp only at e; subst e; exact hold
  · simp only at e; subst e
    have hsub := PartialSolution.popWhileAbove_sublist dl qa.dated
    simp only [PackageAssignments.cut, AssignInter.term]
    exact ⟨hold.2 last (hsub.subset (List.mem_of_getLast? hl)), fun dd hdd => hold.2 dd (hsub.subset hdd)⟩

end
end Pubgrub
