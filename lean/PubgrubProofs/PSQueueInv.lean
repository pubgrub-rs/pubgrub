/-
Preservation of I-Q by the operations of the partial solution.
-/
import PubgrubProofs.PSBacktrack

set_option linter.unusedSectionVars false

namespace Pubgrub
open VersionSet

section PS
variable {P S V M Pr : Type} [DecidableEq P] [VersionSet S V] [DecidableEq S]
  [LawfulVersionSet S V]

/-- the entry at index `i` will be re-examined by the next `toPrioritize` (second disjunct of I-Q) -/
def PartialSolution.Pend (ps : PartialSolution P S V Pr) (i : Nat) (pa : PackageAssignments S V) : Prop :=
  ps.changed ≤ i ∧ (ps.changed = ps.currentDecisionLevel - 1 ∨ pa.highest = ps.currentDecisionLevel)

/-- the obligation of I-Q for one package -/
def PartialSolution.POK (ps : PartialSolution P S V Pr) (p : P) : Prop :=
  ∀ (i : Nat) (pa : PackageAssignments S V) (s : S), ps.assignments[i]? = some (p, pa) →
    pa.inter = .derivations (.pos s) →
    (SmallMap.get ps.queue p).isSome = true ∨
    (ps.changed ≤ i ∧ (ps.changed = ps.currentDecisionLevel - 1 ∨ pa.highest = ps.currentDecisionLevel))

/-- every undecided package with a positive term, other than the one in flight, is queued -/
def PartialSolution.AllQ (ps : PartialSolution P S V Pr) (inflight : Option P) : Prop :=
  ∀ (i : Nat) (p : P) (pa : PackageAssignments S V) (s : S), ps.assignments[i]? = some (p, pa) →
    pa.inter = .derivations (.pos s) → some p ≠ inflight → (SmallMap.get ps.queue p).isSome = true

namespace PartialSolution

theorem AllQ.qInv {ps : PartialSolution P S V Pr} {o : Option P} (h : ps.AllQ o) : ps.QInv o :=
  fun i p pa s hi hs ho => Or.inl (h i p pa s hi hs ho)

theorem qInv_none_iff (ps : PartialSolution P S V Pr) (p : P) :
    ps.QInv none ↔ ps.QInv (some p) ∧ ps.POK p := by
  constructor
  · intro h
    exact ⟨fun i q qa s hi hs _ => h i q qa s hi hs (by simp), fun i pa s hi hs => h i p pa s hi hs (by simp)⟩
  · rintro ⟨h1, h2⟩ i q qa s hi hs _
    by_cases hq : q = p
    · subst hq; exact h2 i qa s hi hs
    · exact h1 i q qa s hi hs (by simpa using hq)

theorem QInv.weaken {ps : PartialSolution P S V Pr} (h : ps.QInv none) (o : Option P) : ps.QInv o :=
  fun i q qa s hi hs _ => h i q qa s hi hs (by simp)

theorem _root_.Pubgrub.Term.isPositive_pos_iff (t : Term S) : t.isPositive = true ↔ ∃ s, t = .pos s := by
  cases t <;> simp [Term.isPositive]

/-- `changed` only moves down to an index from which the packages of the level are still seen -/
theorem pend_mono {c c' dl k i hi : Nat} (hk : dl - 1 ≤ k) (hc : c' = c ∨ c' = min c k)
    (h : c ≤ i ∧ (c = dl - 1 ∨ hi = dl)) : c' ≤ i ∧ (c' = dl - 1 ∨ hi = dl) := by
  rcases hc with rfl | rfl
  · exact h
  · exact ⟨Nat.le_trans (Nat.min_le_left _ _) h.1, h.2.imp_left fun (e : c = dl - 1) => by rw [e]; exact Nat.min_eq_left hk⟩

theorem addDerivation_pend {ps ps' : PartialSolution P S V Pr} {p : P} {cause : Nat}
    {store : List (Incompat P S V M)} (h : ps.WF) (hr : ps.addDerivation p cause store = .ok ps') :
    ps'.queue = ps.queue ∧
    ∀ (i : Nat) (q : P) (qa : PackageAssignments S V) (s : S), ps'.assignments[i]? = some (q, qa) →
      qa.inter = .derivations (.pos s) →
      ps'.Pend i qa ∨ (q ≠ p ∧ ps.assignments[i]? = some (q, qa) ∧ (ps.Pend i qa → ps'.Pend i qa)) := by
  obtain ⟨inc, t, _, _, hcase⟩ := addDerivation_spec hr
  have hite : ∀ (b : Bool) (c k : Nat),
      (if b = true then min c k else c) = c ∨ (if b = true then min c k else c) = min c k := by
    intro b c k; cases b <;> simp
  rcases hcase with ⟨idx, pa, t0, hidx, hpa, ht0, rfl⟩ | ⟨hpa, rfl⟩
  · have hget := getElem_of_indexOf_getPA hidx hpa
    have hge : ps.currentDecisionLevel ≤ idx := undecided_ge h hget ht0
    refine ⟨rfl, fun i q qa s hi hs => ?_⟩
    rw [List.getElem?_set] at hi
    split at hi
    · rename_i hii; subst hii
      rw [if_pos (List.getElem?_eq_some_iff.1 hget).1] at hi
      injection hi with hi; injection hi with hi1 hi2; subst hi1; subst hi2
      injection hs with hs
      exact Or.inl ⟨by simp only [hs, Term.isPositive, if_true]; exact Nat.min_le_right _ _, Or.inr rfl⟩
    · rename_i hii
      refine Or.inr ⟨?_, hi, pend_mono (Nat.le_trans (Nat.sub_le _ _) hge) (hite _ _ _)⟩
      intro e; subst e
      exact hii (SmallMap.index_inj h.keys hget hi)
  · refine ⟨rfl, fun i q qa s hi hs => ?_⟩
    rw [List.getElem?_append] at hi
    split at hi
    · refine Or.inr ⟨?_, hi, pend_mono (Nat.sub_le_sub_right h.level_le 1) (hite _ _ _)⟩
      intro e; subst e
      exact (SmallMap.get_eq_none_iff _ _).1 hpa qa (List.mem_of_getElem? hi)
    · rename_i hlen
      obtain ⟨_, hi2⟩ := List.getElem?_eq_some_iff.1 hi
      rw [List.getElem_singleton] at hi2
      injection hi2 with hi1 hi2; subst hi1; subst hi2
      injection hs with hs
      refine Or.inl ⟨?_, Or.inr rfl⟩
      simp only [hs, Term.isPositive, if_true]
      exact Nat.le_trans (Nat.min_le_right _ _) (Nat.le_trans (Nat.sub_le _ _) (Nat.le_of_not_lt hlen))

theorem addDerivation_qInv {ps ps' : PartialSolution P S V Pr} {p : P} {cause : Nat}
    {store : List (Incompat P S V M)} {o : Option P} (h : ps.WF') (hq : ps.QInv o)
    (hr : ps.addDerivation p cause store = .ok ps') : ps'.QInv o := by
  obtain ⟨eq, hent⟩ := addDerivation_pend h.wf hr
  intro i q qa s hi hs hqo
  rcases hent i q qa s hi hs with hp | ⟨_, hi', hmono⟩
  · exact Or.inr hp
  · exact (hq i q qa s hi' hs hqo).imp (fun hh => eq ▸ hh) hmono

theorem addDerivation_pok {ps ps' : PartialSolution P S V Pr} {p : P} {cause : Nat}
    {store : List (Incompat P S V M)} (h : ps.WF)
    (hr : ps.addDerivation p cause store = .ok ps') : ps'.POK p := by
  intro i qa s hi hs
  rcases (addDerivation_pend h hr).2 i p qa s hi hs with hp | ⟨hne, _⟩
  · exact Or.inr hp
  · exact absurd rfl hne

theorem backtrack_qInv {ps ps' : PartialSolution P S V Pr} {dl' : Nat} (h : ps.WF')
    (hdl : dl' ≤ ps.currentDecisionLevel) (hr : ps.backtrack dl' = .ok ps') : ps'.QInv none := by
  obtain ⟨hw', e1, e2, e3⟩ := backtrack_wf' h hdl hr
  intro i q qa s hi hs _
  right
  have := undecided_ge hw'.wf hi hs
  rw [e2, e1]
  exact ⟨by omega, Or.inl rfl⟩

theorem toPrioritize_sound {ps : PartialSolution P S V Pr} (h : ps.WF) {L : List (P × S)}
    (hL : ps.toPrioritize = .ok L) (q : P) (hq : q ∈ L.map Prod.fst) :
    ∃ pa s, ps.getPA q = some pa ∧ pa.inter = .derivations (.pos s) := by
  unfold toPrioritize at hL
  split at hL
  · cases hL
  injection hL with hL; subst hL
  rw [List.mem_map] at hq
  obtain ⟨⟨q', s⟩, hm, rfl⟩ := hq
  rw [List.mem_filterMap] at hm
  obtain ⟨⟨q0, qa⟩, hx, hf⟩ := hm
  simp only at hf
  split at hf
  · unfold potentialPackageFilter at hf
    split at hf
    · cases hf
    · rename_i t ht
      split at hf
      · rename_i s0
        injection hf with hf; injection hf with hf1 hf2; subst hf1; subst hf2
        exact ⟨qa, s0, SmallMap.get_of_mem h.keys (List.mem_of_mem_drop hx), ht⟩
      · cases hf
  · cases hf

theorem toPrioritize_complete {ps : PartialSolution P S V Pr} {L : List (P × S)}
    (hL : ps.toPrioritize = .ok L) {i : Nat} {q : P} {qa : PackageAssignments S V} {s : S}
    (hi : ps.assignments[i]? = some (q, qa)) (hs : qa.inter = .derivations (.pos s))
    (h1 : ps.changed ≤ i)
    (h2 : ps.changed = ps.currentDecisionLevel - 1 ∨ qa.highest = ps.currentDecisionLevel) :
    q ∈ L.map Prod.fst := by
  unfold toPrioritize at hL
  split at hL
  · cases hL
  injection hL with hL; subst hL
  rw [List.mem_map]
  refine ⟨(q, s), ?_, rfl⟩
  rw [List.mem_filterMap]
  refine ⟨(q, qa), ?_, ?_⟩
  · apply List.mem_of_getElem? (i := i - ps.changed)
    rw [List.getElem?_drop, Nat.add_sub_cancel' h1]; exact hi
  · simp only
    rw [if_pos]
    · simp only [potentialPackageFilter, hs]
    · rcases h2 with h2 | h2
      · simp [h2]
      · simp [h2]

theorem afterPrioritize_allQ {ps : PartialSolution P S V Pr} (hq : ps.QInv none) {L : List (P × S)}
    (hL : ps.toPrioritize = .ok L) (prios : List (P × Pr)) (hk : L.map Prod.fst = prios.map Prod.fst) :
    (ps.afterPrioritize prios).AllQ none := by
  intro i q qa s hi hs _
  show (SmallMap.get (prios.foldl (fun q kv => queuePush q kv.1 kv.2) ps.queue) q).isSome = true
  rw [get_foldl_push]
  rcases hq i q qa s hi hs (by simp) with h1 | ⟨h1, h2⟩
  · exact Or.inl h1
  · right; rw [← hk]; exact toPrioritize_complete hL hi hs h1 h2

theorem queueRemove_allQ {ps : PartialSolution P S V Pr} (hq : ps.AllQ none) (p : P) :
    ({ ps with queue := SmallMap.remove ps.queue p } : PartialSolution P S V Pr).AllQ (some p) := by
  intro i q qa s hi hs hqp
  show (SmallMap.get (SmallMap.remove ps.queue p) q).isSome = true
  have hne : q ≠ p := by intro e; subst e; exact hqp rfl
  rw [SmallMap.get_remove_ne _ _ _ hne]
  exact hq i q qa s hi hs (by simp)

theorem addDecision_allQ {ps ps' : PartialSolution P S V Pr} {debug : Bool} {p : P} {v : V}
    (h : ps.WF) (hq : ps.AllQ (some p)) (hr : addDecision debug ps p v = .ok ps')
    {t : Term S} {pa : PackageAssignments S V} (hpa : ps.getPA p = some pa) (ht : pa.inter = .derivations t) :
    ps'.AllQ none := by
  obtain ⟨_, _, _, _, _, e3, _⟩ := addDecision_spec h hr hpa ht
  intro k q qa s hkq hs _
  rw [e3]
  rcases addDecision_entry h hr hpa ht hkq with ⟨_, _, rfl⟩ | ⟨hqp, j, hj, _⟩
  · cases hs
  · exact hq j q qa s hj hs (by simpa using hqp)

end PartialSolution
end PS
end Pubgrub
