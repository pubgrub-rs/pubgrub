/-
Pull-backs to `Range V` over any linear order (method: PubgrubProofs/RangeAnyOrder.lean):
the derivation-tree theorems of C03 / C08 / C09 on resolve's trees, the trace theorems of C12 / C14, I-PS.
Each lawful-set theorem is applied at `S' = Range (Dense V)`, `V' = Dense V` to the image run
(`reachable_mapH`, `trace_mapH`) and pulled back with the transport lemmas of HomTrees.lean (trees; the
`custom` leaf uses `Dense.ι_of_back`) and HomTraces.lean (traces, I-PS).
C08 needs no detour through the dense order for the reporter itself: `report_terminates` / `report_steps_sound`
hold for every version set; their hypotheses (`Sound`, `SharedConsistent`) are the pulled-back C03 facts.
-/
import PubgrubProofs.RangeAnyOrder
import PubgrubProofs.SharedIds
import PubgrubProofs.TreeLink
import PubgrubProofs.Freshness
import PubgrubProofs.ReportSound
import PubgrubProofs.CollapseSound
import PubgrubProofs.HomTrees
import PubgrubProofs.HomTraces

set_option linter.unusedSectionVars false

namespace Pubgrub
open VersionSet

variable {P V M Pr E : Type} [DecidableEq P] [LinearOrder V] [LE Pr] [DecidableLE Pr]

/-- a run over `Range V` that ends in `NoSolution tree` maps to a run of the image world that ends in
the image tree; the lawful-set theorems about trees are applied to that run -/
theorem range_tree_image [Nonempty V] (W : World P (Range V) V M) (hW : W.RangesWF) (debug : Bool) (fuel : Nat)
    (root : P) (rv : V) (s : SolverState P (Range V) V M Pr) (tree : DerivationTree P (Range V) V M)
    (h : Reachable (E := E) W debug fuel root rv (s, .noSolution tree)) :
    (World.mapH Range.denseHom Dense.back W).SetsValid ∧
    Reachable (E := E) (World.mapH Range.denseHom Dense.back W) debug fuel root (Dense.ι rv)
      (SolverState.mapH Range.denseHom s, .noSolution (DerivationTree.mapH Range.denseHom tree)) := by
  exact ⟨World.setsValid_mapH W hW, range_reachable_image W debug fuel root rv s _ h⟩

theorem range_C03_tree_checkable (W : World P (Range V) V M) (hW : W.RangesWF) (debug : Bool) (fuel : Nat)
    (root : P) (rv : V) (s : SolverState P (Range V) V M Pr) (tree : DerivationTree P (Range V) V M)
    (h : Reachable (E := E) W debug fuel root rv (s, .noSolution tree)) :
    tree.Checkable W root rv := by
  have : Nonempty V := ⟨rv⟩
  obtain ⟨hW', h'⟩ := range_tree_image W hW debug fuel root rv s tree h
  obtain ⟨terminal, inc, hinc, _, hbuild, hinv, _, _⟩ :=
    noSolution_tree_origin _ hW' debug fuel root _ _ _ h'
  have hc := (buildDerivationTree_checkable _ root _ _ hinv terminal inc hinc _ hbuild).1
  exact DerivationTree.Checkable.pull _ _ Dense.back_ι Dense.ι_of_back W root rv tree hc

theorem range_C03_top_forbids_root (W : World P (Range V) V M) (hW : W.RangesWF) (debug : Bool) (fuel : Nat)
    (root : P) (rv : V) (s : SolverState P (Range V) V M Pr) (tree : DerivationTree P (Range V) V M)
    (h : Reachable (E := E) W debug fuel root rv (s, .noSolution tree))
    (σ : P → Option V) (hσ : σ root = some rv) : TermsTrue σ tree.terms := by
  have : Nonempty V := ⟨rv⟩
  obtain ⟨hW', h'⟩ := range_tree_image W hW debug fuel root rv s tree h
  obtain ⟨terminal, inc, hinc, hterm, hbuild, hinv, _, _⟩ :=
    noSolution_tree_origin _ hW' debug fuel root _ _ _ h'
  have ht := (buildDerivationTree_checkable _ root _ _ hinv terminal inc hinc _ hbuild).2
  have := terminal_forbids_root root _ inc hterm (fun p => (σ p).map Dense.ι) (by simp only [hσ]; rfl)
  rw [← ht, DerivationTree.terms_mapH] at this
  exact (TermsTrue_mapH _ σ tree.terms).1 this

theorem range_C03_shared_same (W : World P (Range V) V M) (hW : W.RangesWF) (debug : Bool) (fuel : Nat)
    (root : P) (rv : V) (s : SolverState P (Range V) V M Pr) (tree : DerivationTree P (Range V) V M)
    (h : Reachable (E := E) W debug fuel root rv (s, .noSolution tree))
    (k : Nat) (t1 t2 : DerivationTree P (Range V) V M)
    (h1 : (some k, t1) ∈ tree.derivedNodes) (h2 : (some k, t2) ∈ tree.derivedNodes) : t1 = t2 := by
  have : Nonempty V := ⟨rv⟩
  obtain ⟨hW', h'⟩ := range_tree_image W hW debug fuel root rv s tree h
  obtain ⟨terminal, _, _, _, hbuild, hinv, _, _⟩ :=
    noSolution_tree_origin _ hW' debug fuel root _ _ _ h'
  exact DerivationTree.mapH_injective _
    (buildDerivationTree_shared_same _ root _ _ hinv terminal _ hbuild k _ _
      (DerivationTree.mem_derivedNodes_mapH _ tree _ t1 h1)
      (DerivationTree.mem_derivedNodes_mapH _ tree _ t2 h2))

theorem range_C03_shared_iff (W : World P (Range V) V M) (hW : W.RangesWF) (debug : Bool) (fuel : Nat)
    (root : P) (rv : V) (s : SolverState P (Range V) V M Pr) (tree : DerivationTree P (Range V) V M)
    (h : Reachable (E := E) W debug fuel root rv (s, .noSolution tree)) :
    ∃ (terminal : Nat) (sh : Nat → Bool), IsTreeOf s.st.store sh terminal tree ∧
      ∀ k, sh k = true ↔
        (∃ inc a b, s.st.store[k]? = some inc ∧ inc.causes = some (a, b)) ∧
          TwoEdgesTo s.st.store terminal k := by
  have : Nonempty V := ⟨rv⟩
  obtain ⟨hW', h'⟩ := range_tree_image W hW debug fuel root rv s tree h
  obtain ⟨terminal, _, _, _, hbuild, hinv, _, _⟩ :=
    noSolution_tree_origin _ hW' debug fuel root _ _ _ h'
  obtain ⟨sh, h1, h2⟩ := buildDerivationTree_shared_iff _ root _ _ hinv terminal _ hbuild
  refine ⟨terminal, sh, IsTreeOf.pull _ s.st.store sh terminal _ h1 tree rfl, fun k => (h2 k).trans ?_⟩
  exact and_congr (store_hasCauses_mapH _ s.st.store k) (TwoEdgesTo_mapH _ s.st.store terminal k)

theorem range_C08_on_resolve_trees
    (W : World P (Range V) V M) (hW : W.RangesWF) (debug : Bool) (fuel : Nat)
    (root : P) (rv : V) (s : SolverState P (Range V) V M Pr) (tree : DerivationTree P (Range V) V M)
    (h : Reachable (E := E) W debug fuel root rv (s, .noSolution tree)) :
    (∃ r, reportSteps tree = .ok r) ∧
    ∀ lines, reportSteps tree = .ok (.inr lines) →
      ∀ i l, lines[i]? = some l → ∀ c, l.step.conclusion = some c →
        Entails (fun _ _ => True) (stepPremises lines i l.step) c := by
  have hc := range_C03_tree_checkable W hW debug fuel root rv s tree h
  have hsc : tree.SharedConsistent := fun k t1 t2 h1 h2 =>
    range_C03_shared_same W hW debug fuel root rv s tree h k t1 t2 h1 h2
  refine ⟨report_terminates tree hsc, ?_⟩
  intro lines hl i l hli c hcl
  exact report_steps_sound (fun _ _ => True) tree (hc.sound W root rv tree _) hsc lines hl i l hli c hcl

theorem range_C09_on_resolve_trees
    (W : World P (Range V) V M) (hW : W.RangesWF) (debug : Bool) (fuel : Nat)
    (root : P) (rv : V) (s : SolverState P (Range V) V M Pr) (tree : DerivationTree P (Range V) V M)
    (h : Reachable (E := E) W debug fuel root rv (s, .noSolution tree))
    (t' : DerivationTree P (Range V) V M) (hc : tree.collapseNoVersions = .ok t') :
    t'.Sound W.Exists ∧ t'.LeavesTrueExisting W root rv ∧ t'.NoVersionsOnlyBesideLeaf ∧
      (∀ σ : P → Option V, Within W.Exists σ → σ root = some rv → TermsTrue σ t'.terms) := by
  have : Nonempty V := ⟨rv⟩
  obtain ⟨hW', h'⟩ := range_tree_image W hW debug fuel root rv s tree h
  obtain ⟨g1, g2, g3, g4⟩ := noSolution_collapse_sound _ hW' debug fuel root _ _ _ h' _
    (DerivationTree.collapseNoVersions_mapH_ok _ tree t' hc)
  refine ⟨DerivationTree.Sound.pull _ _ W t' g1,
    DerivationTree.LeavesTrueExisting.pull _ _ Dense.back_ι W root rv t' g2,
    (DerivationTree.NoVersionsOnlyBesideLeaf_mapH _ t').1 g3, fun σ hw hσ => ?_⟩
  have := g4 (fun p => (σ p).map Dense.ι) (Within_exists_push _ _ W σ hw) (by simp only [hσ]; rfl)
  rw [DerivationTree.terms_mapH] at this
  exact (TermsTrue_mapH _ σ t'.terms).1 this

theorem range_C12_choose_set_is_prioritized_set (W : World P (Range V) V M) (hW : W.RangesWF)
    (debug : Bool) (fuel : Nat) (root : P) (rv : V) (as : List (Answer P (Range V) V M Pr E))
    (hok : AnswersOK W debug fuel root rv as) (k : Nat) (p : P) (s : (Range V))
    (hk : (Solver.trace debug fuel root rv as)[k]? = some (.chooseVersion p s)) :
    ∃ pr, lastPrio (Solver.trace debug fuel root rv as) as k p = some (s, pr) := by
  have : Nonempty V := ⟨rv⟩
  have hW' := World.setsValid_mapH W hW
  obtain ⟨pr, hpr⟩ := choose_set_is_prioritized_set _ hW' debug fuel root _ _
    (answersOK_mapH _ _ Dense.back_ι W debug fuel root rv as hok) k p _
    (trace_mapH_getElem? _ debug fuel root rv as k _ hk)
  exact ⟨pr, lastPrio_trace_mapH_eq_some _ debug fuel root rv as k p s pr hpr⟩

theorem range_C14_pick_sees_all (W : World P (Range V) V M) (hW : W.RangesWF) (debug : Bool) (fuel : Nat)
    (root : P) (rv : V) (s : SolverState P (Range V) V M Pr) (q : List (P × Pr))
    (h : Reachable (E := E) W debug fuel root rv (s, .pick q))
    (p : P) (pa : PackageAssignments (Range V) V) (set : (Range V))
    (hp : s.st.ps.getPA p = some pa) (hpos : pa.inter = .derivations (.pos set)) :
    (SmallMap.get q p).isSome = true := by
  have : Nonempty V := ⟨rv⟩
  have hW' := World.setsValid_mapH W hW
  have h' := range_reachable_image W debug fuel root rv s _ h
  exact pick_sees_all _ hW' debug fuel root _ _ q h' p _ _
    (PartialSolution.getPA_mapH_some _ s.st.ps p pa hp) (PackageAssignments.inter_mapH_pos _ pa set hpos)

theorem range_C14_choose_is_maximal (W : World P (Range V) V M) (hW : W.RangesWF) (debug : Bool) (fuel : Nat)
    (root : P) (rv : V) (s : SolverState P (Range V) V M Pr) (q : List (P × Pr)) (p : P)
    (h : Reachable (E := E) W debug fuel root rv (s, .pick q))
    (set : (Range V)) (s' : SolverState P (Range V) V M Pr)
    (hstep : Solver.step (E := E) s (.picked (some p)) = (s', .chooseVersion p set)) :
    ∃ pr, SmallMap.get q p = some pr ∧
      ∀ p' pa' set', s.st.ps.getPA p' = some pa' → pa'.inter = .derivations (.pos set') →
        ∃ pr', SmallMap.get q p' = some pr' ∧ pr' ≤ pr := by
  have : Nonempty V := ⟨rv⟩
  have hW' := World.setsValid_mapH W hW
  have h' := range_reachable_image W debug fuel root rv s _ h
  have hstep' := step_mapH (E := E) Range.denseHom s (.picked (some p))
  rw [hstep] at hstep'
  obtain ⟨pr, hpr, hmax⟩ := choose_is_maximal _ hW' debug fuel root _ _ q p h' _ _ hstep'
  exact ⟨pr, hpr, fun p' pa' set' hp' hpos' => hmax p' _ _
    (PartialSolution.getPA_mapH_some _ s.st.ps p' pa' hp') (PackageAssignments.inter_mapH_pos _ pa' set' hpos')⟩

theorem range_C14_full (W : World P (Range V) V M) (hW : W.RangesWF) (debug : Bool)
    (fuel : Nat) (root : P) (rv : V) (as : List (Answer P (Range V) V M Pr E))
    (hok : AnswersOK W debug fuel root rv as) (k : Nat) (p : P) (s : (Range V))
    (hk : (Solver.trace debug fuel root rv as)[k + 1]? = some (.chooseVersion p s))
    (q : P) (pa : PackageAssignments (Range V) V) (setq : (Range V))
    (hq : (Solver.after (Solver.start debug fuel root rv) (as.take k)).1.st.ps.getPA q = some pa)
    (hpos : pa.inter = .derivations (.pos setq)) :
    ∃ prq prp, lastPrio (Solver.trace debug fuel root rv as) as k q = some (setq, prq) ∧
      (∃ sp, lastPrio (Solver.trace debug fuel root rv as) as k p = some (sp, prp)) ∧ prq ≤ prp := by
  have : Nonempty V := ⟨rv⟩
  have hW' := World.setsValid_mapH W hW
  obtain ⟨prq, prp, h1, ⟨sp', h2⟩, h3⟩ :=
    choose_has_maximal_last_priority _ hW' debug fuel root _ _
      (answersOK_mapH _ _ Dense.back_ι W debug fuel root rv as hok) k p _
      (trace_mapH_getElem? _ debug fuel root rv as (k + 1) _ hk) q _ _
      (getPA_after_take_mapH _ debug fuel root rv as k q pa hq) (PackageAssignments.inter_mapH_pos _ pa setq hpos)
  exact ⟨prq, prp, lastPrio_trace_mapH_eq_some _ debug fuel root rv as k q setq prq h1,
    (lastPrio_trace_mapH_eq_some' _ debug fuel root rv as k p sp' prp h2).imp fun _ h => h.2, h3⟩

theorem range_C05_ps_wf (W : World P (Range V) V M) (hW : W.RangesWF) (debug : Bool) (fuel : Nat)
    (root : P) (rv : V) (x : SolverState P (Range V) V M Pr × Request P (Range V) V M Pr E)
    (h : Reachable W debug fuel root rv x) (hph : x.2.isFinal = false) : x.1.st.ps.WF := by
  have : Nonempty V := ⟨rv⟩
  have hW' := World.setsValid_mapH W hW
  obtain ⟨s, req⟩ := x
  have h' := range_reachable_image W debug fuel root rv s req h
  exact PartialSolution.WF.pull _ s.st.ps
    (reachable_psWF _ hW' debug fuel root _ _ h' ((isFinal_mapH _ req).trans hph))

end Pubgrub
