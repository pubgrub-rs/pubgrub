/-
The run-level invariant `RInv'` for I-PS and I-Q and its preservation by `Solver.step`.
-/
import PubgrubProofs.Coherent
import PubgrubProofs.PSDeclined
import PubgrubProofs.StepCases

set_option linter.unusedSectionVars false

namespace Pubgrub
open VersionSet

variable {P S V M Pr E : Type} [DecidableEq P] [VersionSet S V] [DecidableEq S] [DecidableEq V]
  [LE Pr] [DecidableLE Pr] [LawfulVersionSet S V]

/-- what holds of the package popped from the queue until its fate is settled -/
def PartialSolution.InFlightOK (ps : PartialSolution P S V Pr) (p : P) : Prop :=
  ps.AllQ (some p) ∧ SmallMap.get ps.queue p = none ∧ ps.InflightPos p

/-- the run-level invariant for I-PS and I-Q -/
structure RInv' (x : SolverState P S V M Pr × Request P S V M Pr E) : Prop where
  live : x.1.phase ≠ .finished → PInv x.1.st ∧ x.1.st.ps.QInv x.1.inflight
  cancel : x.1.phase = .cancel → Pending x.1.st x.1.next
  prioritizing : ∀ cur rest acc, x.1.phase = .prioritizing cur rest acc →
    ∃ done, x.1.st.ps.toPrioritize = .ok (done ++ cur :: rest) ∧ done.map Prod.fst = acc.map Prod.fst
  picking : ∀ acc, x.1.phase = .picking acc →
    (∃ L, x.1.st.ps.toPrioritize = .ok L ∧ L.map Prod.fst = acc.map Prod.fst) ∧
    x.2 = .pick (x.1.st.ps.afterPrioritize acc).queue
  choosing : ∀ p t, x.1.phase = .choosing p t →
    x.1.next = p ∧ x.1.st.ps.termIntersectionForPackage p = some t ∧ x.1.st.ps.InFlightOK p
  fetching : ∀ p v, x.1.phase = .fetching p v →
    x.1.next = p ∧ x.1.st.ps.InFlightOK p ∧
    ∃ t, x.1.st.ps.termIntersectionForPackage p = some t ∧ t.contains v = true
  sol : ∀ sel, x.2 = .solution sel → x.1.st.ps.WF ∧
    (∀ p pa set, x.1.st.ps.getPA p = some pa → pa.inter ≠ .derivations (.pos set)) ∧
    x.1.st.ps.extractSolution = .ok sel

theorem SolverState.inflight_cancel {s : SolverState P S V M Pr} (h : s.phase = .cancel) :
    s.inflight = some s.next := by simp [SolverState.inflight, h]
theorem SolverState.inflight_choosing {s : SolverState P S V M Pr} {p : P} {t : Term S}
    (h : s.phase = .choosing p t) : s.inflight = some s.next := by simp [SolverState.inflight, h]
theorem SolverState.inflight_fetching {s : SolverState P S V M Pr} {p : P} {v : V}
    (h : s.phase = .fetching p v) : s.inflight = some s.next := by simp [SolverState.inflight, h]
theorem SolverState.inflight_prioritizing {s : SolverState P S V M Pr} {c : P × S} {r : List (P × S)}
    {a : List (P × Pr)} (h : s.phase = .prioritizing c r a) : s.inflight = none := by
  simp [SolverState.inflight, h]
theorem SolverState.inflight_picking {s : SolverState P S V M Pr} {a : List (P × Pr)}
    (h : s.phase = .picking a) : s.inflight = none := by simp [SolverState.inflight, h]

theorem rinv'_finish (s : SolverState P S V M Pr) (r : Request P S V M Pr E)
    (hr : ∀ sel, r = .solution sel → s.st.ps.WF ∧
      (∀ p pa set, s.st.ps.getPA p = some pa → pa.inter ≠ .derivations (.pos set)) ∧
      s.st.ps.extractSolution = .ok sel) : RInv' (Solver.finish s r) where
  live h := absurd rfl h
  cancel h := nomatch h
  prioritizing _ _ _ h := nomatch h
  picking _ h := nomatch h
  choosing _ _ h := nomatch h
  fetching _ _ h := nomatch h
  sol := hr

theorem rinv'_loopAgain (s : SolverState P S V M Pr) (st : State P S V M Pr)
    (h : PInv st) (hq : st.ps.QInv (some s.next)) (hp : Pending st s.next) :
    RInv' (E := E) (Solver.loopAgain s st) where
  live _ := ⟨h, hq⟩
  cancel _ := hp
  prioritizing _ _ _ h := nomatch h
  picking _ h := nomatch h
  choosing _ _ h := nomatch h
  fetching _ _ h := nomatch h
  sol _ h := nomatch h

theorem rinv'_prioritizing {s : SolverState P S V M Pr} {cur : P × S} {rest : List (P × S)}
    {acc : List (P × Pr)} (hph : s.phase = .prioritizing cur rest acc) (hp : PInv s.st)
    (hq : s.st.ps.QInv none)
    (hL : ∃ done, s.st.ps.toPrioritize = .ok (done ++ cur :: rest) ∧ done.map Prod.fst = acc.map Prod.fst) :
    RInv' (E := E) (s, .prioritize cur.1 cur.2) where
  live _ := ⟨hp, by rwa [SolverState.inflight_prioritizing hph]⟩
  cancel h := nomatch hph.symm.trans h
  prioritizing _ _ _ h := by cases hph.symm.trans h; exact hL
  picking _ h := nomatch hph.symm.trans h
  choosing _ _ h := nomatch hph.symm.trans h
  fetching _ _ h := nomatch hph.symm.trans h
  sol _ h := nomatch h

theorem rinv'_picking {s : SolverState P S V M Pr} {acc : List (P × Pr)} (hph : s.phase = .picking acc)
    (hp : PInv s.st) (hq : s.st.ps.QInv none)
    (hL : ∃ L, s.st.ps.toPrioritize = .ok L ∧ L.map Prod.fst = acc.map Prod.fst) :
    RInv' (E := E) (s, .pick (s.st.ps.afterPrioritize acc).queue) where
  live _ := ⟨hp, by rwa [SolverState.inflight_picking hph]⟩
  cancel h := nomatch hph.symm.trans h
  prioritizing _ _ _ h := nomatch hph.symm.trans h
  picking _ h := by cases hph.symm.trans h; exact ⟨hL, rfl⟩
  choosing _ _ h := nomatch hph.symm.trans h
  fetching _ _ h := nomatch hph.symm.trans h
  sol _ h := nomatch h

theorem rinv'_choosing {s : SolverState P S V M Pr} {p : P} {t : Term S} (hph : s.phase = .choosing p t)
    (hp : PInv s.st) (hn : s.next = p) (ht : s.st.ps.termIntersectionForPackage p = some t)
    (hfl : s.st.ps.InFlightOK p) (set : S) : RInv' (E := E) (s, .chooseVersion p set) where
  live _ := ⟨hp, by rw [SolverState.inflight_choosing hph, hn]; exact hfl.1.qInv⟩
  cancel h := nomatch hph.symm.trans h
  prioritizing _ _ _ h := nomatch hph.symm.trans h
  picking _ h := nomatch hph.symm.trans h
  choosing _ _ h := by cases hph.symm.trans h; exact ⟨hn, ht, hfl⟩
  fetching _ _ h := nomatch hph.symm.trans h
  sol _ h := nomatch h

theorem rinv'_fetching {s : SolverState P S V M Pr} {p : P} {v : V} (hph : s.phase = .fetching p v)
    (hp : PInv s.st) (hn : s.next = p) (hfl : s.st.ps.InFlightOK p)
    (ht : ∃ t, s.st.ps.termIntersectionForPackage p = some t ∧ t.contains v = true) :
    RInv' (E := E) (s, .getDependencies p v) where
  live _ := ⟨hp, by rw [SolverState.inflight_fetching hph, hn]; exact hfl.1.qInv⟩
  cancel h := nomatch hph.symm.trans h
  prioritizing _ _ _ h := nomatch hph.symm.trans h
  picking _ h := nomatch hph.symm.trans h
  choosing _ _ h := nomatch hph.symm.trans h
  fetching _ _ h := by cases hph.symm.trans h; exact ⟨hn, hfl, ht⟩
  sol _ h := nomatch h

theorem rinv'_start (debug : Bool) (fuel : Nat) (root : P) (rv : V) :
    RInv' (Solver.start (Pr := Pr) (E := E) (M := M) (S := S) debug fuel root rv) := by
  have hwf : (PartialSolution.empty : PartialSolution P S V Pr).WF' := by
    refine ⟨⟨Nat.le_refl _, Nat.le_refl _, List.nodup_nil, ?_, List.nodup_nil, ?_⟩, ?_⟩
    · intro i p pa h; simp [PartialSolution.empty] at h
    · intro p pr h; simp [PartialSolution.empty] at h
    · intro kv h; simp [PartialSolution.empty] at h
  refine rinv'_loopAgain ⟨State.init debug root rv, [], root, .cancel, fuel⟩ _ ⟨hwf, ?_⟩ ?_ (Or.inl ?_)
  · intro kv h; simp [State.init] at h
  · intro i p pa s h; simp [State.init, PartialSolution.empty] at h
  · intro i pa s h; simp [State.init, PartialSolution.empty] at h

theorem Incompat.noVersions_ok {p : P} {t : Term S} {inc : Incompat P S V M}
    (h : Incompat.noVersions (V := V) (M := M) p t = .ok inc) :
    inc.terms = [(p, t)] ∧ inc.asDependency = none := by
  unfold Incompat.noVersions at h
  split at h
  · injection h with h; subst h; exact ⟨rfl, rfl⟩
  · cases h

theorem decided_ok {st : State P S V M Pr} {p : P} {v : V} {t : Term S} {ps : PartialSolution P S V Pr}
    {debug : Bool} (hp : PInv st) (hfl : st.ps.InFlightOK p)
    (hterm : st.ps.termIntersectionForPackage p = some t) (hcont : t.contains v = true)
    (hps : st.ps.addDecision debug p v = .ok ps) :
    PInv { st with ps := ps } ∧ ps.QInv (some p) ∧ Pending { st with ps := ps } p := by
  obtain ⟨hall, hqn, pa, set, hpa, hinter⟩ := hfl
  have ht : t = .pos set := by
    simp only [PartialSolution.termIntersectionForPackage, hpa, Option.map_some, hinter, AssignInter.term] at hterm
    injection hterm with hterm; exact hterm.symm
  subst ht
  have hw' := PartialSolution.addDecision_wf' hp.wf hps hpa hinter hcont hqn
  have hall' := PartialSolution.addDecision_allQ hp.wf.wf hall hps hpa hinter
  exact ⟨⟨hw', hp.cache⟩, hall'.qInv.weaken _, Or.inl ((PartialSolution.qInv_none_iff _ p).1 hall'.qInv).2⟩

theorem rinv'_step (W : World P S V M) (hW : W.SetsValid) (root : P) (rv : V)
    (s : SolverState P S V M Pr) (req : Request P S V M Pr E) (a : Answer P S V M Pr E)
    (h0 : RInv W root rv (s, req)) (h : RInv' (s, req)) (ha : AnswerOK W req a) :
    RInv' (Solver.step s a) := by
  have hs : SInv W root rv s.st := h0.sinv
  have live : ∀ {ph}, s.phase = ph → ph ≠ .finished → PInv s.st ∧ s.st.ps.QInv s.inflight :=
    fun e hne => h.live (e ▸ hne)
  apply Solver.step_cases (motive := RInv') s a
  case stop => exact fun s' r _ hr => rinv'_finish s' r fun sel e => absurd e (hr sel)
  case propagated =>
    intro st L hph _ hu hL
    obtain ⟨hp, hq⟩ := live hph nofun
    rw [SolverState.inflight_cancel hph] at hq
    obtain ⟨hp1, hq1⟩ := State.unitPropagation_settle W root rv hu hs hp hq (h.cancel hph)
    cases L with
    | nil => exact rinv'_picking rfl hp1 (hq1 rfl) ⟨[], hL, rfl⟩
    | cons cur rest => exact rinv'_prioritizing rfl hp1 (hq1 rfl) ⟨[], hL, rfl⟩
  case prioritized =>
    intro cur rest acc pr hph _
    obtain ⟨hp, hq⟩ := live hph nofun
    rw [SolverState.inflight_prioritizing hph] at hq
    obtain ⟨done, hL, hdone⟩ := h.prioritizing _ _ _ hph
    cases rest with
    | nil => exact rinv'_picking rfl hp hq ⟨done ++ [cur], hL, by simp [hdone]⟩
    | cons nxt rest' =>
      exact rinv'_prioritizing rfl hp hq ⟨done ++ [cur], by simpa using hL, by simp [hdone]⟩
  case solved =>
    intro acc sel hph _ hempty hsel
    obtain ⟨hp, hq⟩ := live hph nofun
    rw [SolverState.inflight_picking hph] at hq
    obtain ⟨⟨L, hL, hLk⟩, -⟩ := h.picking _ hph
    have hw1 := PartialSolution.afterPrioritize_wf' hp.wf acc
      (fun q hq' => PartialSolution.toPrioritize_sound hp.wf.wf hL q (hLk ▸ hq'))
    have hall := PartialSolution.afterPrioritize_allQ hq hL acc hLk
    refine rinv'_finish _ _ fun sel' e => ?_
    cases e
    refine ⟨hw1.wf, fun p pa set hpa hinter => ?_, hsel⟩
    obtain ⟨i, _, hi⟩ := PartialSolution.getElem_of_getPA hpa
    have := hall i p pa set hi hinter (by simp)
    rw [List.isEmpty_iff.1 hempty] at this
    cases this
  case popped =>
    intro acc p t set hph _ hmax ht hset
    obtain ⟨hp, hq⟩ := live hph nofun
    rw [SolverState.inflight_picking hph] at hq
    obtain ⟨⟨L, hL, hLk⟩, -⟩ := h.picking _ hph
    have hw1 := PartialSolution.afterPrioritize_wf' hp.wf acc
      (fun q hq' => PartialSolution.toPrioritize_sound hp.wf.wf hL q (hLk ▸ hq'))
    have hall2 := PartialSolution.queueRemove_allQ (PartialSolution.afterPrioritize_allQ hq hL acc hLk) p
    obtain ⟨pr, hpr, -⟩ := isMaximal_spec hmax
    obtain ⟨pa, set', hpa, hinter⟩ := hw1.wf.queue_sub p pr (SmallMap.mem_of_get hpr)
    refine rinv'_choosing (p := p) (t := t) ?_ ?_ ?_ ?_ ⟨?_, ?_, ?_⟩ set
    · rfl
    · exact ⟨PartialSolution.queueRemove_wf' hw1 p, hp.cache⟩
    · rfl
    · exact ht
    · exact hall2
    rotate_left
    · exact ⟨pa, set', hpa, hinter⟩
    show SmallMap.get (SmallMap.remove (s.st.ps.afterPrioritize acc).queue p) p = none
    rw [SmallMap.get_remove _ hw1.wf.queue_keys, if_pos rfl]
  case noVersion =>
    intro p t inc st hph _ hinc hadd
    obtain ⟨hp, -⟩ := live hph nofun
    obtain ⟨hnext, hterm, hall, hqn, hpos⟩ := h.choosing p t hph
    obtain ⟨htv, -⟩ := h0.choosing p t hph
    obtain ⟨hterms, hdep⟩ := Incompat.noVersions_ok hinc
    obtain ⟨hp1, eps⟩ := State.addIncompatibility_pinv hadd hp
    refine rinv'_loopAgain s st hp1 ?_ ?_
    · rw [eps, hnext]; exact hall.qInv
    · rw [hnext]
      refine State.pending_single hterms hdep hadd hp hpos hterm ?_
      rw [Term.relationWith_self t htv]; nofun
  case fetch =>
    intro p t v hph _ hcont _
    obtain ⟨hp, -⟩ := live hph nofun
    obtain ⟨hnext, hterm, hfl⟩ := h.choosing p t hph
    exact rinv'_fetching rfl hp hnext hfl ⟨t, hterm, hcont⟩
  case redecided =>
    intro p t v ps hph _ hcont _ hps
    obtain ⟨hp, -⟩ := live hph nofun
    obtain ⟨hnext, hterm, hfl⟩ := h.choosing p t hph
    obtain ⟨h1, h2, h3⟩ := decided_ok hp hfl hterm hcont hps
    exact rinv'_loopAgain _ _ h1 (hnext ▸ h2) (hnext ▸ h3)
  case unavailable =>
    intro p v m st hph _ hadd
    obtain ⟨hp, -⟩ := live hph nofun
    obtain ⟨hnext, ⟨hall, hqn, hpos⟩, t, hterm, hcont⟩ := h.fetching p v hph
    obtain ⟨hp1, eps⟩ := State.addIncompatibility_pinv hadd hp
    refine rinv'_loopAgain s st hp1 ?_ ?_
    · rw [eps, hnext]; exact hall.qInv
    · rw [hnext]
      refine State.pending_single (tp := Term.pos (VersionSet.singleton v)) rfl rfl hadd hp hpos
        hterm ?_
      refine Term.relationWith_ne_contradicted_of_common _ _ v (LawfulVersionSet.valid_singleton v)
        (PartialSolution.termIntersection_valid hs.ps hterm) ?_ hcont
      simp [Term.contains, (LawfulVersionSet.contains_singleton (S := S) v v).2 rfl]
  case available =>
    intro p v deps st start stop ps hph hav hadd hps
    obtain ⟨hp, -⟩ := live hph nofun
    obtain ⟨hnext, hfl, t, hterm, hcont⟩ := h.fetching p v hph
    have hreq : req = .getDependencies p v := h0.fetching p v hph
    subst hreq hav
    obtain ⟨hp1, eps⟩ := State.addIncompatibilityFromDependencies_pinv hadd hp
    have hfl1 : st.ps.InFlightOK p := eps ▸ hfl
    have hterm1 : st.ps.termIntersectionForPackage p = some t := eps ▸ hterm
    rcases PartialSolution.addVersion_spec hps with hps | ⟨rfl, -, hdecl⟩
    · obtain ⟨h1, h2, h3⟩ := decided_ok hp1 hfl1 hterm1 hcont hps
      exact rinv'_loopAgain _ _ h1 (hnext ▸ h2) (hnext ▸ h3)
    · exact rinv'_loopAgain _ _ hp1 (hnext ▸ hfl1.1.qInv)
        (hnext ▸ State.pending_declined W hW root rv hs hp hadd ha hfl.2.2 hterm hcont hdecl)

end Pubgrub
