/-
Property C17 and the link that makes every theorem stated for a `LawfulVersionSet` apply to the two
concrete implementations of the model:

1. `Range V` over a non-empty dense linear order without end points is a `LawfulVersionSet`
   (`Range.lawful`), with `Valid := Range.WF`; over any linear order it satisfies the weaker
   `LawfulVersionSetStructural` (`Range.lawfulStructural`), and the pointwise characterisations of
   `is_disjoint` / `subset_of` are false over `Nat` (`Range.isDisjoint_iff_needs_dense`,
   `Range.subsetOf_iff_needs_dense`).
2. `C17_*`: for any implementation of the five required methods satisfying `LawfulRequired`, the
   provided bodies of `full`, `union`, `is_disjoint`, `subset_of` are correct.
3. `BitSet n` with versions `Fin n`, which writes only the five required methods, is a
   `LawfulRequired` (`BitSet.lawfulRequired`) hence a `LawfulVersionSet` (`BitSet.lawful`).
-/
import PubgrubProofs.RangeSet
import PubgrubProofs.RangeRel
import PubgrubProofs.TermLaws

set_option linter.unusedSectionVars false

namespace Pubgrub
open VersionSet

/-! ### 1. `Range` -/

section Structural

/-- The laws that hold for `Range` over *any* linear order: identical to `LawfulVersionSet` except
that `is_disjoint` and `subset_of` are characterised structurally (through the canonical result of
`intersection`) rather than pointwise. -/
class LawfulVersionSetStructural (S V : Type) [VersionSet S V] where
  Valid : S → Prop
  valid_empty : Valid (empty : S)
  valid_singleton : ∀ v : V, Valid (singleton v : S)
  valid_complement : ∀ s : S, Valid s → Valid (complement s)
  valid_intersection : ∀ a b : S, Valid a → Valid b → Valid (intersection a b)
  valid_full : Valid (full : S)
  valid_union : ∀ a b : S, Valid a → Valid b → Valid (union a b)
  contains_empty : ∀ v : V, contains (empty : S) v = false
  contains_singleton : ∀ v w : V, contains (singleton v : S) w = true ↔ w = v
  contains_complement : ∀ (s : S) (v : V), Valid s → contains (complement s) v = !contains s v
  contains_intersection : ∀ (a b : S) (v : V), Valid a → Valid b →
    contains (intersection a b) v = (contains a v && contains b v)
  contains_full : ∀ v : V, contains (full : S) v = true
  contains_union : ∀ (a b : S) (v : V), Valid a → Valid b →
    contains (union a b) v = (contains a v || contains b v)
  isDisjoint_iff_inter : ∀ a b : S, Valid a → Valid b →
    (isDisjoint a b = true ↔ intersection a b = (empty : S))
  subsetOf_iff_inter : ∀ a b : S, Valid a → Valid b →
    (subsetOf a b = true ↔ intersection a b = a)

end Structural

namespace Range
open Bound
variable {V : Type} [LinearOrder V]

/-- `Range` over any linear order: all membership laws, and the dedicated `is_disjoint` /
`subset_of` sweeps agree with the `intersection` sweep. -/
instance lawfulStructural : LawfulVersionSetStructural (Range V) V where
  Valid := Range.WF
  valid_empty := wf_empty
  valid_singleton := wf_singleton
  valid_complement := wf_complement
  valid_intersection := wf_intersection
  valid_full := wf_full
  valid_union := wf_union
  contains_empty := contains_empty
  contains_singleton := contains_singleton
  contains_complement := fun s v hs => contains_complement s hs v
  contains_intersection := fun a b v ha hb => contains_intersection a b ha hb v
  contains_full := contains_full
  contains_union := fun a b v ha hb => contains_union a b ha hb v
  isDisjoint_iff_inter := fun a b ha hb => isDisjoint_iff_inter_empty a b ha hb
  subsetOf_iff_inter := fun a b ha hb => subsetOf_iff_inter_eq a b ha hb

theorem isDisjoint_sound (a b : Range V) (ha : WF a) (hb : WF b)
    (h : Range.isDisjoint a b = true) (v : V) :
    ¬ (Range.contains a v = true ∧ Range.contains b v = true) := by
  rw [isDisjoint_iff_inter_empty a b ha hb] at h
  intro hv
  have := contains_intersection a b ha hb v
  rw [h, hv.1, hv.2] at this
  simp [Range.contains] at this

theorem subsetOf_sound (a b : Range V) (ha : WF a) (hb : WF b)
    (h : Range.subsetOf a b = true) (v : V) (hv : Range.contains a v = true) :
    Range.contains b v = true := by
  rw [subsetOf_iff_inter_eq a b ha hb] at h
  have := contains_intersection a b ha hb v
  rw [h, hv] at this
  simpa using this.symm

theorem contains_eq_iff_mem (a b : Range V) :
    (∀ v, Range.contains a v = Range.contains b v) ↔ ∀ v, Range.Mem v a ↔ Range.Mem v b := by
  constructor
  · intro h v
    rw [← contains_iff_mem, ← contains_iff_mem, h v]
  · intro h v
    rw [Bool.eq_iff_iff, contains_iff_mem, contains_iff_mem]
    exact h v

section Dense
variable [DenselyOrdered V] [NoMinOrder V] [NoMaxOrder V] [Nonempty V]

theorem ext_valid {a b : Range V} (ha : WF a) (hb : WF b)
    (h : ∀ v, Range.contains a v = Range.contains b v) : a = b :=
  ext_of_dense a b ha hb ((contains_eq_iff_mem a b).1 h)

theorem isDisjoint_iff_pointwise (a b : Range V) (ha : WF a) (hb : WF b) :
    Range.isDisjoint a b = true ↔
      ∀ v, ¬ (Range.contains a v = true ∧ Range.contains b v = true) := by
  constructor
  · exact isDisjoint_sound a b ha hb
  · intro h
    rw [isDisjoint_iff_inter_empty a b ha hb]
    by_contra hne
    obtain ⟨v, hv⟩ := exists_mem_of_ne_nil _ (wf_intersection a b ha hb) hne
    have hc := (contains_iff_mem _ v).2 hv
    rw [contains_intersection a b ha hb v, Bool.and_eq_true] at hc
    exact h v hc

theorem subsetOf_iff_pointwise (a b : Range V) (ha : WF a) (hb : WF b) :
    Range.subsetOf a b = true ↔
      ∀ v, Range.contains a v = true → Range.contains b v = true := by
  constructor
  · exact subsetOf_sound a b ha hb
  · intro h
    rw [subsetOf_iff_inter_eq a b ha hb]
    apply ext_valid (wf_intersection a b ha hb) ha
    intro v
    rw [contains_intersection a b ha hb v]
    cases hav : Range.contains a v
    · simp
    · simp [h v hav]

/-- **`Range` is a lawful version set** over a non-empty dense linear order without end points,
on the canonical segment lists. -/
instance lawful : LawfulVersionSet (Range V) V where
  Valid := Range.WF
  valid_empty := wf_empty
  valid_singleton := wf_singleton
  valid_complement := wf_complement
  valid_intersection := wf_intersection
  valid_full := wf_full
  valid_union := wf_union
  contains_empty := contains_empty
  contains_singleton := contains_singleton
  contains_complement := fun s v hs => contains_complement s hs v
  contains_intersection := fun a b v ha hb => contains_intersection a b ha hb v
  contains_full := contains_full
  contains_union := fun a b v ha hb => contains_union a b ha hb v
  isDisjoint_iff := isDisjoint_iff_pointwise
  subsetOf_iff := subsetOf_iff_pointwise

theorem lawful_valid_iff (r : Range V) : LawfulVersionSet.Valid V r ↔ Range.WF r := Iff.rfl

/-- `Range` also satisfies the required-methods class (canonical equality included) -/
instance lawfulRequired : LawfulRequired (Range V) V where
  Valid := Range.WF
  valid_empty := wf_empty
  valid_singleton := wf_singleton
  valid_complement := wf_complement
  valid_intersection := wf_intersection
  contains_empty := contains_empty
  contains_singleton := contains_singleton
  contains_complement := fun s v hs => contains_complement s hs v
  contains_intersection := fun a b v ha hb => contains_intersection a b ha hb v
  ext := fun _ _ ha hb h => ext_valid ha hb h

end Dense

/-! Density is genuinely needed for the pointwise characterisations: over `Nat` the canonical
range `(excl 1, excl 2)` is a non-empty segment list without points. -/

theorem wf_open_1_2 : WF ([(excl 1, excl 2)] : Range Nat) := by
  simp [WF, checkInvariants, validSegment]

theorem not_contains_open_1_2 (v : Nat) : ¬ Range.contains ([(excl 1, excl 2)] : Range Nat) v = true := by
  intro hv
  have := (contains_iff_mem _ v).1 hv
  simp [Range.Mem, Seg.Mem, Bound.aboveStart, Bound.belowEnd] at this
  omega

theorem isDisjoint_iff_needs_dense :
    ¬ (∀ a b : Range Nat, WF a → WF b →
        (Range.isDisjoint a b = true ↔
          ∀ v, ¬ (Range.contains a v = true ∧ Range.contains b v = true))) := by
  intro h
  have h1 := (h _ _ wf_open_1_2 wf_open_1_2).2 fun v hv => not_contains_open_1_2 v hv.1
  rw [isDisjoint_iff_inter_empty _ _ wf_open_1_2 wf_open_1_2] at h1
  simp [Range.intersection, Range.interStart, validSegment, leftEndIsSmaller] at h1

theorem subsetOf_iff_needs_dense :
    ¬ (∀ a b : Range Nat, WF a → WF b →
        (Range.subsetOf a b = true ↔
          ∀ v, Range.contains a v = true → Range.contains b v = true)) := by
  intro h
  have h1 := (h _ [] wf_open_1_2 wf_empty).2 fun v hv => absurd hv (not_contains_open_1_2 v)
  have h2 := (subsetOf_iff_inter_eq _ _ wf_open_1_2 wf_empty).1 h1
  simp [Range.intersection, Range.empty] at h2

end Range

/-! ### 2. C17, generic form: the provided methods of the trait -/

section C17
variable {S V : Type} [DecidableEq S]
variable (empty : S) (singleton : V → S) (complement : S → S) (intersection : S → S → S)
  (contains : S → V → Bool)
  (R : @LawfulRequired S V (VersionSet.ofRequired empty singleton complement intersection contains))
include R

theorem C17_full (v : V) :
    contains (VersionSet.Default.full empty complement) v = true :=
  (lawful_ofRequired empty singleton complement intersection contains R).contains_full v

theorem C17_full_valid : R.Valid (VersionSet.Default.full empty complement) :=
  (lawful_ofRequired empty singleton complement intersection contains R).valid_full

theorem C17_union (a b : S) (ha : R.Valid a) (hb : R.Valid b) (v : V) :
    contains (VersionSet.Default.union complement intersection a b) v =
      (contains a v || contains b v) :=
  (lawful_ofRequired empty singleton complement intersection contains R).contains_union a b v ha hb

theorem C17_union_valid (a b : S) (ha : R.Valid a) (hb : R.Valid b) :
    R.Valid (VersionSet.Default.union complement intersection a b) :=
  (lawful_ofRequired empty singleton complement intersection contains R).valid_union a b ha hb

theorem C17_isDisjoint (a b : S) (ha : R.Valid a) (hb : R.Valid b) :
    VersionSet.Default.isDisjoint empty intersection a b = true ↔
      ∀ v : V, ¬ (contains a v = true ∧ contains b v = true) :=
  (lawful_ofRequired empty singleton complement intersection contains R).isDisjoint_iff a b ha hb

theorem C17_subsetOf (a b : S) (ha : R.Valid a) (hb : R.Valid b) :
    VersionSet.Default.subsetOf intersection a b = true ↔
      ∀ v : V, contains a v = true → contains b v = true :=
  (lawful_ofRequired empty singleton complement intersection contains R).subsetOf_iff a b ha hb

/-- **C17**: a custom implementation that writes only the five required methods, lawfully and
with canonical equality, gets correct `full`, `union`, `is_disjoint`, `subset_of`. -/
theorem C17_provided_methods :
    (∀ v : V, contains (VersionSet.Default.full empty complement) v = true) ∧
    (∀ a b : S, R.Valid a → R.Valid b → ∀ v : V,
      contains (VersionSet.Default.union complement intersection a b) v =
        (contains a v || contains b v)) ∧
    (∀ a b : S, R.Valid a → R.Valid b →
      (VersionSet.Default.isDisjoint empty intersection a b = true ↔
        ∀ v : V, ¬ (contains a v = true ∧ contains b v = true))) ∧
    (∀ a b : S, R.Valid a → R.Valid b →
      (VersionSet.Default.subsetOf intersection a b = true ↔
        ∀ v : V, contains a v = true → contains b v = true)) :=
  ⟨C17_full empty singleton complement intersection contains R,
   fun a b ha hb v => C17_union empty singleton complement intersection contains R a b ha hb v,
   C17_isDisjoint empty singleton complement intersection contains R,
   C17_subsetOf empty singleton complement intersection contains R⟩

end C17

/-! ### 3. `BitSet n` over the versions `Fin n` -/

namespace BitSet
variable {n : Nat}

/-- the bit set as a version set over its own universe `Fin n`, writing only the five required
methods (all four provided methods are the trait's default bodies) -/
@[reducible] def instVersionSetBitSetFin (n : Nat) : VersionSet (BitSet n) (Fin n) :=
  VersionSet.ofRequired BitSet.empty (fun v => BitSet.singleton v.val) BitSet.complement
    BitSet.intersection (fun s v => s.contains v.val)

attribute [local instance] instVersionSetBitSetFin

/-- validity: the list has exactly `n` bits -/
def Valid (s : BitSet n) : Prop := s.bits.length = n

theorem valid_empty : Valid (BitSet.empty : BitSet n) := by
  simp [Valid, BitSet.empty]
theorem valid_singleton (v : Nat) : Valid (BitSet.singleton v : BitSet n) := by
  simp [Valid, BitSet.singleton]
theorem valid_complement (s : BitSet n) (h : Valid s) : Valid (BitSet.complement s) := by
  simpa [Valid, BitSet.complement] using h
theorem valid_intersection (a b : BitSet n) (ha : Valid a) (hb : Valid b) :
    Valid (BitSet.intersection a b) := by
  simp only [Valid] at ha hb
  simp [Valid, BitSet.intersection, ha, hb]

theorem contains_empty (v : Nat) : (BitSet.empty : BitSet n).contains v = false := by
  simp only [BitSet.empty, BitSet.contains, List.getD_eq_getElem?_getD, List.getElem?_replicate]
  split <;> rfl

theorem contains_singleton (v w : Nat) (hw : w < n) :
    (BitSet.singleton v : BitSet n).contains w = true ↔ w = v := by
  simp [BitSet.singleton, BitSet.contains, List.getD_eq_getElem?_getD, hw]

/-- the five required methods are lawful, with canonical equality -/
@[reducible] def lawfulRequired (n : Nat) : LawfulRequired (BitSet n) (Fin n) where
  Valid := Valid
  valid_empty := valid_empty
  valid_singleton := fun v => valid_singleton v.val
  valid_complement := valid_complement
  valid_intersection := valid_intersection
  contains_empty := fun v => contains_empty v.val
  contains_singleton := fun v w => by
    show (BitSet.singleton v.val : BitSet n).contains w.val = true ↔ w = v
    rw [contains_singleton v.val w.val w.isLt, Fin.ext_iff]
  contains_complement := fun s v hs => BitSet.contains_complement s hs v.val v.isLt
  contains_intersection := fun a b v ha hb => BitSet.contains_intersection a b ha hb v.val
  ext := fun a b ha hb h => BitSet.ext a b ha hb fun v hv => h ⟨v, hv⟩

/-- **C17 for the bit set**: hence all nine methods are lawful -/
@[reducible] def lawful (n : Nat) : LawfulVersionSet (BitSet n) (Fin n) :=
  lawful_ofRequired _ _ _ _ _ (lawfulRequired n)

attribute [local instance] lawful

theorem lawful_valid_iff (s : BitSet n) :
    LawfulVersionSet.Valid (Fin n) s ↔ s.bits.length = n := Iff.rfl

theorem full_spec (v : Fin n) :
    (VersionSet.full : BitSet n).bits.length = n ∧
      VersionSet.contains (VersionSet.full : BitSet n) v = true :=
  ⟨(lawful n).valid_full, (lawful n).contains_full v⟩

theorem union_spec (a b : BitSet n) (ha : a.bits.length = n) (hb : b.bits.length = n)
    (v : Fin n) :
    (VersionSet.union a b).bits.length = n ∧
      VersionSet.contains (VersionSet.union a b) v =
        (VersionSet.contains a v || VersionSet.contains b v) :=
  ⟨(lawful n).valid_union a b ha hb, (lawful n).contains_union a b v ha hb⟩

theorem isDisjoint_spec (a b : BitSet n) (ha : a.bits.length = n) (hb : b.bits.length = n) :
    VersionSet.isDisjoint a b = true ↔
      ∀ v : Fin n, ¬ (VersionSet.contains a v = true ∧ VersionSet.contains b v = true) :=
  (lawful n).isDisjoint_iff a b ha hb

theorem subsetOf_spec (a b : BitSet n) (ha : a.bits.length = n) (hb : b.bits.length = n) :
    VersionSet.subsetOf a b = true ↔
      ∀ v : Fin n, VersionSet.contains a v = true → VersionSet.contains b v = true :=
  (lawful n).subsetOf_iff a b ha hb

/-- the same four statements with the model's functions spelled out (no instance in sight) -/
theorem provided_spec_unfolded (a b : BitSet n) (ha : a.bits.length = n) (hb : b.bits.length = n) :
    (∀ v : Fin n, (BitSet.complement (BitSet.empty : BitSet n)).contains v.val = true) ∧
    (∀ v : Fin n,
      (BitSet.complement (BitSet.intersection (BitSet.complement a) (BitSet.complement b))).contains
        v.val = (a.contains v.val || b.contains v.val)) ∧
    ((BitSet.intersection a b == BitSet.empty) = true ↔
      ∀ v : Fin n, ¬ (a.contains v.val = true ∧ b.contains v.val = true)) ∧
    ((a == BitSet.intersection a b) = true ↔
      ∀ v : Fin n, a.contains v.val = true → b.contains v.val = true) :=
  ⟨fun v => (full_spec v).2, fun v => (union_spec a b ha hb v).2, isDisjoint_spec a b ha hb,
   subsetOf_spec a b ha hb⟩

/-- non-vacuity: a concrete run of the four provided methods over `Fin 3` -/
example :
    let a : BitSet 3 := ⟨[true, false, false]⟩
    let b : BitSet 3 := ⟨[false, true, false]⟩
    (VersionSet.full : BitSet 3) = ⟨[true, true, true]⟩ ∧
    VersionSet.union a b = ⟨[true, true, false]⟩ ∧
    VersionSet.isDisjoint a b = true ∧
    VersionSet.subsetOf a (VersionSet.union a b) = true ∧
    VersionSet.subsetOf (VersionSet.union a b) a = false := by
  decide

end BitSet

end Pubgrub
