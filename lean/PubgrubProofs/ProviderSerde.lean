/-
Property C19, last clause: serialising an `OfflineDependencyProvider` to JSON and deserialising it
back yields an equivalent value (same packages, versions and dependencies).

`OfflineDependencyProvider` (`/repo/src/solver.rs`) is `#[serde(transparent)]` over
`dependencies: Map<P, BTreeMap<V, DependencyConstraints<P, VS>>>`: three nested maps.  serde writes
a map as a JSON object, one field per entry (`serde_json` prints integer keys as decimal strings);
it reads a map by inserting every field in turn (`HashMap`/`BTreeMap::insert`: a repeated key
replaces the earlier value).

* `encMap` / `decMap` : one map level (the fields in iteration order / the list of decoded fields);
* `toNested`          : the three-level view of the flat model store
                        (`packages`, `versionsOf`, `getDependencies`);
* `encProvider`       : `encMap` at the three levels;
* `decProvider`       : `decMap` at the three levels, the outer `HashMap` built by `insert`
                        (a repeated package key replaces the whole inner map), then the store rebuilt
                        by one `addDependencies` per (package, version) entry (which replaces on a
                        repeated version key and collapses repeated dependency keys, last wins).
-/
import PubgrubModel.Serde
import PubgrubProofs.OfflineLaws
import PubgrubProofs.SerdeLaws
import Std.Data.String.ToNat

namespace Pubgrub
namespace Serde

section MapLevel
variable {K T : Type}

/-- `Serialize for Map<K, T>`: an object with one field per entry -/
def encMap (keyK : K → String) (encT : T → Json) (m : List (K × T)) : Json :=
  .obj (m.map fun e => (keyK e.1, encT e.2))

/-- one field of a map -/
def decField (readK : String → Option K) (decT : Json → Option T) (f : String × Json) :
    Option (K × T) :=
  match readK f.1, decT f.2 with
  | some k, some t => some (k, t)
  | _, _ => none

/-- `Deserialize for Map<K, T>`, first half: the decoded fields, in order (the caller inserts them) -/
def decMap (readK : String → Option K) (decT : Json → Option T) : Json → Option (List (K × T))
  | .obj fields => fields.mapM (decField readK decT)
  | _ => none

theorem decMap_encMap (keyK : K → String) (readK : String → Option K)
    (encT : T → Json) (decT : Json → Option T)
    (hK : ∀ k, readK (keyK k) = some k) (m : List (K × T))
    (hT : ∀ e ∈ m, decT (encT e.2) = some e.2) :
    decMap readK decT (encMap keyK encT m) = some m := by
  unfold decMap encMap
  simp only
  induction m with
  | nil => simp
  | cons e t ih =>
    have h1 := hT e List.mem_cons_self
    have h2 := ih (fun e' he' => hT e' (List.mem_cons_of_mem _ he'))
    simp [decField, hK, h1, h2]

end MapLevel

end Serde

namespace Offline

namespace Aux
variable {K T : Type} [DecidableEq K]

theorem insert_of_not_mem (m : SmallMap K T) (k : K) (v : T) (h : k ∉ m.map Prod.fst) :
    SmallMap.insert m k v = m ++ [(k, v)] := by
  induction m with
  | nil => rfl
  | cons x m ih =>
    obtain ⟨a, b⟩ := x
    simp only [List.map_cons, List.mem_cons, not_or] at h
    simp [SmallMap.insert, h.1, ih h.2]

variable {α : Type}

theorem foldl_insert_eq_append (f : α → K) (g : α → T) (l : List α) (m0 : SmallMap K T)
    (h : (m0.map Prod.fst ++ l.map f).Nodup) :
    l.foldl (fun m a => SmallMap.insert m (f a) (g a)) m0 = m0 ++ l.map (fun a => (f a, g a)) := by
  induction l generalizing m0 with
  | nil => simp
  | cons x l ih =>
    have hx : f x ∉ m0.map Prod.fst := by
      intro hm
      rw [List.nodup_append] at h
      exact h.2.2 _ hm _ (by simp) rfl
    rw [List.foldl_cons, insert_of_not_mem _ _ _ hx, ih]
    · simp
    · simpa [List.append_assoc] using h

theorem foldl_insert_eq_self (l : List (K × T)) (h : (l.map Prod.fst).Nodup) :
    l.foldl (fun m e => SmallMap.insert m e.1 e.2) [] = l := by
  rw [foldl_insert_eq_append (fun e : K × T => e.1) (fun e => e.2) l [] (by simpa using h)]
  simp

end Aux

section Store
variable {P S V : Type} [DecidableEq P] [DecidableEq V]

theorem collectDeps_eq_self (ds : List (P × S)) (h : (ds.map Prod.fst).Nodup) :
    collectDeps ds = ds :=
  Aux.foldl_insert_eq_self ds h

/-- the representation invariant of a provider: distinct `(package, version)` keys, and distinct
package keys in every dependency map -/
def WF (o : Offline P S V) : Prop :=
  (o.map Prod.fst).Nodup ∧ ∀ e ∈ o, (e.2.map Prod.fst).Nodup

theorem run_wf (ops : List (AddOp P S V)) : WF (run ops) := by
  refine ⟨run_nodupKeys ops, ?_⟩
  rintro ⟨⟨p, v⟩, ds⟩ he
  have hg : getDependencies (run ops) p v = some ds :=
    (AssocList.get_eq_some_iff_mem _ (run_nodupKeys ops) (p, v) ds).mpr he
  rw [getDependencies_run] at hg
  cases hf : List.find? (fun op => decide (op.p = p ∧ op.v = v)) ops.reverse with
  | none => rw [hf] at hg; simp at hg
  | some op =>
    rw [hf] at hg
    simp only [Option.map_some, Option.some.injEq] at hg
    subst hg
    exact collectDeps_nodup op.deps

/-- `Map<P, BTreeMap<V, Map<P, S>>>` -/
abbrev Nested (P S V : Type) := List (P × List (V × List (P × S)))

/-- the nested maps of a store: what `Serialize` iterates -/
def toNested (o : Offline P S V) : Nested P S V :=
  (packages o).map fun p =>
    (p, (versionsOf o p).map fun v => (v, (getDependencies o p v).getD []))

/-- rebuild a store from nested maps: one `addDependencies` per (package, version) entry -/
def ofNested (n : Nested P S V) : Offline P S V :=
  n.foldl (fun o e => e.2.foldl (fun o f => addDependencies o e.1 f.1 f.2) o) Offline.empty

/-- the entries of the nested view, flattened -/
def flatten (n : Nested P S V) : List ((P × V) × List (P × S)) :=
  n.flatMap fun e => e.2.map fun f => ((e.1, f.1), f.2)

theorem ofNested_eq_foldl (n : Nested P S V) :
    ofNested n = (flatten n).foldl (fun (m : SmallMap (P × V) (List (P × S))) x =>
      SmallMap.insert m x.1 (collectDeps x.2)) [] := by
  unfold ofNested flatten
  rw [List.foldl_flatMap]
  simp only [List.foldl_map]
  rfl

theorem flatten_toNested (o : Offline P S V) :
    flatten (toNested o) = (packages o).flatMap fun p =>
      (versionsOf o p).map fun v => ((p, v), (getDependencies o p v).getD []) := by
  unfold flatten toNested
  simp [List.flatMap_map, Function.comp_def]

theorem mem_flatten_toNested (o : Offline P S V) (h : (o.map Prod.fst).Nodup)
    (x : (P × V) × List (P × S)) : x ∈ flatten (toNested o) ↔ x ∈ o := by
  obtain ⟨⟨p, v⟩, ds⟩ := x
  rw [flatten_toNested]
  simp only [List.mem_flatMap, List.mem_map, Prod.mk.injEq]
  constructor
  · rintro ⟨p', -, v', hv, ⟨rfl, rfl⟩, rfl⟩
    rw [mem_versionsOf_iff, List.mem_map] at hv
    obtain ⟨⟨k, ds⟩, he, hk⟩ := hv
    simp only at hk
    subst hk
    have := (AssocList.get_eq_some_iff_mem o h _ ds).mpr he
    unfold getDependencies
    rw [this]
    exact he
  · intro he
    have hk : (p, v) ∈ o.map Prod.fst := List.mem_map.mpr ⟨_, he, rfl⟩
    refine ⟨p, (mem_packages_iff o p).mpr ⟨v, hk⟩, v, (mem_versionsOf_iff o p v).mpr hk,
      ⟨rfl, rfl⟩, ?_⟩
    have := (AssocList.get_eq_some_iff_mem o h _ ds).mpr he
    unfold getDependencies
    rw [this]
    rfl

theorem keys_flatten_toNested (o : Offline P S V) :
    (flatten (toNested o)).map Prod.fst =
      (packages o).flatMap fun p => (versionsOf o p).map fun v => (p, v) := by
  rw [flatten_toNested, List.map_flatMap]
  simp [Function.comp_def]

theorem nodup_keys_flatten_toNested (o : Offline P S V) (h : (o.map Prod.fst).Nodup) :
    ((flatten (toNested o)).map Prod.fst).Nodup := by
  rw [keys_flatten_toNested]
  unfold List.Nodup
  rw [List.pairwise_flatMap]
  constructor
  · intro p _
    have := versionsOf_nodup_of o h p
    exact (List.Pairwise.map _ (fun a b hab => by simpa using hab) this)
  · refine (packages_nodup_of o).imp ?_
    intro p q hpq x hx y hy
    simp only [List.mem_map] at hx hy
    obtain ⟨_, _, rfl⟩ := hx
    obtain ⟨_, _, rfl⟩ := hy
    intro e
    exact hpq (Prod.mk.inj e).1

theorem ofNested_toNested (o : Offline P S V) (h : WF o) :
    ofNested (toNested o) = flatten (toNested o) := by
  rw [ofNested_eq_foldl,
    Aux.foldl_insert_eq_append (fun x : (P × V) × List (P × S) => x.1)
      (fun x => collectDeps x.2) _ [] (by simpa using nodup_keys_flatten_toNested o h.1)]
  rw [List.nil_append]
  conv => rhs; rw [← List.map_id (flatten (toNested o))]
  apply List.map_congr_left
  intro x hx
  have hx' := (mem_flatten_toNested o h.1 x).mp hx
  rw [collectDeps_eq_self _ (h.2 x hx')]
  rfl

theorem ofNested_toNested_perm (o : Offline P S V) (h : WF o) :
    (ofNested (toNested o)).Perm o := by
  rw [ofNested_toNested o h]
  have h1 : (flatten (toNested o)).Nodup :=
    List.Pairwise.of_map Prod.fst (fun a b hab e => hab (by rw [e]))
      (nodup_keys_flatten_toNested o h.1)
  have h2 : o.Nodup := List.Pairwise.of_map Prod.fst (fun a b hab e => hab (by rw [e])) h.1
  exact (List.perm_ext_iff_of_nodup h1 h2).mpr (mem_flatten_toNested o h.1)

theorem getDependencies_ofNested_toNested (o : Offline P S V) (h : WF o) (p : P) (v : V) :
    getDependencies (ofNested (toNested o)) p v = getDependencies o p v := by
  rw [ofNested_toNested o h]
  unfold getDependencies
  apply Option.ext
  intro ds
  rw [AssocList.get_eq_some_iff_mem _ (nodup_keys_flatten_toNested o h.1),
    AssocList.get_eq_some_iff_mem _ h.1, mem_flatten_toNested o h.1]

theorem keys_ofNested_toNested (o : Offline P S V) (h : WF o) (k : P × V) :
    k ∈ (ofNested (toNested o)).map Prod.fst ↔ k ∈ o.map Prod.fst := by
  rw [ofNested_toNested o h]
  simp only [List.mem_map, mem_flatten_toNested o h.1]

theorem wf_ofNested_toNested (o : Offline P S V) (h : WF o) : WF (ofNested (toNested o)) := by
  rw [ofNested_toNested o h]
  refine ⟨nodup_keys_flatten_toNested o h.1, ?_⟩
  intro e he
  exact h.2 e ((mem_flatten_toNested o h.1 e).mp he)

end Store

section Wire
variable {P S V : Type} [DecidableEq P] [DecidableEq V]

/-- `Serialize for OfflineDependencyProvider` (`#[serde(transparent)]`): an object with one field per
package, whose value is an object with one field per version, whose value is an object with one
field per dependency -/
def encProvider (keyP : P → String) (keyV : V → String) (encS : S → Json) (o : Offline P S V) :
    Json :=
  Serde.encMap keyP (Serde.encMap keyV (Serde.encMap keyP encS)) (toNested o)

/-- `Deserialize for OfflineDependencyProvider`: every field of every level is inserted -/
def decProvider (readP : String → Option P) (readV : String → Option V) (decS : Json → Option S)
    (j : Json) : Option (Offline P S V) :=
  (Serde.decMap readP (Serde.decMap readV (Serde.decMap readP decS)) j).map fun fields =>
    ofNested (fields.foldl (fun (m : SmallMap P (List (V × List (P × S)))) e =>
      SmallMap.insert m e.1 e.2) [])

variable (keyP : P → String) (readP : String → Option P)
  (keyV : V → String) (readV : String → Option V)
  (encS : S → Json) (decS : Json → Option S)

omit [DecidableEq P] [DecidableEq V] in
theorem decDeps_encDeps (hP : ∀ p, readP (keyP p) = some p) (hS : ∀ s, decS (encS s) = some s)
    (ds : List (P × S)) :
    Serde.decMap readP decS (Serde.encMap keyP encS ds) = some ds :=
  Serde.decMap_encMap keyP readP encS decS hP ds (fun e _ => hS e.2)

omit [DecidableEq P] [DecidableEq V] in
theorem decVersions_encVersions (hP : ∀ p, readP (keyP p) = some p)
    (hV : ∀ v, readV (keyV v) = some v) (hS : ∀ s, decS (encS s) = some s)
    (vs : List (V × List (P × S))) :
    Serde.decMap readV (Serde.decMap readP decS) (Serde.encMap keyV (Serde.encMap keyP encS) vs) =
      some vs :=
  Serde.decMap_encMap keyV readV _ _ hV vs (fun e _ => decDeps_encDeps keyP readP encS decS hP hS e.2)

omit [DecidableEq P] [DecidableEq V] in
theorem decNested_encNested (hP : ∀ p, readP (keyP p) = some p)
    (hV : ∀ v, readV (keyV v) = some v) (hS : ∀ s, decS (encS s) = some s)
    (n : Nested P S V) :
    Serde.decMap readP (Serde.decMap readV (Serde.decMap readP decS))
      (Serde.encMap keyP (Serde.encMap keyV (Serde.encMap keyP encS)) n) = some n :=
  Serde.decMap_encMap keyP readP _ _ hP n
    (fun e _ => decVersions_encVersions keyP readP keyV readV encS decS hP hV hS e.2)

theorem keys_toNested (o : Offline P S V) : (toNested o).map Prod.fst = packages o := by
  unfold toNested
  simp [Function.comp_def]

theorem decProvider_encProvider_eq (hP : ∀ p, readP (keyP p) = some p)
    (hV : ∀ v, readV (keyV v) = some v) (hS : ∀ s, decS (encS s) = some s) (o : Offline P S V) :
    decProvider readP readV decS (encProvider keyP keyV encS o) = some (ofNested (toNested o)) := by
  unfold decProvider encProvider
  rw [decNested_encNested keyP readP keyV readV encS decS hP hV hS, Option.map_some,
    Aux.foldl_insert_eq_self _ (by rw [keys_toNested]; exact packages_nodup_of o)]

/-- C19 for every store satisfying the representation invariant: the decoded provider is the
original one up to the order of the entries, answers `get_dependencies` identically, and has the same
versions and packages -/
theorem decProvider_encProvider_of (hP : ∀ p, readP (keyP p) = some p)
    (hV : ∀ v, readV (keyV v) = some v) (hS : ∀ s, decS (encS s) = some s)
    (o : Offline P S V) (h : WF o) :
    ∃ o', decProvider readP readV decS (encProvider keyP keyV encS o) = some o' ∧
      WF o' ∧ o'.Perm o ∧
      (∀ p v, getDependencies o' p v = getDependencies o p v) ∧
      (∀ p v, v ∈ versionsOf o' p ↔ v ∈ versionsOf o p) ∧
      (∀ p, p ∈ packages o' ↔ p ∈ packages o) := by
  refine ⟨_, decProvider_encProvider_eq keyP readP keyV readV encS decS hP hV hS o,
    wf_ofNested_toNested o h, ofNested_toNested_perm o h,
    getDependencies_ofNested_toNested o h, ?_, ?_⟩
  · intro p v
    rw [mem_versionsOf_iff, mem_versionsOf_iff, keys_ofNested_toNested o h]
  · intro p
    rw [mem_packages_iff, mem_packages_iff]
    simp only [keys_ofNested_toNested o h]

/-- C19, strong form on the provider built by `ops` -/
theorem decProvider_encProvider_strong (hP : ∀ p, readP (keyP p) = some p)
    (hV : ∀ v, readV (keyV v) = some v) (hS : ∀ s, decS (encS s) = some s)
    (ops : List (AddOp P S V)) :
    ∃ o', decProvider readP readV decS (encProvider keyP keyV encS (run ops)) = some o' ∧
      WF o' ∧ o'.Perm (run ops) ∧
      (∀ p v, getDependencies o' p v = getDependencies (run ops) p v) ∧
      (∀ p v, v ∈ versionsOf o' p ↔ v ∈ versionsOf (run ops) p) ∧
      (∀ p, p ∈ packages o' ↔ p ∈ packages (run ops)) :=
  decProvider_encProvider_of keyP readP keyV readV encS decS hP hV hS _ (run_wf ops)

/-- C19: serialising the provider built by `ops` and deserialising it back succeeds, and the result
has the same dependencies (as maps, for every package and version, present or not), the same
versions and the same packages -/
theorem decProvider_encProvider (hP : ∀ p, readP (keyP p) = some p)
    (hV : ∀ v, readV (keyV v) = some v) (hS : ∀ s, decS (encS s) = some s)
    (ops : List (AddOp P S V)) :
    ∃ o', decProvider readP readV decS (encProvider keyP keyV encS (run ops)) = some o' ∧
      (∀ p v, (getDependencies o' p v).map (fun ds => fun q => SmallMap.get ds q) =
        (getDependencies (run ops) p v).map (fun ds => fun q => SmallMap.get ds q)) ∧
      (∀ p, ∀ v, v ∈ versionsOf o' p ↔ v ∈ versionsOf (run ops) p) ∧
      (∀ p, p ∈ packages o' ↔ p ∈ packages (run ops)) := by
  obtain ⟨o', h1, -, -, h2, h3, h4⟩ :=
    decProvider_encProvider_strong keyP readP keyV readV encS decS hP hV hS ops
  exact ⟨o', h1, fun p v => by rw [h2 p v], h3, h4⟩

end Wire

section Queries
variable {P S V : Type} [DecidableEq P] [LinearOrder V] [VersionSet S V]
variable (keyP : P → String) (readP : String → Option P)
  (keyV : V → String) (readV : String → Option V)
  (encS : S → Json) (decS : Json → Option S)

theorem decProvider_encProvider_queries
    (hP : ∀ p, readP (keyP p) = some p)
    (hV : ∀ v, readV (keyV v) = some v) (hS : ∀ s, decS (encS s) = some s)
    (ops : List (AddOp P S V)) :
    ∃ o', decProvider readP readV decS (encProvider keyP keyV encS (run ops)) = some o' ∧
      (∀ p v, getDependencies o' p v = getDependencies (run ops) p v) ∧
      (∀ p s, chooseVersion o' p s = chooseVersion (run ops) p s) ∧
      (∀ p s, matchingCount o' p s = matchingCount (run ops) p s) := by
  obtain ⟨o', h1, hwf, hperm, h2, h3, -⟩ :=
    decProvider_encProvider_strong keyP readP keyV readV encS decS hP hV hS ops
  refine ⟨o', h1, h2, ?_, ?_⟩
  · intro p s
    apply Option.ext
    intro v
    rw [chooseVersion_eq_some_iff, chooseVersion_eq_some_iff]
    simp only [h3]
  · intro p s
    unfold matchingCount versionsOf
    exact ((((hperm.filter _).map _).filter _)).length_eq

end Queries


/-! ### Non-vacuity -/

section Example
open Bound Serde

/-- a reader of the decimal keys `0..9` that the kernel can evaluate (for the `rfl` examples only;
the theorems are instantiated with `String.toNat?` below) -/
private def readSmall (s : String) : Option Nat := (List.range 10).find? (fun n => Nat.repr n = s)

private def r13 : Range Nat := [(incl 1, excl 3)]
private def rAll : Range Nat := [(unb, unb)]
private def r2up : Range Nat := [(incl 2, unb)]

/-- packages interleaved, `("a", 1)` added twice, a repeated dependency key in the first call -/
private def exOpsS : List (AddOp String (Range Nat) Nat) :=
  [ ⟨"a", 1, [("b", r13), ("c", rAll), ("b", r2up)]⟩,
    ⟨"b", 2, []⟩,
    ⟨"a", 3, [("c", r13)]⟩,
    ⟨"b", 1, [("c", r2up)]⟩,
    ⟨"a", 1, [("b", r2up)]⟩ ]

example : run exOpsS =
    [(("a", 1), [("b", r2up)]), (("b", 2), []), (("a", 3), [("c", r13)]),
     (("b", 1), [("c", r2up)])] := rfl

example : toNested (run exOpsS) =
    [("a", [(1, [("b", r2up)]), (3, [("c", r13)])]), ("b", [(2, []), (1, [("c", r2up)])])] := rfl

-- the wire shape: `{"a":{"1":{"b":[[{"Included":2},"Unbounded"]]},"3":{"c":[[{"Included":1},{"Excluded":3}]]}},
--                   "b":{"2":{},"1":{"c":[[{"Included":2},"Unbounded"]]}}}`
example : encProvider id Nat.repr (encRange encNat) (run exOpsS) =
    .obj [("a", .obj [("1", .obj [("b", .arr [.arr [.obj [("Included", .num 2)], .str "Unbounded"]])]),
                      ("3", .obj [("c", .arr [.arr [.obj [("Included", .num 1)],
                                                     .obj [("Excluded", .num 3)]]])])]),
          ("b", .obj [("2", .obj []),
                      ("1", .obj [("c", .arr [.arr [.obj [("Included", .num 2)],
                                                     .str "Unbounded"]])])])] := rfl

-- the decoded provider: the same entries, grouped by package (not the same list as `run exOpsS`)
example : decProvider some readSmall (decRange decNat)
      (encProvider id Nat.repr (encRange encNat) (run exOpsS)) =
    some [(("a", 1), [("b", r2up)]), (("a", 3), [("c", r13)]), (("b", 2), []),
          (("b", 1), [("c", r2up)])] := rfl

-- the decoder is not total: a non-object, a version key that is not a number
example : decProvider (S := Range Nat) some readSmall (decRange decNat) .null = none := rfl
example : decProvider (S := Range Nat) some readSmall (decRange decNat)
    (.obj [("a", .obj [("x", .obj [])])]) = none := rfl
-- ... a dependency value that is not a range
example : decProvider some readSmall (decRange decNat)
    (.obj [("a", .obj [("1", .obj [("b", .num 0)])])]) = none := rfl
-- a repeated package key replaces the whole inner map (`HashMap::insert`); a repeated version key
-- and a repeated dependency key replace the earlier value
example : decProvider (S := Range Nat) some readSmall (decRange decNat)
    (.obj [("a", .obj [("1", .obj []), ("2", .obj [])]), ("a", .obj [("3", .obj [])])]) =
    some [(("a", 3), [])] := rfl
example : decProvider some readSmall (decRange decNat)
    (.obj [("a", .obj [("1", .obj [("b", encRange encNat r13)]),
                       ("1", .obj [("c", encRange encNat r13), ("c", encRange encNat rAll)])])]) =
    some [(("a", 1), [("c", rAll)])] := rfl

/-- a wire format for `BitSet n`: the array of bits as `0`/`1` -/
private def encBits {n : Nat} (b : BitSet n) : Json :=
  .arr (b.bits.map fun x => .num (if x then 1 else 0))
private def decBit : Json → Option Bool
  | .num 0 => some false
  | .num 1 => some true
  | _ => none
private def decBits {n : Nat} : Json → Option (BitSet n)
  | .arr items => (items.mapM decBit).map BitSet.mk
  | _ => none

private theorem decBits_encBits {n : Nat} (b : BitSet n) : decBits (encBits b) = some b := by
  obtain ⟨bits⟩ := b
  unfold decBits encBits
  simp only
  have : List.mapM decBit (bits.map fun x => Json.num (if x then 1 else 0)) = some bits := by
    induction bits with
    | nil => simp
    | cons x t ih => cases x <;> simp [decBit, ih]
  rw [this]
  rfl

-- the theorems instantiate at the types of the driver, with every hypothesis discharged:
-- `String` packages (the key is the string itself), `Nat` versions (decimal keys), `Range Nat` sets
example (ops : List (AddOp String (Range Nat) Nat)) :
    ∃ o', decProvider some String.toNat? (decRange decNat)
        (encProvider id Nat.repr (encRange encNat) (run ops)) = some o' ∧
      WF o' ∧ o'.Perm (run ops) ∧
      (∀ p v, getDependencies o' p v = getDependencies (run ops) p v) ∧
      (∀ p v, v ∈ versionsOf o' p ↔ v ∈ versionsOf (run ops) p) ∧
      (∀ p, p ∈ packages o' ↔ p ∈ packages (run ops)) :=
  decProvider_encProvider_strong id some Nat.repr String.toNat? (encRange encNat) (decRange decNat)
    (fun _ => rfl) Nat.toNat?_repr decRange_encRange_nat ops

-- `Nat` packages and versions, `BitSet 4` sets
example (ops : List (AddOp Nat (BitSet 4) Nat)) :
    ∃ o', decProvider String.toNat? String.toNat? decBits
        (encProvider Nat.repr Nat.repr encBits (run ops)) = some o' ∧
      (∀ p v, (getDependencies o' p v).map (fun ds => fun q => SmallMap.get ds q) =
        (getDependencies (run ops) p v).map (fun ds => fun q => SmallMap.get ds q)) ∧
      (∀ p, ∀ v, v ∈ versionsOf o' p ↔ v ∈ versionsOf (run ops) p) ∧
      (∀ p, p ∈ packages o' ↔ p ∈ packages (run ops)) :=
  decProvider_encProvider Nat.repr String.toNat? Nat.repr String.toNat? encBits decBits
    Nat.toNat?_repr Nat.toNat?_repr decBits_encBits ops

example (ops : List (AddOp String (Range Nat) Nat)) :
    ∃ o', decProvider some String.toNat? (decRange decNat)
        (encProvider id Nat.repr (encRange encNat) (run ops)) = some o' ∧
      (∀ p v, getDependencies o' p v = getDependencies (run ops) p v) ∧
      (∀ p s, chooseVersion o' p s = chooseVersion (run ops) p s) ∧
      (∀ p s, matchingCount o' p s = matchingCount (run ops) p s) :=
  decProvider_encProvider_queries id some Nat.repr String.toNat? (encRange encNat)
    (decRange decNat) (fun _ => rfl) Nat.toNat?_repr decRange_encRange_nat ops

-- the invariant is needed for the `Perm` clause: a raw store with a repeated key (not reachable by
-- `add_dependencies`) is rebuilt with the shadowed entry dropped
private def rawDup : Offline Nat (Range Nat) Nat := [((0, 0), [(1, r13)]), ((0, 0), [])]
example : ¬ WF rawDup := by unfold WF; decide
example : ofNested (toNested rawDup) = [((0, 0), [(1, r13)])] := rfl

end Example

end Offline
end Pubgrub
