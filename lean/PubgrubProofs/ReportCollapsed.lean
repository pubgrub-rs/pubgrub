/-
Property C08 quantifies over resolve's trees "before and after collapse_no_versions", and lists, besides
step soundness: numbering, references, externals cited, last step concludes the top.  The general
theorems (PubgrubProofs/ReportSound.lean: `report_steps_sound`, `report_numbering`, `report_refs_resolve`,
`report_externals_cited`, `report_last_concludes_top`, `report_terminates`) need `t.Sound U` and
`t.SharedConsistent`.  For resolve's trees these come from TreeLink.lean (`noSolution_tree_hypotheses`).
For the collapsed tree `Sound W.Exists` comes from `noSolution_collapse_sound`, and `SharedConsistent`
survives `collapseNoVersions`: every derived node `(some k, t')` of the collapsed tree is the collapse of
a derived node `(some k, t)` of the input (`collapse_derivedNodes_image`: the dropped wrappers are the
nodes one of whose causes is a `NoVersions` leaf, and `mergeNoVersions` returns a derived other cause
unchanged), and collapsing is a function of the subtree, hence equal ids ⇒ equal subtrees.
`ReportWellFormed` bundles what C08 lists; it is proved of resolve's trees before and after collapse, and
again for `Range` over any linear order (pull-back as in RangeAnyOrder2.lean: `range_C03_*`,
`range_C09_on_resolve_trees`, with `DerivationTree.collapseNoVersions_mapH` of HomTrees.lean), together with the pull-back of
C09's no-panic clause (`noSolution_collapse_no_panic`, CollapseNoPanic.lean).
-/
import PubgrubProofs.TreeLink
import PubgrubProofs.ReportSound
import PubgrubProofs.CollapseSound
import PubgrubProofs.CollapseNoPanic
import PubgrubProofs.RangeAnyOrder2

set_option linter.unusedSectionVars false

namespace Pubgrub
open VersionSet

section General
variable {P S V M : Type} [DecidableEq P] [VersionSet S V] [DecidableEq S]

/-- `mergeNoVersions` returns a leaf or its argument: the derived nodes of the result are derived
nodes of the argument -/
theorem merge_some_derivedNodes (c : DerivationTree P S V M) (x : P) (s : S)
    (t : DerivationTree P S V M) (h : c.mergeNoVersions x s = .ok (some t)) :
    ∀ n ∈ t.derivedNodes, n ∈ c.derivedNodes := by
  rcases merge_some c x s t h with ⟨_, _, _, _, -, rfl⟩ | ⟨_, _, _, _, -, ⟨-, rfl⟩ | ⟨-, rfl⟩⟩
  · exact fun n hn => hn
  · exact fun n hn => nomatch hn
  · exact fun n hn => nomatch hn

theorem collapse_derivedNodes_image {t t' : DerivationTree P S V M} (h : t.Collapses t') :
    ∀ sid d', (sid, d') ∈ t'.derivedNodes → ∃ d, (sid, d) ∈ t.derivedNodes ∧ d.Collapses d' := by
  induction h with
  | leaf e => exact fun sid d' hd => nomatch hd
  | node h1 h2 ha hb ih1 ih2 =>
    intro sid d' hd
    rcases List.mem_cons.1 hd with he | hd
    · cases he
      exact ⟨_, List.mem_cons_self .., .node h1 h2 ha hb⟩
    · rcases List.mem_append.1 hd with hd | hd
      · obtain ⟨d, hd1, hd2⟩ := ih1 sid d' hd
        exact ⟨d, List.mem_cons_of_mem _ (List.mem_append_left _ hd1), hd2⟩
      · obtain ⟨d, hd1, hd2⟩ := ih2 sid d' hd
        exact ⟨d, List.mem_cons_of_mem _ (List.mem_append_right _ hd1), hd2⟩
  | mergeLeft _ hm ih =>
    intro sid d' hd
    obtain ⟨d, hd1, hd2⟩ := ih sid d' (merge_some_derivedNodes _ _ _ _ hm _ hd)
    exact ⟨d, List.mem_cons_of_mem _ (List.mem_append_right _ hd1), hd2⟩
  | mergeRight _ hm ih =>
    intro sid d' hd
    obtain ⟨d, hd1, hd2⟩ := ih sid d' (merge_some_derivedNodes _ _ _ _ hm _ hd)
    exact ⟨d, List.mem_cons_of_mem _ (List.mem_append_left _ hd1), hd2⟩

theorem collapse_sharedConsistent (t t' : DerivationTree P S V M) (h : t.SharedConsistent)
    (hc : t.collapseNoVersions = .ok t') : t'.SharedConsistent := by
  intro k t1 t2 h1 h2
  have hc := (DerivationTree.collapses_iff t t').1 hc
  obtain ⟨d1, hd1, e1⟩ := collapse_derivedNodes_image hc (some k) t1 h1
  obtain ⟨d2, hd2, e2⟩ := collapse_derivedNodes_image hc (some k) t2 h2
  cases h k d1 d2 hd1 hd2
  rw [← DerivationTree.collapses_iff] at e1 e2
  exact Except.ok.inj (e1.symm.trans e2)

/-- everything property C08 lists about the default report of a tree, in one statement -/
def ReportWellFormed (U : P → V → Prop) (t : DerivationTree P S V M) : Prop :=
  (∃ r, reportSteps t = .ok r) ∧
  ∀ lines, reportSteps t = .ok (.inr lines) →
    (∀ i l, lines[i]? = some l → ∀ c, l.step.conclusion = some c →
      Entails U (stepPremises lines i l.step) c) ∧
    (allRefs lines = List.range' 1 (allRefs lines).length ∧ ∀ l ∈ lines, l.refs.length ≤ 1) ∧
    (∀ i l, lines[i]? = some l → ∀ k terms, (k, terms) ∈ l.step.citedRefs →
      conclusionOfRef (lines.take i) k = some terms ∧
        ((lines.take i).filter fun l' => l'.refs.contains k).length = 1) ∧
    (∀ e ∈ t.externals, ∃ l ∈ lines, e ∈ l.step.namedExternals) ∧
    (∃ l, lines.getLast? = some l ∧ l.step.conclusion = some t.terms)

theorem reportWellFormed_of (U : P → V → Prop) (t : DerivationTree P S V M) (hs : t.Sound U)
    (hc : t.SharedConsistent) : ReportWellFormed U t := by
  refine ⟨report_terminates t hc, ?_⟩
  intro lines hl
  exact ⟨fun i l hli c hcl => report_steps_sound U t hs hc lines hl i l hli c hcl,
    report_numbering t hc lines hl,
    fun i l hli k terms hk => report_refs_resolve t hc lines hl i l hli k terms hk,
    fun e he => report_externals_cited t hc lines hl e he,
    report_last_concludes_top t hc lines hl⟩

end General

section Lawful
variable {P S V M Pr E : Type} [DecidableEq P] [VersionSet S V] [DecidableEq S] [DecidableEq V]
  [LE Pr] [DecidableLE Pr] [LawfulVersionSet S V]

/-- C08 on resolve's trees before `collapse_no_versions`: entailment over all versions -/
theorem noSolution_report_wellFormed (W : World P S V M) (hW : W.SetsValid) (debug : Bool) (fuel : Nat)
    (root : P) (rv : V) (s : SolverState P S V M Pr) (tree : DerivationTree P S V M)
    (h : Reachable (E := E) W debug fuel root rv (s, .noSolution tree)) :
    ReportWellFormed (fun _ _ => True) tree := by
  obtain ⟨hs, hsc, -⟩ := noSolution_tree_hypotheses (E := E) W hW debug fuel root rv s tree h
  exact reportWellFormed_of _ tree (hs _) hsc

/-- C08 on resolve's trees after `collapse_no_versions`: entailment over the existing versions -/
theorem noSolution_collapsed_report_wellFormed (W : World P S V M) (hW : W.SetsValid) (debug : Bool)
    (fuel : Nat) (root : P) (rv : V) (s : SolverState P S V M Pr) (tree : DerivationTree P S V M)
    (h : Reachable (E := E) W debug fuel root rv (s, .noSolution tree))
    (t' : DerivationTree P S V M) (hc : tree.collapseNoVersions = .ok t') :
    ReportWellFormed W.Exists t' := by
  obtain ⟨-, hsc, -⟩ := noSolution_tree_hypotheses (E := E) W hW debug fuel root rv s tree h
  obtain ⟨g1, -⟩ := noSolution_collapse_sound (E := E) W hW debug fuel root rv s tree h t' hc
  exact reportWellFormed_of _ t' g1 (collapse_sharedConsistent tree t' hsc hc)

end Lawful

section AnyOrder
variable {P V M Pr E : Type} [DecidableEq P] [LinearOrder V] [LE Pr] [DecidableLE Pr]

theorem range_report_wellFormed (W : World P (Range V) V M) (hW : W.RangesWF) (debug : Bool) (fuel : Nat)
    (root : P) (rv : V) (s : SolverState P (Range V) V M Pr) (tree : DerivationTree P (Range V) V M)
    (h : Reachable (E := E) W debug fuel root rv (s, .noSolution tree)) :
    ReportWellFormed (fun _ _ => True) tree := by
  have hck := range_C03_tree_checkable W hW debug fuel root rv s tree h
  have hsc : tree.SharedConsistent := fun k t1 t2 h1 h2 =>
    range_C03_shared_same W hW debug fuel root rv s tree h k t1 t2 h1 h2
  exact reportWellFormed_of _ tree (hck.sound W root rv tree _) hsc

theorem range_collapsed_report_wellFormed (W : World P (Range V) V M) (hW : W.RangesWF) (debug : Bool)
    (fuel : Nat) (root : P) (rv : V) (s : SolverState P (Range V) V M Pr)
    (tree : DerivationTree P (Range V) V M)
    (h : Reachable (E := E) W debug fuel root rv (s, .noSolution tree))
    (t' : DerivationTree P (Range V) V M) (hc : tree.collapseNoVersions = .ok t') :
    ReportWellFormed W.Exists t' := by
  have hsc : tree.SharedConsistent := fun k t1 t2 h1 h2 =>
    range_C03_shared_same W hW debug fuel root rv s tree h k t1 t2 h1 h2
  obtain ⟨g1, -⟩ := range_C09_on_resolve_trees (E := E) W hW debug fuel root rv s tree h t' hc
  exact reportWellFormed_of _ t' g1 (collapse_sharedConsistent tree t' hsc hc)

/-- C09's no-panic clause for `Range` over any linear order -/
theorem range_collapse_no_panic (W : World P (Range V) V M) (hW : W.RangesWF) (debug : Bool)
    (fuel : Nat) (root : P) (rv : V) (s : SolverState P (Range V) V M Pr)
    (tree : DerivationTree P (Range V) V M)
    (h : Reachable (E := E) W debug fuel root rv (s, .noSolution tree)) :
    ∃ t', tree.collapseNoVersions = .ok t' := by
  have : Nonempty V := ⟨rv⟩
  obtain ⟨hW', h'⟩ := range_tree_image W hW debug fuel root rv s tree h
  obtain ⟨t'', ht''⟩ := noSolution_collapse_no_panic _ hW' debug fuel root _ _ _ h'
  rw [DerivationTree.collapseNoVersions_mapH] at ht''
  cases hc : tree.collapseNoVersions with
  | error e => rw [hc] at ht''; cases ht''
  | ok t' => exact ⟨t', rfl⟩

end AnyOrder
end Pubgrub
