/-
JSON text round trip for the fuelled parser `Json.parse` of `PubgrubModel/Serde.lean`.

`Json.render` in the model is `String.ofList ∘ Json.renderC`, a total printer on character lists by
structural recursion.  This file proves `Json.parse (String.ofList (renderC j)) = some j` for every JSON value
whose strings and keys contain no `'"'`.
-/
import PubgrubModel.Serde
import Std.Data.String.ToNat

namespace Pubgrub
namespace Json

mutual
def Clean : Json → Prop
  | .null => True
  | .num _ => True
  | .str s => '"' ∉ s.toList
  | .arr items => CleanItems items
  | .obj fs => CleanFields fs
def CleanItems : List Json → Prop
  | [] => True
  | j :: js => Clean j ∧ CleanItems js
def CleanFields : List (String × Json) → Prop
  | [] => True
  | (k, v) :: fs => '"' ∉ k.toList ∧ Clean v ∧ CleanFields fs
end

/-! fuel that suffices for `parseVal` -/
mutual
def need : Json → Nat
  | .null => 1
  | .num _ => 1
  | .str _ => 1
  | .arr items => 1 + needItems items
  | .obj fs => 1 + needFields fs
def needItems : List Json → Nat
  | [] => 0
  | j :: js => 1 + need j + needItems js
def needFields : List (String × Json) → Nat
  | [] => 0
  | (_, v) :: fs => 1 + need v + needFields fs
end

#guard String.ofList (renderC (.arr [.obj [("a", .num 10), ("b", .null)], .str "x", .arr [], .obj []]))
  == render (.arr [.obj [("a", .num 10), ("b", .null)], .str "x", .arr [], .obj []])

def StartChar (c : Char) : Prop :=
  c = 'n' ∨ c = '"' ∨ c = '[' ∨ c = '{' ∨ c.isDigit = true

instance (c : Char) : Decidable (StartChar c) := by unfold StartChar; infer_instance

/-- the next character is not a digit (so that a number ends here) -/
def NoDigitHead (l : List Char) : Prop := ∀ c t, l = c :: t → c.isDigit = false

theorem skipWs_cons_of (c : Char) (t : List Char) (h1 : c ≠ ' ') (h2 : c ≠ '\n') (h3 : c ≠ '\t') :
    skipWs (c :: t) = c :: t := by
  simp [skipWs, h1, h2, h3]

theorem skipWs_start {c : Char} (h : StartChar c) (t : List Char) : skipWs (c :: t) = c :: t := by
  apply skipWs_cons_of <;> rintro rfl <;> revert h <;> decide

theorem takeString_append (s : List Char) (h : '"' ∉ s) (rest acc : List Char) :
    takeString (s ++ '"' :: rest) acc = some (String.ofList (acc.reverse ++ s), rest) := by
  induction s generalizing acc with
  | nil => simp [takeString]
  | cons c t ih =>
    have hc : c ≠ '"' := by intro hc; apply h; simp [hc]
    have ht : '"' ∉ t := by intro ht; apply h; simp [ht]
    simp [takeString, ih ht]

theorem takeDigits_append (ds : List Char) (hd : ∀ c ∈ ds, c.isDigit = true) (rest : List Char)
    (hr : NoDigitHead rest) (acc : List Char) :
    takeDigits (ds ++ rest) acc = (acc.reverse ++ ds, rest) := by
  induction ds generalizing acc with
  | nil =>
    cases rest with
    | nil => simp [takeDigits]
    | cons c t => simp [takeDigits, hr c t rfl]
  | cons c t ih =>
    have hc : c.isDigit = true := hd c (by simp)
    have ht : ∀ c ∈ t, c.isDigit = true := fun c h => hd c (by simp [h])
    simp [takeDigits, hc, ih ht]

theorem renderC_head (j : Json) : ∃ c t, renderC j = c :: t ∧ StartChar c := by
  cases j with
  | null => exact ⟨_, _, rfl, by decide⟩
  | num n =>
    cases h : Nat.toDigits 10 n with
    | nil => exact absurd h Nat.toDigits_ne_nil
    | cons c t =>
      refine ⟨c, t, by simp [renderC, h], ?_⟩
      have : c.isDigit = true :=
        Nat.isDigit_of_mem_toDigits (b := 10) (n := n) (by omega) (by omega) (by simp [h])
      simp [StartChar, this]
  | str s => (simp only [renderC]; exact ⟨_, _, rfl, by decide⟩)
  | arr items => cases items <;> (simp only [renderC]; exact ⟨_, _, rfl, by decide⟩)
  | obj fs =>
    cases fs with
    | nil => (simp only [renderC]; exact ⟨_, _, rfl, by decide⟩)
    | cons f fs => obtain ⟨k, v⟩ := f; (simp only [renderC]; exact ⟨_, _, rfl, by decide⟩)

/-! ### one-step parser lemmas -/

theorem parseVal_null (f : Nat) (rest : List Char) :
    parseVal (f + 1) ('n' :: 'u' :: 'l' :: 'l' :: rest) = some (.null, rest) := by
  rw [parseVal, skipWs_start (by decide)]
  rfl

theorem parseVal_str (f : Nat) (s : String) (h : '"' ∉ s.toList) (rest : List Char) :
    parseVal (f + 1) ('"' :: (s.toList ++ '"' :: rest)) = some (.str s, rest) := by
  rw [parseVal, skipWs_start (by decide)]
  simp [takeString_append _ h]

theorem parseVal_num (f n : Nat) (rest : List Char) (hr : NoDigitHead rest) :
    parseVal (f + 1) (Nat.toDigits 10 n ++ rest) = some (.num n, rest) := by
  have hd : ∀ c ∈ Nat.toDigits 10 n, c.isDigit = true := fun c hc =>
    Nat.isDigit_of_mem_toDigits (by omega) (by omega) hc
  have htd := takeDigits_append _ hd rest hr []
  cases h : Nat.toDigits 10 n with
  | nil => exact absurd h Nat.toDigits_ne_nil
  | cons c t =>
    rw [h] at htd hd
    have hc : c.isDigit = true := hd c (by simp)
    have hs : StartChar c := by simp [StartChar, hc]
    rw [parseVal, List.cons_append, skipWs_start hs]
    split
    next heq => injection heq with h1 h2; subst h1; exact absurd hc (by decide)
    next heq => injection heq with h1 h2; subst h1; exact absurd hc (by decide)
    next heq => injection heq with h1 h2; subst h1; exact absurd hc (by decide)
    next heq => injection heq with h1 h2; subst h1; exact absurd hc (by decide)
    next heq =>
      injection heq with h1 h2; subst h1 h2
      rw [if_pos hc, ← List.cons_append, htd]
      have := Nat.toNat?_repr n
      rw [Nat.repr, h] at this
      show Option.map _ (String.ofList (c :: t)).toNat? = _
      rw [this]; rfl
    next heq => cases heq

theorem parseVal_arr_nil (f : Nat) (rest : List Char) :
    parseVal (f + 1) ('[' :: ']' :: rest) = some (.arr [], rest) := by
  rw [parseVal, skipWs_start (by decide)]
  simp only [skipWs_cons_of _ _ (by decide : ']' ≠ ' ') (by decide) (by decide)]

theorem parseVal_obj_nil (f : Nat) (rest : List Char) :
    parseVal (f + 1) ('{' :: '}' :: rest) = some (.obj [], rest) := by
  rw [parseVal, skipWs_start (by decide)]
  simp only [skipWs_cons_of _ _ (by decide : '}' ≠ ' ') (by decide) (by decide)]

theorem parseVal_arr_cons (f : Nat) (c : Char) (t : List Char) (hc : StartChar c) :
    parseVal (f + 1) ('[' :: c :: t)
      = (parseItems f (c :: t) []).map fun (items, r) => (.arr items, r) := by
  rw [parseVal, skipWs_start (by decide)]
  simp only [skipWs_start hc]
  split
  next heq => injection heq with h1 h2; subst h1; exact absurd hc (by decide)
  next => rfl

theorem parseVal_obj_cons (f : Nat) (c : Char) (t : List Char) (hc : StartChar c) :
    parseVal (f + 1) ('{' :: c :: t)
      = (parseFields f (c :: t) []).map fun (fs, r) => (.obj fs, r) := by
  rw [parseVal, skipWs_start (by decide)]
  simp only [skipWs_start hc]
  split
  next heq => injection heq with h1 h2; subst h1; exact absurd hc (by decide)
  next => rfl

theorem parseItems_comma (f : Nat) (cs r : List Char) (v : Json) (acc : List Json)
    (h : parseVal f cs = some (v, ',' :: r)) :
    parseItems (f + 1) cs acc = parseItems f r (acc ++ [v]) := by
  rw [parseItems, h]
  simp only [skipWs_cons_of _ _ (by decide : ',' ≠ ' ') (by decide) (by decide)]

theorem parseItems_close (f : Nat) (cs r : List Char) (v : Json) (acc : List Json)
    (h : parseVal f cs = some (v, ']' :: r)) :
    parseItems (f + 1) cs acc = some (acc ++ [v], r) := by
  rw [parseItems, h]
  simp only [skipWs_cons_of _ _ (by decide : ']' ≠ ' ') (by decide) (by decide)]

theorem parseFields_comma (f : Nat) (k : String) (hk : '"' ∉ k.toList) (cs r : List Char) (v : Json)
    (acc : List (String × Json)) (h : parseVal f cs = some (v, ',' :: r)) :
    parseFields (f + 1) ('"' :: (k.toList ++ '"' :: ':' :: cs)) acc
      = parseFields f r (acc ++ [(k, v)]) := by
  rw [parseFields, skipWs_start (by decide)]
  simp only [takeString_append _ hk, skipWs_cons_of _ _ (by decide : ':' ≠ ' ') (by decide) (by decide),
    h, skipWs_cons_of _ _ (by decide : ',' ≠ ' ') (by decide) (by decide)]
  simp

theorem parseFields_close (f : Nat) (k : String) (hk : '"' ∉ k.toList) (cs r : List Char) (v : Json)
    (acc : List (String × Json)) (h : parseVal f cs = some (v, '}' :: r)) :
    parseFields (f + 1) ('"' :: (k.toList ++ '"' :: ':' :: cs)) acc
      = some (acc ++ [(k, v)], r) := by
  rw [parseFields, skipWs_start (by decide)]
  simp only [takeString_append _ hk, skipWs_cons_of _ _ (by decide : ':' ≠ ' ') (by decide) (by decide),
    h, skipWs_cons_of _ _ (by decide : '}' ≠ ' ') (by decide) (by decide)]
  simp

theorem noDigitHead_renderItems (js : List Json) (rest : List Char) :
    NoDigitHead (renderItems js ++ rest) := by
  intro c t h
  cases js <;> simp only [renderItems, List.cons_append] at h <;>
    (injection h with h1 h2; subst h1; decide)

theorem noDigitHead_renderFields (fs : List (String × Json)) (rest : List Char) :
    NoDigitHead (renderFields fs ++ rest) := by
  intro c t h
  rcases fs with _ | ⟨⟨k, v⟩, fs⟩ <;> simp only [renderFields, List.cons_append] at h <;>
    (injection h with h1 h2; subst h1; decide)

theorem fuel_succ {n fuel : Nat} (h : 1 + n ≤ fuel) : ∃ f, fuel = f + 1 ∧ n ≤ f := by
  cases fuel with
  | zero => exact absurd h (by simp)
  | succ f => exact ⟨f, rfl, by rwa [Nat.add_comm, Nat.add_le_add_iff_right] at h⟩

/-- the shape of `needItems (j :: js)` and `needFields ((k, v) :: fs)` -/
theorem fuel_cons {a b fuel : Nat} (h : 1 + a + b ≤ fuel) : ∃ f, fuel = f + 1 ∧ a ≤ f ∧ b ≤ f := by
  rw [Nat.add_assoc] at h
  obtain ⟨f, rfl, hf⟩ := fuel_succ h
  exact ⟨f, rfl, Nat.le_trans (Nat.le_add_right a b) hf, Nat.le_trans (Nat.le_add_left b a) hf⟩

mutual
theorem parseVal_renderC : ∀ (j : Json) (fuel : Nat) (rest : List Char),
    Clean j → need j ≤ fuel → NoDigitHead rest → parseVal fuel (renderC j ++ rest) = some (j, rest)
  | .null, fuel, rest, _, hf, _ => by
    obtain ⟨f, rfl, -⟩ := fuel_succ (n := 0) hf
    exact parseVal_null f rest
  | .num n, fuel, rest, _, hf, hr => by
    obtain ⟨f, rfl, -⟩ := fuel_succ (n := 0) hf
    exact parseVal_num f n rest hr
  | .str s, fuel, rest, hc, hf, _ => by
    obtain ⟨f, rfl, -⟩ := fuel_succ (n := 0) hf
    rw [renderC, List.cons_append, List.append_assoc]
    exact parseVal_str f s hc rest
  | .arr [], fuel, rest, _, hf, _ => by
    obtain ⟨f, rfl, -⟩ := fuel_succ (n := 0) hf
    exact parseVal_arr_nil f rest
  | .arr (j :: js), fuel, rest, hc, hf, _ => by
    obtain ⟨_, rfl, hf'⟩ := fuel_succ (n := 1 + need j + needItems js) hf
    obtain ⟨f, rfl, hj, hjs⟩ := fuel_cons hf'
    obtain ⟨c, t, hct, hs⟩ := renderC_head j
    have hi := parseItems_renderItems js f _ rest [] j
      (parseVal_renderC j f _ hc.1 hj (noDigitHead_renderItems js rest)) hc.2 hjs
    rw [renderC, List.cons_append, List.append_assoc]
    rw [hct] at hi ⊢
    rw [List.cons_append, parseVal_arr_cons _ _ _ hs, ← List.cons_append, hi]
    rfl
  | .obj [], fuel, rest, _, hf, _ => by
    obtain ⟨f, rfl, -⟩ := fuel_succ (n := 0) hf
    exact parseVal_obj_nil f rest
  | .obj ((k, v) :: fs), fuel, rest, hc, hf, _ => by
    obtain ⟨_, rfl, hf'⟩ := fuel_succ (n := 1 + need v + needFields fs) hf
    obtain ⟨f, rfl, hv, hfs⟩ := fuel_cons hf'
    have hi := parseFields_renderFields fs f _ rest [] k v hc.1
      (parseVal_renderC v f _ hc.2.1 hv (noDigitHead_renderFields fs rest)) hc.2.2 hfs
    simp only [renderC, List.cons_append, List.append_assoc]
    rw [parseVal_obj_cons _ _ _ (by decide), hi]
    rfl
theorem parseItems_renderItems : ∀ (js : List Json) (f : Nat) (cs rest : List Char)
    (acc : List Json) (v : Json),
    parseVal f cs = some (v, renderItems js ++ rest) → CleanItems js → needItems js ≤ f →
    parseItems (f + 1) cs acc = some (acc ++ v :: js, rest)
  | [], f, cs, rest, acc, v, hv, _, _ => parseItems_close f cs rest v acc hv
  | k :: js, f, cs, rest, acc, v, hv, hc, hf => by
    obtain ⟨f, rfl, hk, hjs⟩ := fuel_cons (a := need k) (b := needItems js) hf
    rw [renderItems, List.cons_append, List.append_assoc] at hv
    have := parseItems_renderItems js f _ rest (acc ++ [v]) k
      (parseVal_renderC k f _ hc.1 hk (noDigitHead_renderItems js rest)) hc.2 hjs
    rwa [List.append_assoc, ← parseItems_comma _ _ _ _ _ hv] at this
theorem parseFields_renderFields : ∀ (fs : List (String × Json)) (f : Nat) (cs rest : List Char)
    (acc : List (String × Json)) (k : String) (v : Json), '"' ∉ k.toList →
    parseVal f cs = some (v, renderFields fs ++ rest) → CleanFields fs → needFields fs ≤ f →
    parseFields (f + 1) ('"' :: (k.toList ++ '"' :: ':' :: cs)) acc = some (acc ++ (k, v) :: fs, rest)
  | [], f, cs, rest, acc, k, v, hk, hv, _, _ => parseFields_close f k hk cs rest v acc hv
  | (k', v') :: fs, f, cs, rest, acc, k, v, hk, hv, hc, hf => by
    obtain ⟨f, rfl, hv', hfs⟩ := fuel_cons (a := need v') (b := needFields fs) hf
    simp only [renderFields, List.cons_append, List.append_assoc] at hv
    have := parseFields_renderFields fs f _ rest (acc ++ [(k, v)]) k' v' hc.1
      (parseVal_renderC v' f _ hc.2.1 hv' (noDigitHead_renderFields fs rest)) hc.2.2 hfs
    rwa [List.append_assoc, ← parseFields_comma _ _ hk _ _ _ _ hv] at this
end

/-! ### the fuel `length + 2` of `Json.parse` suffices -/

mutual
theorem need_le_length : ∀ j : Json, need j ≤ (renderC j).length
  | .null => by simp [need, renderC]
  | .num n => by
    have := Nat.length_toDigits_pos (b := 10) (n := n)
    simp only [need, renderC]; omega
  | .str s => by simp [need, renderC]
  | .arr [] => by simp [need, needItems, renderC]
  | .arr (j :: js) => by
    have := need_le_length j
    have := needItems_le_length js
    simp only [need, needItems, renderC, List.length_cons, List.length_append]; omega
  | .obj [] => by simp [need, needFields, renderC]
  | .obj ((k, v) :: fs) => by
    have := need_le_length v
    have := needFields_le_length fs
    simp only [need, needFields, renderC, List.length_cons, List.length_append]; omega
theorem needItems_le_length : ∀ js : List Json, needItems js + 1 ≤ (renderItems js).length
  | [] => by simp [needItems, renderItems]
  | j :: js => by
    have := need_le_length j
    have := needItems_le_length js
    simp only [needItems, renderItems, List.length_cons, List.length_append]; omega
theorem needFields_le_length : ∀ fs : List (String × Json), needFields fs + 1 ≤ (renderFields fs).length
  | [] => by simp [needFields, renderFields]
  | (k, v) :: fs => by
    have := need_le_length v
    have := needFields_le_length fs
    simp only [needFields, renderFields, List.length_cons, List.length_append]; omega
end

/-- **JSON text round trip**: printing a JSON value (whose strings and keys contain no `'"'`) and
parsing the text with the fuel `length + 2` that `Json.parse` uses gives the value back. -/
theorem parse_renderC (j : Json) (hc : Clean j) : parse (String.ofList (renderC j)) = some j := by
  have h := parseVal_renderC j ((renderC j).length + 2) [] hc
    (by have := need_le_length j; omega) (by intro c t h; cases h)
  rw [List.append_nil] at h
  simp [parse, String.length_ofList, String.toList_ofList, h, skipWs]

end Json
end Pubgrub
