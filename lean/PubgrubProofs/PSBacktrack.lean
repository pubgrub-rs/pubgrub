/-
Preservation of I-PS by `backtrack`.
-/
import PubgrubProofs.PSDecision

set_option linter.unusedSectionVars false

namespace Pubgrub
open VersionSet

/-- the result of a step of `filterMapM`, `none` on error -/
def optOfR {β : Type} : R (Option β) → Option β
  | .ok o => o
  | .error _ => none

theorem filterMapM_ok_eq {α β : Type} (f : α → R (Option β)) :
    ∀ (l : List α) (l' : List β), l.filterMapM f = .ok l' →
      l' = l.filterMap (fun x => optOfR (f x)) := by
  intro l
  induction l with
  | nil =>
    intro l' h
    simp only [List.filterMapM_nil, pure, Except.pure] at h
    injection h with h; subst h; rfl
  | cons a l ih =>
    intro l' h
    rw [List.filterMapM_cons] at h
    simp only [bind, Except.bind, pure, Except.pure] at h
    split at h
    · cases h
    rename_i o ho
    cases o with
    | none =>
      simp only at h
      rw [List.filterMap_cons, ho]
      have e : optOfR (Except.ok none : R (Option β)) = none := rfl
      rw [e]
      exact ih l' h
    | some b =>
      simp only at h
      split at h
      · cases h
      rename_i l'' hl''
      injection h with h; subst h
      rw [List.filterMap_cons, ho]
      have e : optOfR (Except.ok (some b) : R (Option β)) = some b := rfl
      rw [e]
      simp only
      rw [← ih l'' hl'']

theorem filterMap_eq_self_of {α : Type} (g : α → Option α) :
    ∀ (l : List α), (∀ x ∈ l, g x = some x) → l.filterMap g = l := by
  intro l
  induction l with
  | nil => intro _; rfl
  | cons a l ih =>
    intro h
    rw [List.filterMap_cons, h a List.mem_cons_self]
    simp only
    rw [ih (fun x hx => h x (List.mem_cons_of_mem _ hx))]

theorem filterMap_keys_sublist {K T : Type} (g : K × T → Option (K × T))
    (hg : ∀ x y, g x = some y → y.1 = x.1) :
    ∀ (l : List (K × T)), ((l.filterMap g).map Prod.fst).Sublist (l.map Prod.fst) := by
  intro l
  induction l with
  | nil => exact List.Sublist.slnil
  | cons a l ih =>
    rw [List.filterMap_cons]
    cases h : g a with
    | none => simp only [List.map_cons]; exact List.Sublist.cons _ ih
    | some b =>
      simp only [List.map_cons]
      rw [hg a b h]
      exact List.Sublist.cons_cons _ ih

theorem pairwise_getLast {α : Type} {R : α → α → Prop} {l : List α} {x : α}
    (h : l.Pairwise R) (hx : l.getLast? = some x) : ∀ a ∈ l, a = x ∨ R a x := by
  obtain ⟨ys, rfl⟩ := List.getLast?_eq_some_iff.1 hx
  rw [List.pairwise_append] at h
  intro a ha
  simp only [List.mem_append, List.mem_singleton] at ha
  rcases ha with ha | ha
  · exact Or.inr (h.2.2 a ha x (List.mem_singleton.2 rfl))
  · exact Or.inl ha

section PS
variable {P S V M Pr : Type} [DecidableEq P] [VersionSet S V] [DecidableEq S]
  [LawfulVersionSet S V]

namespace PartialSolution

theorem popWhileAbove_prefix (dl : Nat) (l : List (DatedDerivation S)) :
    ∃ suf, l = popWhileAbove dl l ++ suf := by
  unfold popWhileAbove
  split
  · exact ⟨[], rfl⟩
  · rename_i a as
    refine ⟨((a :: as).reverse.takeWhile fun dd => decide (dd.decisionLevel > dl)).reverse, ?_⟩
    rw [← List.reverse_append, List.takeWhile_append_dropWhile, List.reverse_reverse]

theorem popWhileAbove_last (dl : Nat) (l : List (DatedDerivation S)) (last : DatedDerivation S)
    (h : (popWhileAbove dl l).getLast? = some last) : last.decisionLevel ≤ dl := by
  unfold popWhileAbove at h
  split at h
  · cases h
  · rename_i a as
    rw [List.getLast?_reverse] at h
    have := List.head?_dropWhile_not (fun dd : DatedDerivation S => decide (dd.decisionLevel > dl)) (a :: as).reverse
    rw [h] at this
    simp only [decide_eq_false_iff_not] at this
    omega

/-- the closure of `backtrack` -/
def btF (dl : Nat) : P × PackageAssignments S V → R (Option (P × PackageAssignments S V)) :=
  fun (p, pa) =>
    if pa.smallest > dl then pure none
    else if pa.highest ≤ dl then pure (some (p, pa))
    else do
      let dated := popWhileAbove dl pa.dated
      let last ← unwrapOr dated.getLast? "backtrack: dated_derivations.last().unwrap()"
      pure (some (p, { pa with dated := dated, highest := last.decisionLevel,
                               inter := .derivations last.accumulated }))

def btG (dl : Nat) (x : P × PackageAssignments S V) : Option (P × PackageAssignments S V) :=
  optOfR (btF dl x)

theorem backtrack_eq (ps : PartialSolution P S V Pr) (dl : Nat) :
    ps.backtrack dl = (do
      let assignments ← ps.assignments.filterMapM (m := R) (btF dl)
      pure { ps with currentDecisionLevel := dl, assignments := assignments, queue := [],
                     changed := dl - 1, hasEverBacktracked := true }) := rfl

theorem btG_key (dl : Nat) (x y : P × PackageAssignments S V)
    (h : btG dl x = some y) : y.1 = x.1 := by
  obtain ⟨q, qa⟩ := x
  unfold btG optOfR at h
  split at h
  · rename_i o ho
    subst h
    unfold btF at ho
    simp only at ho
    split at ho
    · cases ho
    split at ho
    · injection ho with ho; injection ho with ho; rw [← ho]
    · simp only [bind, Except.bind, pure, Except.pure] at ho
      split at ho
      · cases ho
      injection ho with ho; injection ho with ho; rw [← ho]
  · cases h

theorem backtrack_entry {dl dl' next j : Nat} {p : P} {pa : PackageAssignments S V}
    {y : P × PackageAssignments S V}
    (hw : pa.WFAt dl next j) (hx : pa.WFX) (hj : dl' ≤ j)
    (hf : btF dl' (p, pa) = .ok (some y)) :
    y.1 = p ∧ y.2.WFX ∧ ∀ i, dl' ≤ i → y.2.WFAt dl' next i := by
  unfold btF at hf
  simp only at hf
  split at hf
  · cases hf
  rename_i hsm
  split at hf
  · rename_i hhi
    injection hf with hf; injection hf with hf; subst hf
    refine ⟨rfl, hx, ?_⟩
    intro i hi
    have hjd : dl ≤ j := by
      apply Nat.le_of_not_lt
      intro hlt
      obtain ⟨g, v, _, h2, _⟩ := hw.decided hlt
      omega
    obtain ⟨t, l, f, e1, e2, e3⟩ := hw.undecided hjd
    exact ⟨fun hlt => absurd hlt (Nat.not_lt.2 hi), fun _ => ⟨t, l, f, e1, hhi, e3⟩,
      hw.levels, hw.indices, hw.indices_lt, hw.range⟩
  · rename_i hhi
    simp only [bind, Except.bind, pure, Except.pure] at hf
    split at hf
    · cases hf
    rename_i last hlast
    have hlast' := unwrapOr_ok hlast
    injection hf with hf; injection hf with hf; subst hf
    obtain ⟨suf, hsuf⟩ := popWhileAbove_prefix dl' pa.dated
    have hll := popWhileAbove_last dl' pa.dated last hlast'
    obtain ⟨f, hf1, hf2⟩ := hx.head
    have hne : popWhileAbove dl' pa.dated ≠ [] := by
      intro e; rw [e] at hlast'; cases hlast'
    have hhead : (popWhileAbove dl' pa.dated).head? = some f := by
      rw [hsuf, List.head?_append] at hf1
      cases hh : (popWhileAbove dl' pa.dated).head? with
      | none => exact absurd (List.head?_eq_none_iff.1 hh) hne
      | some f' => rw [hh] at hf1; exact hf1
    have hsub : (popWhileAbove dl' pa.dated).Sublist pa.dated := by
      conv => rhs; rw [hsuf]
      exact List.sublist_append_left _ _
    have hlev : ((popWhileAbove dl' pa.dated).map (·.decisionLevel)).Pairwise (· ≤ ·) :=
      List.Pairwise.sublist (hsub.map _) hw.levels
    have hall : ∀ dd ∈ popWhileAbove dl' pa.dated, dd.decisionLevel ≤ last.decisionLevel := by
      intro dd hdd
      have hl' : ((popWhileAbove dl' pa.dated).map (·.decisionLevel)).getLast? = some last.decisionLevel := by
        rw [List.getLast?_map, hlast']; rfl
      rcases pairwise_getLast hlev hl' dd.decisionLevel (List.mem_map.2 ⟨dd, hdd, rfl⟩) with e | e
      · exact Nat.le_of_eq e
      · exact e
    refine ⟨rfl, ⟨⟨f, hhead, hf2⟩, hall⟩, ?_⟩
    intro i hi
    refine ⟨fun hlt => absurd hlt (Nat.not_lt.2 hi),
      fun _ => ⟨last.accumulated, last, f, rfl, hll, hlast', hhead, rfl, rfl, hf2⟩,
      hlev, List.Pairwise.sublist (hsub.map _) hw.indices,
      fun dd hdd => hw.indices_lt dd (hsub.subset hdd), ?_⟩
    show pa.smallest ≤ last.decisionLevel
    rw [← hf2]
    exact hall f (List.mem_of_mem_head? hhead)

theorem backtrack_wf' {ps ps' : PartialSolution P S V Pr} {dl' : Nat} (h : ps.WF')
    (hdl : dl' ≤ ps.currentDecisionLevel) (hr : ps.backtrack dl' = .ok ps') :
    ps'.WF' ∧ ps'.currentDecisionLevel = dl' ∧ ps'.changed = dl' - 1 ∧ ps'.queue = [] := by
  have hw := h.wf
  rw [backtrack_eq] at hr
  obtain ⟨asg, hasg, hr⟩ := bind_eq_ok hr
  simp only [pure, Except.pure] at hr
  injection hr with hr; subst hr
  refine ⟨?_, rfl, rfl, rfl⟩
  have hA : asg = ps.assignments.filterMap (btG dl') := filterMapM_ok_eq _ _ _ hasg
  generalize hg : btG (P := P) (S := S) (V := V) dl' = g at hA
  have hlen : dl' ≤ ps.assignments.length := Nat.le_trans hdl hw.level_le
  -- entries below `dl'` are kept
  have hkeep : ∀ x ∈ ps.assignments.take dl', g x = some x := by
    intro x hx
    obtain ⟨i, hi⟩ := List.getElem?_of_mem hx
    rw [List.getElem?_take] at hi
    split at hi
    · rename_i hlt
      obtain ⟨q, qa⟩ := x
      have he := hw.entries i q qa hi
      obtain ⟨gi, v, h1, h2, _⟩ := he.decided (Nat.lt_of_lt_of_le hlt hdl)
      have hr := he.range
      subst hg
      unfold btG btF
      simp only
      rw [if_neg (by omega), if_pos (by omega)]
      rfl
    · cases hi
  -- other entries
  have hother : ∀ (j : Nat) x y, ps.assignments[j]? = some x → dl' ≤ j → g x = some y →
      y.1 = x.1 ∧ y.2.WFX ∧ ∀ i, dl' ≤ i → y.2.WFAt dl' ps.nextGlobalIndex i := by
    intro j x y hj hjl hgx
    obtain ⟨q, qa⟩ := x
    subst hg
    unfold btG optOfR at hgx
    split at hgx
    · rename_i o ho
      subst hgx
      exact backtrack_entry (hw.entries j q qa hj) (h.wfx _ (List.mem_of_getElem? hj)) hjl ho
    · cases hgx
  have hsplit : asg = ps.assignments.take dl' ++ (ps.assignments.drop dl').filterMap g := by
    rw [hA]
    conv => lhs; rw [← List.take_append_drop dl' ps.assignments]
    rw [List.filterMap_append, filterMap_eq_self_of g _ hkeep]
  have hgkey : ∀ x y, g x = some y → y.1 = x.1 := hg ▸ btG_key dl'
  have htl : (ps.assignments.take dl').length = dl' := by
    rw [List.length_take]; exact Nat.min_eq_left hlen
  have hentry : ∀ (i : Nat) q qa, asg[i]? = some (q, qa) →
      PackageAssignments.WFAt dl' ps.nextGlobalIndex i qa ∧ qa.WFX := by
    intro i q qa hi
    rw [hsplit, List.getElem?_append, htl] at hi
    split at hi
    · rename_i hlt
      rw [List.getElem?_take, if_pos hlt] at hi
      have he := hw.entries i q qa hi
      refine ⟨⟨fun _ => he.decided (Nat.lt_of_lt_of_le hlt hdl), fun hh => absurd hlt (Nat.not_lt.2 hh),
        he.levels, he.indices, he.indices_lt, he.range⟩, h.wfx _ (List.mem_of_getElem? hi)⟩
    · rename_i hge
      have hmem := List.mem_of_getElem? hi
      rw [List.mem_filterMap] at hmem
      obtain ⟨x, hx, hgx⟩ := hmem
      obtain ⟨k, hk⟩ := List.getElem?_of_mem hx
      rw [List.getElem?_drop] at hk
      obtain ⟨_, h2, h3⟩ := hother (dl' + k) x (q, qa) hk (Nat.le_add_right _ _) hgx
      exact ⟨h3 i (Nat.le_of_not_lt hge), h2⟩
  refine ⟨⟨?_, ?_, ?_, ?_, ?_, ?_⟩, ?_⟩
  · show dl' - 1 ≤ asg.length
    rw [hsplit, List.length_append, htl]; omega
  · show dl' ≤ asg.length
    rw [hsplit, List.length_append, htl]; omega
  · show (asg.map Prod.fst).Nodup
    rw [hA]
    exact List.Nodup.sublist (filterMap_keys_sublist g hgkey _) hw.keys
  · intro i q qa hi
    exact (hentry i q qa hi).1
  · exact List.nodup_nil
  · intro q pr hq; cases hq
  · intro kv hkv
    obtain ⟨i, hi⟩ := List.getElem?_of_mem hkv
    exact (hentry i kv.1 kv.2 hi).2

end PartialSolution
end PS
end Pubgrub
