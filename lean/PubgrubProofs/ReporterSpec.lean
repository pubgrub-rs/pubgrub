/-
The specification of the reporter's four mutually recursive functions, by induction on the fuel.
Each of them returns a state that satisfies the invariant, extends the state it was given, and ends
with a line concluding the clause the call was made for.  The predicate `G` on nodes is a parameter;
`report_spec` puts "is a subtree of `t`" for it.
-/
import PubgrubProofs.ReporterInvariant

namespace Pubgrub
open VersionSet

set_option linter.unusedSectionVars false

section
variable {P S V M : Type} [DecidableEq P] [VersionSet S V] [DecidableEq S]

theorem key_of_buildRecursive (fuel : Nat) (r : Reporter P S V M) terms id c1 c2 r'
    (h : Reporter.buildRecursive fuel r terms (some id) c1 c2 = .ok r') :
    SmallMap.containsKey r'.sharedWithRef id = true := by
  cases fuel with
  | zero => cases h
  | succ fuel =>
    rw [Reporter.buildRecursive] at h
    cases hb : Reporter.buildRecursiveHelper fuel r terms (some id) c1 c2 with
    | error e => rw [hb] at h; cases h
    | ok r1 =>
      rw [hb] at h
      dsimp only at h
      by_cases hk : SmallMap.containsKey r1.sharedWithRef id = true
      · rw [if_pos hk] at h
        obtain rfl := Except.ok.inj h
        exact hk
      · rw [if_neg hk] at h
        obtain rfl := Except.ok.inj h
        show (SmallMap.get (SmallMap.insert _ id _) id).isSome = true
        rw [SmallMap.get_insert, if_pos rfl]
        rfl

variable (G : DerivationTree P S V M → Prop) (U : P → V → Prop) (HS : Prop)

/-- what a call establishes of the state `r'` it returns when started in `r`: the last line concludes
`concl` (and carries no number if `q`), and every leaf in `exts` is named by some line -/
structure Post (r r' : Reporter P S V M) (concl : List (P × Term S)) (exts : List (External P S V M))
    (q : Prop) : Prop where
  inv : RepInv G U HS r'
  le : Le r r'
  last : ∃ l, r'.lines.getLast? = some l ∧ l.step.conclusion = some concl ∧ (q → l.refs = [])
  named : ∀ e ∈ exts, e ∈ namedAll r'.lines

/-- `buildRecursive` numbers its last line only for a shared node -/
def SpecBR (fuel : Nat) : Prop :=
  ∀ (r : Reporter P S V M) terms sid c1 c2 r', G (.derived terms sid c1 c2) → RepInv G U HS r →
    Reporter.buildRecursive fuel r terms sid c1 c2 = .ok r' →
    Post G U HS r r' terms (DerivationTree.derived terms sid c1 c2).externals (sid = none)

/-- the last line of `buildRecursiveHelper` is numbered only where it went through `buildRecursive`
on the same node again -/
def SpecH (fuel : Nat) : Prop :=
  ∀ (r : Reporter P S V M) terms sid c1 c2 r', G (.derived terms sid c1 c2) → RepInv G U HS r →
    Reporter.buildRecursiveHelper fuel r terms sid c1 c2 = .ok r' →
    Post G U HS r r' terms (DerivationTree.derived terms sid c1 c2).externals
      (∀ id, sid = some id → SmallMap.containsKey r'.sharedWithRef id = false)

/-- `reportOneEach` and `reportRecurseOneEach`, called on a derived cause and a leaf `e` that give `cur` -/
def SpecEach (f : Nat → Reporter P S V M → List (P × Term S) → Option Nat → DerivationTree P S V M →
    DerivationTree P S V M → External P S V M → List (P × Term S) → R (Reporter P S V M)) (fuel : Nat) : Prop :=
  ∀ (r : Reporter P S V M) dterms dsid dc1 dc2 e cur r', G (.derived dterms dsid dc1 dc2) →
    (HS → Entails U [dterms, e.terms] cur) → RepInv G U HS r →
    f fuel r dterms dsid dc1 dc2 e cur = .ok r' →
    Post G U HS r r' cur ((DerivationTree.derived dterms dsid dc1 dc2).externals ++ [e]) True

variable {G U HS}

theorem lineRefOf_some {r : Reporter P S V M} {sid : Option Nat} {ref : Nat}
    (h : r.lineRefOf sid = some ref) : ∃ id, sid = some id ∧ SmallMap.get r.sharedWithRef id = some ref := by
  cases sid with
  | none => cases h
  | some id => exact ⟨id, rfl, h⟩

/-- every call ends by pushing a step `st` onto a state `r1` reached from `r` -/
theorem Post.of_push {r r1 : Reporter P S V M} (hinv : RepInv G U HS r1) (hle : Le r r1)
    {st : Step P S V M} (hst : StepOK U HS r1.lines st) {concl : List (P × Term S)}
    (hc : st.conclusion = some concl) {exts : List (External P S V M)}
    (hnamed : ∀ e ∈ exts, e ∈ namedAll r1.lines ∨ e ∈ st.namedExternals) (q : Prop) :
    Post G U HS r (r1.push st) concl exts q :=
  ⟨hinv.push hst, hle.trans (Le.push r1 st), ⟨_, Reporter.push_getLast r1 st, hc, fun _ => rfl⟩,
    fun e he => (hnamed e he).elim ((Le.push r1 st).named e) (named_push_self r1 st e)⟩

variable (hGc1 : ∀ terms sid c1 c2, G (.derived terms sid c1 c2) → G c1)
variable (hGc2 : ∀ terms sid c1 c2, G (.derived terms sid c1 c2) → G c2)
variable (hGcons : ∀ id t1 a1 b1 t2 a2 b2, G (.derived t1 (some id) a1 b1) → G (.derived t2 (some id) a2 b2) →
  DerivationTree.derived t1 (some id) a1 b1 = DerivationTree.derived t2 (some id) a2 b2)
variable (hE : ∀ terms sid c1 c2, G (.derived terms sid c1 c2) → HS → Entails U [c1.terms, c2.terms] terms)

include hGcons in
theorem stepBR (fuel : Nat) (ih : SpecH G U HS fuel) : SpecBR G U HS (fuel + 1) := by
  intro r terms sid c1 c2 r' hG hr h
  rw [Reporter.buildRecursive] at h
  cases hb : Reporter.buildRecursiveHelper fuel r terms sid c1 c2 with
  | error e => rw [hb] at h; cases h
  | ok r1 =>
    rw [hb] at h
    have ph := ih r terms sid c1 c2 r1 hG hr hb
    obtain ⟨l, hl, hlc, hlr⟩ := ph.last
    cases sid with
    | none =>
      obtain rfl := Except.ok.inj h
      exact ⟨ph.inv, ph.le, ⟨l, hl, hlc, fun _ => hlr fun _ hid => nomatch hid⟩, ph.named⟩
    | some id =>
      dsimp only at h
      by_cases hk : SmallMap.containsKey r1.sharedWithRef id = true
      · rw [if_pos hk] at h
        obtain rfl := Except.ok.inj h
        exact ⟨ph.inv, ph.le, ⟨l, hl, hlc, fun hn => nomatch hn⟩, ph.named⟩
      · rw [if_neg hk] at h
        obtain rfl := Except.ok.inj h
        -- the line gets the next number, which is recorded for `id`
        have hrefs : l.refs = [] :=
          hlr fun _ hid => Option.some.inj hid ▸ Bool.eq_false_iff.mpr hk
        have hle1 := Le.addLineRef ph.inv hl
        have hnamed : ∀ e ∈ (DerivationTree.derived terms (some id) c1 c2).externals,
            e ∈ namedAll r1.addLineRef.lines := fun e he => hle1.named e (ph.named e he)
        refine ⟨?_, ?_, ⟨_, Reporter.addLineRef_getLast hl, hlc, fun hn => nomatch hn⟩, hnamed⟩
        · refine (ph.inv.addLineRef hl hrefs).insert id _ fun tt a b hG' => ?_
          cases hGcons id tt a b terms c1 c2 hG' hG
          exact ⟨RefOK.addLineRef ph.inv hl hlc, hnamed⟩
        · exact (ph.le.trans hle1).trans
            (Le.insert _ id _ (SmallMap.get_of_containsKey_false _ _ hk))

include hGc1 hGc2 hE in
theorem stepROE (fuel : Nat) (ih : SpecBR G U HS fuel) :
    SpecEach G U HS Reporter.reportRecurseOneEach (fuel + 1) := by
  intro r dterms dsid dc1 dc2 e cur r' hG hEnt hr h
  have hEd := hE dterms dsid dc1 dc2 hG
  -- the two ways the function ends, after `buildRecursive` on the node itself or on its derived cause
  have self : ∀ r1, Reporter.buildRecursive fuel r dterms dsid dc1 dc2 = .ok r1 →
      Post G U HS r (r1.push (.andExternal e cur)) cur
        ((DerivationTree.derived dterms dsid dc1 dc2).externals ++ [e]) True := by
    intro r1 hb
    have pb := ih r _ _ _ _ r1 hG hr hb
    obtain ⟨l, hl, hlc, -⟩ := pb.last
    exact .of_push pb.inv pb.le (stepOK_andExternal hl hlc hEnt) rfl
      (List.forall_mem_append.mpr ⟨fun e' he' => .inl (pb.named e' he'), fun _ he' => .inr he'⟩) _
  have prior : ∀ pt psid pa pb pe r1, G (.derived pt psid pa pb) →
      (HS → Entails U [pt, pe.terms] dterms) →
      (∀ e' ∈ dc1.externals ++ dc2.externals,
        e' ∈ (DerivationTree.derived pt psid pa pb).externals ∨ e' = pe) →
      Reporter.buildRecursive fuel r pt psid pa pb = .ok r1 →
      Post G U HS r (r1.push (.andPriorAndExternal pe e cur)) cur
        ((DerivationTree.derived dterms dsid dc1 dc2).externals ++ [e]) True := by
    intro pt psid pa pb pe r1 hGp hEp hsub hb
    have pb := ih r _ _ _ _ r1 hGp hr hb
    obtain ⟨l, hl, hlc, -⟩ := pb.last
    refine .of_push pb.inv pb.le (stepOK_andPriorAndExternal hl hlc hEp hEnt) rfl
      (List.forall_mem_append.mpr ⟨fun e' he' => ?_, fun _ he' => .inr (.tail _ he')⟩) _
    rcases hsub e' he' with h' | rfl
    · exact .inl (pb.named e' h')
    · exact .inr (.head _)
  cases dc1 with
  | external e1 =>
    cases dc2 with
    | external e2 =>
      simp only [Reporter.reportRecurseOneEach] at h
      cases hb : Reporter.buildRecursive fuel r dterms dsid (.external e1) (.external e2) with
      | error err => rw [hb] at h; cases h
      | ok r1 => rw [hb] at h; cases h; exact self r1 hb
    | derived pt psid pa pb' =>
      rw [Reporter.reportRecurseOneEach] at h
      cases hb : Reporter.buildRecursive fuel r pt psid pa pb' with
      | error err => rw [hb] at h; cases h
      | ok r1 =>
        rw [hb] at h; cases h
        exact prior _ _ _ _ e1 r1 (hGc2 _ _ _ _ hG) (fun hs => (hEd hs).swap)
          (List.forall_mem_append.mpr ⟨fun _ he' => .inr (List.mem_singleton.mp he'), fun _ => .inl⟩) hb
  | derived pt psid pa pb' =>
    cases dc2 with
    | external e2 =>
      rw [Reporter.reportRecurseOneEach] at h
      cases hb : Reporter.buildRecursive fuel r pt psid pa pb' with
      | error err => rw [hb] at h; cases h
      | ok r1 =>
        rw [hb] at h; cases h
        exact prior _ _ _ _ e2 r1 (hGc1 _ _ _ _ hG) hEd
          (List.forall_mem_append.mpr ⟨fun _ => .inl, fun _ he' => .inr (List.mem_singleton.mp he')⟩) hb
    | derived qt qsid qa qb =>
      simp only [Reporter.reportRecurseOneEach] at h
      cases hb : Reporter.buildRecursive fuel r dterms dsid (.derived pt psid pa pb') (.derived qt qsid qa qb) with
      | error err => rw [hb] at h; cases h
      | ok r1 => rw [hb] at h; cases h; exact self r1 hb

theorem stepOE (fuel : Nat) (ih : SpecEach G U HS Reporter.reportRecurseOneEach fuel) :
    SpecEach G U HS Reporter.reportOneEach (fuel + 1) := by
  intro r dterms dsid dc1 dc2 e cur r' hG hEnt hr h
  rw [Reporter.reportOneEach] at h
  cases hb : r.lineRefOf dsid with
  | none =>
    rw [hb] at h
    exact ih r dterms dsid dc1 dc2 e cur r' hG hEnt hr h
  | some ref =>
    rw [hb] at h
    obtain rfl := Except.ok.inj h
    obtain ⟨id, rfl, hg⟩ := lineRefOf_some hb
    obtain ⟨hro, hnm⟩ := hr.shared id ref hg dterms dc1 dc2 hG
    exact .of_push hr (Le.refl r) (stepOK_refAndExternal hro hEnt) rfl
      (List.forall_mem_append.mpr ⟨fun e' he' => .inl (hnm e' he'), fun _ he' => .inr he'⟩) _

include hGc1 hGc2 hE in
theorem stepH (fuel : Nat) (ihBR : SpecBR G U HS fuel) (ihOE : SpecEach G U HS Reporter.reportOneEach fuel) :
    SpecH G U HS (fuel + 1) := by
  intro r terms sid c1 c2 r' hG hr h
  have hEd := hE terms sid c1 c2 hG
  cases c1 with
  | external e1 =>
    cases c2 with
    | external e2 =>
      rw [Reporter.buildRecursiveHelper] at h
      obtain rfl := Except.ok.inj h
      exact .of_push hr (Le.refl r) (stepOK_bothExternal hEd) rfl (fun _ => .inr) _
    | derived dt dsid dc1 dc2 =>
      rw [Reporter.buildRecursiveHelper] at h
      have po := ihOE r dt dsid dc1 dc2 e1 terms r' (hGc2 _ _ _ _ hG) (fun hs => (hEd hs).swap) hr h
      obtain ⟨l, hl, hlc, hlr⟩ := po.last
      refine ⟨po.inv, po.le, ⟨l, hl, hlc, fun _ => hlr trivial⟩, fun e' he' => po.named e' ?_⟩
      exact List.mem_append.mpr ((List.mem_cons.mp he').symm.imp_right List.mem_singleton.mpr)
  | derived t1 sid1 a1 b1 =>
    cases c2 with
    | external e2 =>
      rw [Reporter.buildRecursiveHelper] at h
      have po := ihOE r t1 sid1 a1 b1 e2 terms r' (hGc1 _ _ _ _ hG) hEd hr h
      obtain ⟨l, hl, hlc, hlr⟩ := po.last
      exact ⟨po.inv, po.le, ⟨l, hl, hlc, fun _ => hlr trivial⟩, po.named⟩
    | derived t2 sid2 a2 b2 =>
      have hG1 := hGc1 _ _ _ _ hG
      have hG2 := hGc2 _ _ _ _ hG
      have hEd' : HS → Entails U [t1, t2] terms := hEd
      -- a cause that has a number already is cited by it
      have cited : ∀ {sid' ref tt a b}, r.lineRefOf sid' = some ref → G (.derived tt sid' a b) →
          RefOK r.lines ref tt ∧ ∀ e ∈ (DerivationTree.derived tt sid' a b).externals, e ∈ namedAll r.lines := by
        intro sid' ref tt a b href hG'
        obtain ⟨id, rfl, hg⟩ := lineRefOf_some href
        exact hr.shared id ref hg tt a b hG'
      rw [Reporter.buildRecursiveHelper] at h
      cases h1 : r.lineRefOf sid1 with
      | some ref1 =>
        obtain ⟨hro1, hnm1⟩ := cited h1 hG1
        cases h2 : r.lineRefOf sid2 with
        | some ref2 =>
          obtain ⟨hro2, hnm2⟩ := cited h2 hG2
          rw [h1, h2] at h
          obtain rfl := Except.ok.inj h
          exact .of_push hr (Le.refl r) (stepOK_bothRef hro1 hro2 hEd') rfl
            (List.forall_mem_append.mpr ⟨fun e' he' => .inl (hnm1 e' he'), fun e' he' => .inl (hnm2 e' he')⟩) _
        | none =>
          rw [h1, h2] at h
          dsimp only at h
          cases hb : Reporter.buildRecursive fuel r t2 sid2 a2 b2 with
          | error err => rw [hb] at h; cases h
          | ok r2 =>
            rw [hb] at h
            obtain rfl := Except.ok.inj h
            have pb := ihBR r _ _ _ _ r2 hG2 hr hb
            obtain ⟨l, hl, hlc, -⟩ := pb.last
            exact .of_push pb.inv pb.le
              (stepOK_andRef hl hlc (pb.le.ref _ _ hro1) fun hs => (hEd' hs).swap) rfl
              (List.forall_mem_append.mpr
                ⟨fun e' he' => .inl (pb.le.named e' (hnm1 e' he')), fun e' he' => .inl (pb.named e' he')⟩) _
      | none =>
        cases h2 : r.lineRefOf sid2 with
        | some ref2 =>
          obtain ⟨hro2, hnm2⟩ := cited h2 hG2
          rw [h1, h2] at h
          dsimp only at h
          cases hb : Reporter.buildRecursive fuel r t1 sid1 a1 b1 with
          | error err => rw [hb] at h; cases h
          | ok r1 =>
            rw [hb] at h
            obtain rfl := Except.ok.inj h
            have pb := ihBR r _ _ _ _ r1 hG1 hr hb
            obtain ⟨l, hl, hlc, -⟩ := pb.last
            exact .of_push pb.inv pb.le (stepOK_andRef hl hlc (pb.le.ref _ _ hro2) hEd') rfl
              (List.forall_mem_append.mpr
                ⟨fun e' he' => .inl (pb.named e' he'), fun e' he' => .inl (pb.le.named e' (hnm2 e' he'))⟩) _
        | none =>
          rw [h1, h2] at h
          dsimp only at h
          cases hb1 : Reporter.buildRecursive fuel r t1 sid1 a1 b1 with
          | error err => rw [hb1] at h; cases h
          | ok r1 =>
            rw [hb1] at h
            dsimp only at h
            have pb1 := ihBR r _ _ _ _ r1 hG1 hr hb1
            obtain ⟨l1, hl1, hlc1, hlr1⟩ := pb1.last
            cases sid1 with
            | some id1 =>
              -- the first cause is shared and now has a number: the node is gone through again
              rw [Option.isSome_some, if_pos rfl] at h
              have pb := ihBR (r1.push .blank) _ _ _ _ r' hG (pb1.inv.push stepOK_blank) h
              obtain ⟨l, hl, hlc, hlr⟩ := pb.last
              refine ⟨pb.inv, (pb1.le.trans (Le.push _ _)).trans pb.le, ⟨l, hl, hlc, fun hq => ?_⟩, pb.named⟩
              cases sid with
              | none => exact hlr rfl
              | some id =>
                exact absurd (key_of_buildRecursive _ _ _ _ _ _ _ h) (Bool.eq_false_iff.mp (hq id rfl))
            | none =>
              -- the first cause gets a number, by which the last line cites it
              rw [Option.isSome_none, if_neg Bool.false_ne_true] at h
              cases hb2 : Reporter.buildRecursive fuel (r1.addLineRef.push .blank) t2 sid2 a2 b2 with
              | error err => rw [hb2] at h; cases h
              | ok r2 =>
                rw [hb2] at h
                obtain rfl := Except.ok.inj h
                have pb2 := ihBR _ _ _ _ _ r2 hG2 ((pb1.inv.addLineRef hl1 (hlr1 rfl)).push stepOK_blank) hb2
                obtain ⟨l, hl, hlc, -⟩ := pb2.last
                have hle2 : Le r1.addLineRef r2 := (Le.push _ _).trans pb2.le
                have hle : Le r1 r2 := (Le.addLineRef pb1.inv hl1).trans hle2
                exact .of_push pb2.inv (pb1.le.trans hle)
                  (stepOK_andRef hl hlc (hle2.ref _ _ (RefOK.addLineRef pb1.inv hl1 hlc1)) fun hs => (hEd' hs).swap)
                  rfl
                  (List.forall_mem_append.mpr
                    ⟨fun e' he' => .inl (hle.named e' (pb1.named e' he')), fun e' he' => .inl (pb2.named e' he')⟩) _

include hGc1 hGc2 hGcons hE in
theorem spec_all (fuel : Nat) :
    SpecBR G U HS fuel ∧ SpecH G U HS fuel ∧ SpecEach G U HS Reporter.reportOneEach fuel ∧
      SpecEach G U HS Reporter.reportRecurseOneEach fuel := by
  induction fuel with
  | zero =>
    refine ⟨?_, ?_, ?_, ?_⟩
    · intro r terms sid c1 c2 r' _ _ h; cases h
    · intro r terms sid c1 c2 r' _ _ h; cases h
    · intro r dterms dsid dc1 dc2 e cur r' _ _ _ h; cases h
    · intro r dterms dsid dc1 dc2 e cur r' _ _ _ h; cases h
  | succ fuel ih =>
    obtain ⟨ih1, ih2, ih3, ih4⟩ := ih
    exact ⟨stepBR hGcons fuel ih2, stepH hGc1 hGc2 hE fuel ih1 ih3, stepOE fuel ih4,
      stepROE hGc1 hGc2 hE fuel ih1⟩

end

section
variable {P S V M : Type} [DecidableEq P] [VersionSet S V] [DecidableEq S]

/-- `d` is a subtree of `t` -/
inductive Sub (t : DerivationTree P S V M) : DerivationTree P S V M → Prop
  | refl : Sub t t
  | left {terms sid c1 c2} : Sub t (.derived terms sid c1 c2) → Sub t c1
  | right {terms sid c1 c2} : Sub t (.derived terms sid c1 c2) → Sub t c2

theorem derivedNodes_trans (t : DerivationTree P S V M) :
    ∀ sid d, (sid, d) ∈ t.derivedNodes → ∀ x ∈ d.derivedNodes, x ∈ t.derivedNodes := by
  induction t with
  | external e => intro sid d h; simp [DerivationTree.derivedNodes] at h
  | derived terms sid0 c1 c2 ih1 ih2 =>
    intro sid d h x hx
    simp only [DerivationTree.derivedNodes, List.mem_cons, List.mem_append, Prod.mk.injEq] at h
    rcases h with ⟨rfl, rfl⟩ | h | h
    · exact hx
    · have := ih1 sid d h x hx
      simp only [DerivationTree.derivedNodes, List.mem_cons, List.mem_append]
      exact Or.inr (Or.inl this)
    · have := ih2 sid d h x hx
      simp only [DerivationTree.derivedNodes, List.mem_cons, List.mem_append]
      exact Or.inr (Or.inr this)

theorem Sub.mem {t d : DerivationTree P S V M} (h : Sub t d) :
    ∀ tt sid a b, d = .derived tt sid a b → (sid, d) ∈ t.derivedNodes := by
  induction h with
  | refl =>
    intro tt sid a b hd
    subst hd
    simp [DerivationTree.derivedNodes]
  | @left terms sid0 c1 c2 _ ih =>
    intro tt sid a b hd
    have h0 := ih terms sid0 c1 c2 rfl
    refine derivedNodes_trans t sid0 _ h0 _ ?_
    subst hd
    simp [DerivationTree.derivedNodes]
  | @right terms sid0 c1 c2 _ ih =>
    intro tt sid a b hd
    have h0 := ih terms sid0 c1 c2 rfl
    refine derivedNodes_trans t sid0 _ h0 _ ?_
    subst hd
    simp [DerivationTree.derivedNodes]

theorem Sub.sound {U : P → V → Prop} {t d : DerivationTree P S V M} (h : Sub t d) (hs : t.Sound U) :
    d.Sound U := by
  induction h with
  | refl => exact hs
  | left _ ih => cases ih with | derived _ _ _ _ h1 h2 h3 => exact h1
  | right _ ih => cases ih with | derived _ _ _ _ h1 h2 h3 => exact h2

theorem Sub.entails {U : P → V → Prop} {t : DerivationTree P S V M} {terms sid c1 c2}
    (h : Sub t (.derived terms sid c1 c2)) (hs : t.Sound U) : Entails U [c1.terms, c2.terms] terms := by
  have := h.sound hs
  cases this with | derived _ _ _ _ h1 h2 h3 => exact h3

theorem Sub.cons {t : DerivationTree P S V M} (hc : t.SharedConsistent) {id t1 a1 b1 t2 a2 b2}
    (h1 : Sub t (.derived t1 (some id) a1 b1)) (h2 : Sub t (.derived t2 (some id) a2 b2)) :
    DerivationTree.derived t1 (some id) a1 b1 = DerivationTree.derived t2 (some id) a2 b2 :=
  hc id _ _ (h1.mem _ _ _ _ rfl) (h2.mem _ _ _ _ rfl)

theorem report_spec (U : P → V → Prop) (HS : Prop) (t : DerivationTree P S V M)
    (hc : t.SharedConsistent) (hs : HS → t.Sound U) (lines : List (Line P S V M))
    (h : reportSteps t = .ok (.inr lines)) :
    ∃ r, r.lines = lines ∧ Post (Sub t) U HS Reporter.new r t.terms t.externals False := by
  cases t with
  | external e => cases h
  | derived terms sid c1 c2 =>
    rw [reportSteps] at h
    generalize 8 * (DerivationTree.derived terms sid c1 c2).size + 8 = F at h
    cases hb : Reporter.buildRecursive F Reporter.new terms sid c1 c2 with
    | error e => rw [hb] at h; cases h
    | ok r =>
      rw [hb] at h
      cases h
      have pb := (spec_all (G := Sub (.derived terms sid c1 c2)) (U := U) (HS := HS)
        (fun _ _ _ _ h => h.left) (fun _ _ _ _ h => h.right)
        (fun id t1 a1 b1 t2 a2 b2 h1 h2 => Sub.cons hc h1 h2)
        (fun _ _ _ _ h hS => h.entails (hs hS)) F).1
        Reporter.new terms sid c1 c2 r Sub.refl (RepInv.new _ U HS) hb
      obtain ⟨l, hl, hlc, -⟩ := pb.last
      exact ⟨r, rfl, pb.inv, pb.le, ⟨l, hl, hlc, False.elim⟩, pb.named⟩

end
end Pubgrub
