/-
Semantic inclusion of terms; the assignments of a package as events (global index, decision level, is a
decision) and the order `GMonoL` on them; how `termBefore` (SatDefs.lean), the term of a package before a
global index, is read off the dated derivations.
-/
import PubgrubProofs.SatDefs
import PubgrubProofs.PSInvariant
import PubgrubProofs.SafeResult

set_option linter.unusedSectionVars false

namespace Pubgrub
open VersionSet

section Terms
variable {S V : Type} [VersionSet S V] [DecidableEq S] [LawfulVersionSet S V]

/-- semantic inclusion of terms -/
def Term.Imp (a b : Term S) : Prop := ∀ c : Option V, a.eval c = true → b.eval c = true

namespace Term

theorem Imp.refl (a : Term S) : a.Imp a := fun _ h => h
theorem Imp.trans {a b c : Term S} (h1 : a.Imp b) (h2 : b.Imp c) : a.Imp c := fun x h => h2 x (h1 x h)

theorem imp_of_subsetOf {a b : Term S} (ha : a.Valid) (hb : b.Valid) (h : a.subsetOf b = true) : a.Imp b :=
  (subsetOf_iff a b ha hb).1 h

theorem subsetOf_of_imp {a b : Term S} (ha : a.Valid) (hb : b.Valid) (h : a.Imp b) : a.subsetOf b = true :=
  (subsetOf_iff a b ha hb).2 h

theorem inter_imp_left {a b : Term S} (ha : a.Valid) (hb : b.Valid) : (a.intersection b).Imp a := by
  intro c hc
  rw [eval_intersection a b ha hb, Bool.and_eq_true] at hc
  exact hc.1

theorem inter_imp_right {a b : Term S} (ha : a.Valid) (hb : b.Valid) : (a.intersection b).Imp b := by
  intro c hc
  rw [eval_intersection a b ha hb, Bool.and_eq_true] at hc
  exact hc.2

theorem Imp.inter {x a b : Term S} (va : a.Valid) (vb : b.Valid) (ha : x.Imp a) (hb : x.Imp b) :
    x.Imp (a.intersection b) := by
  intro c hc
  rw [eval_intersection _ _ va vb, ha c hc, hb c hc]; rfl

theorem Imp.union_left {x a b : Term S} (va : a.Valid) (vb : b.Valid) (ha : x.Imp a) : x.Imp (a.union b) := by
  intro c hc
  rw [eval_union _ _ va vb, ha c hc]; rfl

theorem imp_of_relationWith {t o : Term S} (ht : t.Valid) (ho : o.Valid)
    (h : t.relationWith o = .satisfied) : o.Imp t :=
  (relationWith_satisfied_iff t o ht ho).1 h

theorem imp_of_disjoint_negate {acc t : Term S} (ha : acc.Valid) (ht : t.Valid)
    (h : acc.isDisjoint t.negate = true) : acc.Imp t := by
  intro c hc
  have := (isDisjoint_iff acc t.negate ha (valid_negate t ht)).1 h c
  rw [eval_negate] at this
  cases h2 : t.eval c
  · rw [h2] at this; exact absurd ⟨hc, rfl⟩ this
  · rfl

theorem disjoint_negate_of_imp {acc t : Term S} (ha : acc.Valid) (ht : t.Valid)
    (h : acc.Imp t) : acc.isDisjoint t.negate = true := by
  rw [isDisjoint_iff acc t.negate ha (valid_negate t ht)]
  intro c ⟨h1, h2⟩
  rw [eval_negate, h c h1] at h2
  cases h2

theorem disjoint_inter_negate_of_imp {acc t x : Term S} (ha : acc.Valid) (ht : t.Valid) (hx : x.Valid)
    (h : acc.Imp t) : acc.isDisjoint (x.intersection t.negate) = true := by
  rw [isDisjoint_iff acc _ ha (valid_intersection _ _ hx (valid_negate t ht))]
  intro c ⟨h1, h2⟩
  rw [eval_intersection _ _ hx (valid_negate t ht), eval_negate, h c h1] at h2
  simp at h2

theorem disjoint_of_empty {acc t x : Term S} (ha : acc.Valid) (ht : t.Valid) (hx : x.Valid)
    (h : x.Imp t) : acc.isDisjoint (x.intersection t.negate) = true := by
  rw [isDisjoint_iff acc _ ha (valid_intersection _ _ hx (valid_negate t ht))]
  intro c ⟨h1, h2⟩
  rw [eval_intersection _ _ hx (valid_negate t ht), eval_negate, Bool.and_eq_true] at h2
  rw [h c h2.1] at h2
  simp at h2

theorem exact_imp_iff (t : Term S) (v : V) : (Term.exact v : Term S).Imp t ↔ t.contains v = true := by
  rw [contains_eq_eval]
  constructor
  · intro h; exact h (some v) ((eval_exact v _).2 rfl)
  · intro h c hc
    rw [eval_exact] at hc; subst hc; exact h

end Term
end Terms

section Events
variable {P S V M Pr : Type} [DecidableEq P] [VersionSet S V] [DecidableEq S] [LawfulVersionSet S V]

/-- the assignments of one package as (global index, decision level, is a decision) -/
def PackageAssignments.events (pa : PackageAssignments S V) : List (Nat × Nat × Bool) :=
  pa.dated.map (fun dd => (dd.globalIndex, dd.decisionLevel, false)) ++
    (match pa.inter with | .decision g _ _ => [(g, pa.highest, true)] | _ => [])

theorem PartialSolution.allAssignments_eq (ps : PartialSolution P S V Pr) :
    ps.allAssignments = ps.assignments.flatMap fun kv => kv.2.events := rfl

/-- global indices and levels are ordered alike over all packages, a decision opens a new level, and
a global index identifies the package -/
def GMonoL (asg : List (P × PackageAssignments S V)) : Prop :=
  ∀ p pa q qa, (p, pa) ∈ asg → (q, qa) ∈ asg → ∀ a ∈ pa.events, ∀ b ∈ qa.events,
    (a.1 < b.1 → a.2.1 ≤ b.2.1 ∧ (b.2.2 = true → a.2.1 < b.2.1)) ∧ (a.1 = b.1 → p = q)

def PartialSolution.GMono (ps : PartialSolution P S V Pr) : Prop := GMonoL ps.assignments

theorem PartialSolution.GMono.levelMono {ps : PartialSolution P S V Pr} (h : ps.GMono) : ps.LevelMono := by
  intro a ha b hb hab
  rw [PartialSolution.allAssignments_eq, List.mem_flatMap] at ha hb
  obtain ⟨⟨p, pa⟩, hpa, ha⟩ := ha
  obtain ⟨⟨q, qa⟩, hqa, hb⟩ := hb
  exact (h p pa q qa hpa hqa a ha b hb).1 hab

theorem PackageAssignments.mem_events {pa : PackageAssignments S V} {a : Nat × Nat × Bool} :
    a ∈ pa.events ↔ (∃ dd ∈ pa.dated, (dd.globalIndex, dd.decisionLevel, false) = a) ∨
      ∃ g v t, pa.inter = .decision g v t ∧ a = (g, pa.highest, true) := by
  unfold PackageAssignments.events
  rw [List.mem_append, List.mem_map]
  refine or_congr Iff.rfl ?_
  cases pa.inter with
  | decision g v t =>
    rw [List.mem_singleton]
    refine ⟨fun e => ⟨g, v, t, rfl, e⟩, fun ⟨g', v', t', e, h⟩ => ?_⟩
    injection e with e1 _ _
    rw [e1]; exact h
  | derivations t => exact ⟨fun h => (nomatch h), fun ⟨_, _, _, e, _⟩ => (nomatch e)⟩

theorem PackageAssignments.mem_events_dated {pa : PackageAssignments S V} {dd : DatedDerivation S}
    (h : dd ∈ pa.dated) : (dd.globalIndex, dd.decisionLevel, false) ∈ pa.events :=
  mem_events.2 (Or.inl ⟨dd, h, rfl⟩)

theorem PackageAssignments.mem_events_decision {pa : PackageAssignments S V} {g : Nat} {v : V} {t : Term S}
    (h : pa.inter = .decision g v t) : (g, pa.highest, true) ∈ pa.events :=
  mem_events.2 (Or.inr ⟨g, v, t, h, rfl⟩)

theorem PackageAssignments.events_derivations {pa : PackageAssignments S V} {t : Term S}
    (h : pa.inter = .derivations t) :
    pa.events = pa.dated.map (fun dd => (dd.globalIndex, dd.decisionLevel, false)) := by
  unfold PackageAssignments.events
  rw [h]; simp

/-- the accumulated terms only shrink along the dated derivations -/
def PackageAssignments.Shrink (pa : PackageAssignments S V) : Prop :=
  pa.dated.Pairwise (fun a b => b.accumulated.Imp a.accumulated)


theorem getLast?_of_mem {α : Type} {l : List α} {x : α} (h : x ∈ l) : ∃ y, l.getLast? = some y := by
  cases hl : l.getLast? with
  | none => rw [List.getLast?_eq_none_iff] at hl; subst hl; cases h
  | some y => exact ⟨y, rfl⟩

theorem PackageAssignments.WFAt.inter_cases {dl n i : Nat} {pa : PackageAssignments S V} (h : pa.WFAt dl n i) :
    (∃ g v, pa.inter = .decision g v (Term.exact v) ∧ pa.highest = i + 1 ∧ g < n ∧
      (∀ dd ∈ pa.dated, dd.globalIndex < g) ∧
      (∀ dd, pa.dated.getLast? = some dd → dd.accumulated.contains v = true)) ∨
    (∃ t l f, pa.inter = .derivations t ∧ pa.highest ≤ dl ∧
      pa.dated.getLast? = some l ∧ pa.dated.head? = some f ∧ l.accumulated = t ∧
      l.decisionLevel = pa.highest ∧ f.decisionLevel = pa.smallest) := by
  by_cases hi : i < dl
  · exact Or.inl (h.decided hi)
  · exact Or.inr (h.undecided (Nat.le_of_not_lt hi))

theorem PackageAssignments.WFAt.of_decision {dl n i g : Nat} {v : V} {t : Term S} {pa : PackageAssignments S V}
    (h : pa.WFAt dl n i) (hd : pa.inter = .decision g v t) :
    t = Term.exact v ∧ pa.highest = i + 1 ∧ g < n ∧ (∀ dd ∈ pa.dated, dd.globalIndex < g) ∧
      ∀ dd, pa.dated.getLast? = some dd → dd.accumulated.contains v = true := by
  rcases h.inter_cases with ⟨g', v', h1, rest⟩ | ⟨t', l, f, h1, _⟩
  · rw [hd] at h1
    injection h1 with e1 e2 e3
    subst e1 e2
    exact ⟨e3, rest⟩
  · rw [hd] at h1; cases h1

theorem PackageAssignments.WFX.last {pa : PackageAssignments S V} (hx : pa.WFX) :
    ∃ l, pa.dated.getLast? = some l := by
  obtain ⟨f, hf, _⟩ := hx.head
  exact getLast?_of_mem (List.mem_of_mem_head? hf)

theorem PackageAssignments.events_bound {dl n i : Nat} {pa : PackageAssignments S V} (h : pa.WFAt dl n i)
    (hx : pa.WFX) (hi : pa.highest ≤ L) {a : Nat × Nat × Bool} (ha : a ∈ pa.events) :
    a.1 < n ∧ a.2.1 ≤ L := by
  rcases mem_events.1 ha with ⟨dd, hdd, rfl⟩ | ⟨g, v, t, hinter, rfl⟩
  · exact ⟨h.indices_lt dd hdd, Nat.le_trans (hx.le_highest dd hdd) hi⟩
  · exact ⟨(h.of_decision hinter).2.2.1, hi⟩

theorem PackageAssignments.term_imp_dated {dl n i : Nat} {pa : PackageAssignments S V} (h : pa.WFAt dl n i)
    (hs : pa.Shrink) {dd : DatedDerivation S} (hdd : dd ∈ pa.dated) : pa.inter.term.Imp dd.accumulated := by
  have hlast : ∀ l, pa.dated.getLast? = some l → l.accumulated.Imp dd.accumulated := by
    intro l hl
    rcases pairwise_getLast hs hl dd hdd with e | e
    · subst e; exact Term.Imp.refl _
    · exact e
  rcases h.inter_cases with ⟨g, v, h1, _, _, _, h5⟩ | ⟨t, l, f, h1, _, h3, _, h5, _⟩
  · rw [h1]
    simp only [AssignInter.term]
    obtain ⟨l, hl⟩ : ∃ l, pa.dated.getLast? = some l := getLast?_of_mem hdd
    exact Term.Imp.trans ((Term.exact_imp_iff _ v).2 (h5 l hl)) (hlast l hl)
  · rw [h1]
    simp only [AssignInter.term]
    rw [← h5]; exact hlast l h3

theorem PackageAssignments.termBefore_current {dl n i : Nat} {pa : PackageAssignments S V} (h : pa.WFAt dl n i)
    {g : Nat} (hg : n ≤ g) : pa.termBefore g = some pa.inter.term := by
  unfold PackageAssignments.termBefore
  rcases h.inter_cases with ⟨g', v, h1, _, h3, _⟩ | ⟨t, l, f, h1, _, h3, _, h5, _⟩
  · rw [h1]; simp only [AssignInter.term]
    rw [if_pos (Nat.lt_of_lt_of_le h3 hg)]
  · rw [h1]; simp only [AssignInter.term]
    have : pa.dated.filter (fun dd => Decidable.decide (dd.globalIndex < g)) = pa.dated := by
      rw [List.filter_eq_self]
      intro dd hdd
      simp only [decide_eq_true_eq]
      exact Nat.lt_of_lt_of_le (h.indices_lt dd hdd) hg
    rw [this, h3]; simp [h5]

theorem PackageAssignments.termBefore_eq_some {pa : PackageAssignments S V} {g : Nat} {t : Term S}
    (ht : pa.termBefore g = some t) :
    (∃ gd v, pa.inter = .decision gd v t ∧ gd < g) ∨
      ∃ dd ∈ pa.dated, dd.globalIndex < g ∧ dd.accumulated = t := by
  unfold PackageAssignments.termBefore at ht
  have hfrom : ((pa.dated.filter fun dd => Decidable.decide (dd.globalIndex < g)).getLast?).map (·.accumulated) = some t →
      ∃ dd ∈ pa.dated, dd.globalIndex < g ∧ dd.accumulated = t := by
    intro hh
    obtain ⟨dd, hdd, e⟩ := Option.map_eq_some_iff.1 hh
    have hm := List.mem_filter.1 (List.mem_of_getLast? hdd)
    exact ⟨dd, hm.1, of_decide_eq_true hm.2, e⟩
  split at ht
  · rename_i gd v t' hinter
    split at ht
    · rename_i hlt
      injection ht with ht; subst ht
      exact Or.inl ⟨gd, v, hinter, hlt⟩
    · exact Or.inr (hfrom ht)
  · exact Or.inr (hfrom ht)

theorem PackageAssignments.termBefore_eq_dated {pa : PackageAssignments S V} {g : Nat}
    (h : ∀ gd v t, pa.inter = .decision gd v t → ¬ gd < g) :
    pa.termBefore g =
      ((pa.dated.filter fun dd => Decidable.decide (dd.globalIndex < g)).getLast?).map (·.accumulated) := by
  unfold PackageAssignments.termBefore
  split
  · rename_i gd v t hinter
    exact if_neg (h gd v t hinter)
  · rfl

/-- the term `t` is satisfied by the assignments of the package with global index below `g` -/
def PackageAssignments.SatBefore (pa : PackageAssignments S V) (t : Term S) (g : Nat) : Prop :=
  ∃ t0, pa.termBefore g = some t0 ∧ t0.Imp t

theorem PackageAssignments.SatBefore.imp {dl n i : Nat} {pa : PackageAssignments S V} {g : Nat} {t : Term S}
    (h : pa.SatBefore t g) (hw : pa.WFAt dl n i) (hs : pa.Shrink) : pa.inter.term.Imp t := by
  obtain ⟨t0, ht0, himp⟩ := h
  refine Term.Imp.trans ?_ himp
  rcases termBefore_eq_some ht0 with ⟨gd, v, hinter, _⟩ | ⟨dd, hdd, _, rfl⟩
  · rw [hinter]; exact Term.Imp.refl _
  · exact term_imp_dated hw hs hdd

theorem PackageAssignments.termBefore_valid {pa : PackageAssignments S V} (hv : pa.TermsValid)
    {g : Nat} {t : Term S} (ht : pa.termBefore g = some t) : t.Valid := by
  rcases termBefore_eq_some ht with ⟨gd, v, hinter, _⟩ | ⟨dd, hdd, _, rfl⟩
  · have := hv.inter; rw [hinter] at this; exact this
  · exact hv.dated dd hdd

theorem PackageAssignments.termBefore_pushDD {pa : PackageAssignments S V} {t0 : Term S}
    (h0 : pa.inter = .derivations t0) (dl next cause : Nat) (t' : Term S) {g : Nat} (hg : g ≤ next) :
    (pa.pushDD dl next cause t').termBefore g = pa.termBefore g := by
  unfold PackageAssignments.termBefore PackageAssignments.pushDD
  simp only [h0, List.filter_append, List.filter_cons, List.filter_nil]
  rw [if_neg (by simp only [decide_eq_true_eq]; omega)]
  simp

theorem PackageAssignments.termBefore_decide {pa : PackageAssignments S V} {t0 : Term S}
    (h0 : pa.inter = .derivations t0) (dl next : Nat) (v : V) {g : Nat} (hg : g ≤ next) :
    (pa.decide dl next v).termBefore g = pa.termBefore g := by
  unfold PackageAssignments.termBefore PackageAssignments.decide
  simp only [h0]
  rw [if_neg (by omega)]

end Events

end Pubgrub
