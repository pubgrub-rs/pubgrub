/-
Property C18: `OfflineDependencyProvider` (`/repo/src/solver.rs`) refines the abstract map
"last write wins".

`run ops` is the store after the sequence `ops` of `add_dependencies` calls (starting from
`OfflineDependencyProvider::new()`).  The theorems relate every query of the model
(`getDependencies`, `versionsOf`, `packages`, `chooseVersion`, `matchingCount`) to the plain list of
calls `ops`.
-/
import PubgrubModel.Offline
import PubgrubProofs.Defs
import PubgrubProofs.AssocListLaws

namespace Pubgrub
namespace Offline

namespace Aux

theorem nodup_eraseDups {β : Type} [DecidableEq β] (l : List β) : l.eraseDups.Nodup := by
  generalize hn : l.length = n
  induction n using Nat.strong_induction_on generalizing l with
  | _ n ih =>
    cases l with
    | nil => simp
    | cons a as =>
      rw [List.eraseDups_cons, List.nodup_cons]
      constructor
      · simp
      · have hlt : (as.filter fun b => !b == a).length < n := by
          have := List.length_filter_le (fun b => !b == a) as
          simp at hn
          omega
        exact ih _ hlt _ rfl

section Max
variable {V : Type} [LinearOrder V]

/-- the step of the fold in `chooseVersion` -/
def step (best : Option V) (v : V) : Option V :=
  match best with
  | none => some v
  | some b => if b < v then some v else some b

theorem foldl_step_some (l : List V) (b : V) :
    ∃ v, l.foldl step (some b) = some v ∧ (v = b ∨ v ∈ l) ∧ b ≤ v ∧ ∀ w ∈ l, w ≤ v := by
  induction l generalizing b with
  | nil => exact ⟨b, rfl, Or.inl rfl, le_refl _, by simp⟩
  | cons x l ih =>
    rw [List.foldl_cons]
    by_cases hx : b < x
    · obtain ⟨v, h1, h2, h3, h4⟩ := ih x
      refine ⟨v, by simpa [step, hx] using h1, ?_, by order, ?_⟩
      · rcases h2 with rfl | h2
        · exact Or.inr List.mem_cons_self
        · exact Or.inr (List.mem_cons_of_mem _ h2)
      · intro w hw
        rcases List.mem_cons.mp hw with rfl | hw
        · exact h3
        · exact h4 w hw
    · obtain ⟨v, h1, h2, h3, h4⟩ := ih b
      refine ⟨v, by simpa [step, hx] using h1, ?_, h3, ?_⟩
      · rcases h2 with rfl | h2
        · exact Or.inl rfl
        · exact Or.inr (List.mem_cons_of_mem _ h2)
      · intro w hw
        rcases List.mem_cons.mp hw with rfl | hw
        · order
        · exact h4 w hw

theorem foldl_step_none_eq_some_iff (l : List V) (v : V) :
    l.foldl step none = some v ↔ v ∈ l ∧ ∀ w ∈ l, w ≤ v := by
  cases l with
  | nil => simp
  | cons x l =>
    rw [List.foldl_cons]
    obtain ⟨u, h1, h2, h3, h4⟩ := foldl_step_some l x
    have hs : step none x = some x := rfl
    rw [hs, h1]
    have hu : u ∈ x :: l := by
      rcases h2 with rfl | h2
      · exact List.mem_cons_self
      · exact List.mem_cons_of_mem _ h2
    have hub : ∀ w ∈ x :: l, w ≤ u := by
      intro w hw
      rcases List.mem_cons.mp hw with rfl | hw
      · exact h3
      · exact h4 w hw
    constructor
    · intro e
      simp only [Option.some.injEq] at e
      subst e
      exact ⟨hu, hub⟩
    · rintro ⟨hv, hvb⟩
      have := hub v hv
      have := hvb u hu
      congr 1
      order

theorem foldl_step_none_eq_none_iff (l : List V) : l.foldl step none = none ↔ l = [] := by
  cases l with
  | nil => simp
  | cons x l =>
    rw [List.foldl_cons]
    obtain ⟨u, h1, -⟩ := foldl_step_some l x
    have hs : step none x = some x := rfl
    rw [hs, h1]
    simp

end Max
end Aux

/-- one call `add_dependencies(p, v, deps)` -/
structure AddOp (P S V : Type) where
  p : P
  v : V
  deps : List (P × S)

variable {P S V : Type} [DecidableEq P] [DecidableEq V]

/-- the provider after the calls `ops` (in order) on `OfflineDependencyProvider::new()` -/
def run (ops : List (AddOp P S V)) : Offline P S V :=
  ops.foldl (fun o op => o.addDependencies op.p op.v op.deps) Offline.empty

/-- `Reverse<usize>`: the comparison of `std::cmp::Reverse` on the wrapped counts -/
def cmpReverse (a b : Nat) : Ordering := compare b a

/-! ### `collectDeps`: duplicate dependency entries collapse, the last one wins -/

theorem collectDeps_spec (deps : List (P × S)) (q : P) :
    SmallMap.get (collectDeps deps) q = (deps.reverse.find? (fun d => d.1 = q)).map (·.2) := by
  unfold collectDeps
  rw [AssocList.get_foldl_insert (fun d : P × S => d.1) (fun d => d.2)]
  simp [SmallMap.get]

theorem collectDeps_nodup (deps : List (P × S)) : ((collectDeps deps).map Prod.fst).Nodup := by
  unfold collectDeps
  exact AssocList.nodup_keys_foldl_insert (fun d : P × S => d.1) (fun d => d.2) deps [] (by simp)

theorem mem_keys_collectDeps (deps : List (P × S)) (q : P) :
    q ∈ (collectDeps deps).map Prod.fst ↔ q ∈ deps.map Prod.fst := by
  unfold collectDeps
  rw [AssocList.mem_keys_foldl_insert (fun d : P × S => d.1) (fun d => d.2)]
  simp

theorem mem_collectDeps_iff (deps : List (P × S)) (q : P) (s : S) :
    (q, s) ∈ collectDeps deps ↔ (deps.reverse.find? (fun d => d.1 = q)).map (·.2) = some s := by
  rw [← collectDeps_spec, AssocList.get_eq_some_iff_mem _ (collectDeps_nodup deps)]

theorem run_eq (ops : List (AddOp P S V)) :
    run ops = ops.foldl (fun (m : SmallMap (P × V) (List (P × S))) op =>
      SmallMap.insert m (op.p, op.v) (collectDeps op.deps)) [] := rfl

theorem run_nodupKeys (ops : List (AddOp P S V)) : ((run ops).map Prod.fst).Nodup := by
  rw [run_eq]
  exact AssocList.nodup_keys_foldl_insert (fun op : AddOp P S V => (op.p, op.v))
    (fun op => collectDeps op.deps) ops [] (by simp)

theorem mem_keys_run (ops : List (AddOp P S V)) (p : P) (v : V) :
    (p, v) ∈ (run ops).map Prod.fst ↔ ∃ op ∈ ops, op.p = p ∧ op.v = v := by
  rw [run_eq, AssocList.mem_keys_foldl_insert (fun op : AddOp P S V => (op.p, op.v))
    (fun op => collectDeps op.deps)]
  simp

/-! ### `get_dependencies`: the last call for `(p, v)` wins -/

theorem getDependencies_run (ops : List (AddOp P S V)) (p : P) (v : V) :
    getDependencies (run ops) p v =
      (ops.reverse.find? (fun op => op.p = p ∧ op.v = v)).map (fun op => collectDeps op.deps) := by
  unfold getDependencies
  rw [run_eq, AssocList.get_foldl_insert (fun op : AddOp P S V => (op.p, op.v))
    (fun op => collectDeps op.deps)]
  simp [SmallMap.get]

/-- `Dependencies::Unavailable` exactly for the pairs never added -/
theorem getDependencies_run_eq_none_iff (ops : List (AddOp P S V)) (p : P) (v : V) :
    getDependencies (run ops) p v = none ↔ ∀ op ∈ ops, ¬ (op.p = p ∧ op.v = v) := by
  rw [getDependencies_run]
  simp

/-- `Dependencies::Available` exactly for the pairs added -/
theorem getDependencies_run_isSome_iff (ops : List (AddOp P S V)) (p : P) (v : V) :
    (getDependencies (run ops) p v).isSome ↔ ∃ op ∈ ops, op.p = p ∧ op.v = v := by
  rw [getDependencies_run]
  simp

theorem getDependencies_run_append (ops rest : List (AddOp P S V)) (op : AddOp P S V)
    (h : ∀ op' ∈ rest, ¬ (op'.p = op.p ∧ op'.v = op.v)) :
    getDependencies (run (ops ++ op :: rest)) op.p op.v = some (collectDeps op.deps) := by
  rw [getDependencies_run, List.reverse_append, List.reverse_cons, List.append_assoc,
    List.find?_append]
  have : List.find? (fun op' => decide (op'.p = op.p ∧ op'.v = op.v)) rest.reverse = none := by
    simpa using h
  rw [this]
  simp

omit [DecidableEq V] in
theorem mem_versionsOf_iff (o : Offline P S V) (p : P) (v : V) :
    v ∈ versionsOf o p ↔ (p, v) ∈ o.map Prod.fst := by
  unfold versionsOf
  simp only [List.mem_map, List.mem_filter, decide_eq_true_eq]
  constructor
  · rintro ⟨e, ⟨he, rfl⟩, rfl⟩
    exact ⟨e, he, rfl⟩
  · rintro ⟨e, he, h⟩
    exact ⟨e, ⟨he, by rw [h]⟩, by rw [h]⟩

omit [DecidableEq V] in
theorem versionsOf_nodup_of (o : Offline P S V) (h : (o.map Prod.fst).Nodup) (p : P) :
    (versionsOf o p).Nodup := by
  unfold versionsOf
  induction o with
  | nil => simp
  | cons e o ih =>
    simp only [List.map_cons, List.nodup_cons] at h
    rw [List.filter_cons]
    split
    · rename_i hp
      simp only [decide_eq_true_eq] at hp
      rw [List.map_cons, List.nodup_cons]
      refine ⟨?_, ih h.2⟩
      intro hm
      have := (mem_versionsOf_iff o p e.1.2).mp hm
      apply h.1
      rw [← hp] at this
      exact this
    · exact ih h.2

theorem mem_versionsOf_run (ops : List (AddOp P S V)) (p : P) (v : V) :
    v ∈ versionsOf (run ops) p ↔ ∃ op ∈ ops, op.p = p ∧ op.v = v := by
  rw [mem_versionsOf_iff, mem_keys_run]

theorem versionsOf_nodup (ops : List (AddOp P S V)) (p : P) : (versionsOf (run ops) p).Nodup :=
  versionsOf_nodup_of _ (run_nodupKeys ops) p

omit [DecidableEq V] in
theorem mem_packages_iff (o : Offline P S V) (q : P) :
    q ∈ packages o ↔ ∃ v, (q, v) ∈ o.map Prod.fst := by
  unfold packages
  rw [List.mem_eraseDups]
  simp only [List.mem_map]
  constructor
  · rintro ⟨e, he, rfl⟩
    exact ⟨e.1.2, e, he, rfl⟩
  · rintro ⟨v, e, he, h⟩
    exact ⟨e, he, by rw [h]⟩

theorem mem_packages_run (ops : List (AddOp P S V)) (q : P) :
    q ∈ packages (run ops) ↔ ∃ op ∈ ops, op.p = q := by
  rw [mem_packages_iff]
  constructor
  · rintro ⟨v, h⟩
    obtain ⟨op, hop, h1, -⟩ := (mem_keys_run ops q v).mp h
    exact ⟨op, hop, h1⟩
  · rintro ⟨op, hop, h1⟩
    exact ⟨op.v, (mem_keys_run ops q op.v).mpr ⟨op, hop, h1, rfl⟩⟩

omit [DecidableEq V] in
theorem packages_nodup_of (o : Offline P S V) : (packages o).Nodup :=
  Aux.nodup_eraseDups _

theorem packages_nodup (ops : List (AddOp P S V)) : (packages (run ops)).Nodup :=
  packages_nodup_of _

omit [DecidableEq V] in
/-- `versions(p)` is `None` (here: empty) exactly for the packages never added -/
theorem versionsOf_eq_nil_iff (o : Offline P S V) (p : P) :
    versionsOf o p = [] ↔ p ∉ packages o := by
  rw [mem_packages_iff, List.eq_nil_iff_forall_not_mem]
  simp only [mem_versionsOf_iff, not_exists]

/-! ### `choose_version`: the greatest added version inside the set -/

section Choose
variable {V : Type} [LinearOrder V] [VersionSet S V]

theorem chooseVersion_eq_foldl (o : Offline P S V) (p : P) (s : S) :
    chooseVersion o p s =
      ((versionsOf o p).filter fun v => VersionSet.contains s v).foldl Aux.step none := rfl

theorem chooseVersion_eq_some_iff (o : Offline P S V) (p : P) (s : S) (v : V) :
    chooseVersion o p s = some v ↔
      (v ∈ versionsOf o p ∧ VersionSet.contains s v = true ∧
        ∀ w ∈ versionsOf o p, VersionSet.contains s w = true → w ≤ v) := by
  rw [chooseVersion_eq_foldl, Aux.foldl_step_none_eq_some_iff]
  simp only [List.mem_filter, and_imp, and_assoc]

theorem chooseVersion_eq_none_iff (o : Offline P S V) (p : P) (s : S) :
    chooseVersion o p s = none ↔ ∀ w ∈ versionsOf o p, VersionSet.contains s w = false := by
  rw [chooseVersion_eq_foldl, Aux.foldl_step_none_eq_none_iff, List.filter_eq_nil_iff]
  simp

theorem chooseVersion_spec (ops : List (AddOp P S V)) (p : P) (s : S) (v : V) :
    chooseVersion (run ops) p s = some v ↔
      (v ∈ versionsOf (run ops) p ∧ VersionSet.contains s v = true ∧
        ∀ w ∈ versionsOf (run ops) p, VersionSet.contains s w = true → w ≤ v) :=
  chooseVersion_eq_some_iff _ p s v

theorem chooseVersion_none_spec (ops : List (AddOp P S V)) (p : P) (s : S) :
    chooseVersion (run ops) p s = none ↔
      ∀ w ∈ versionsOf (run ops) p, VersionSet.contains s w = false :=
  chooseVersion_eq_none_iff _ p s

theorem chooseVersion_run (ops : List (AddOp P S V)) (p : P) (s : S) (v : V) :
    chooseVersion (run ops) p s = some v ↔
      ((∃ op ∈ ops, op.p = p ∧ op.v = v) ∧ VersionSet.contains s v = true ∧
        ∀ op ∈ ops, op.p = p → VersionSet.contains s op.v = true → op.v ≤ v) := by
  rw [chooseVersion_spec, mem_versionsOf_run]
  constructor
  · rintro ⟨h1, h2, h3⟩
    refine ⟨h1, h2, ?_⟩
    intro op hop hp hc
    exact h3 op.v ((mem_versionsOf_run ops p op.v).mpr ⟨op, hop, hp, rfl⟩) hc
  · rintro ⟨h1, h2, h3⟩
    refine ⟨h1, h2, ?_⟩
    intro w hw hc
    obtain ⟨op, hop, hp, rfl⟩ := (mem_versionsOf_run ops p w).mp hw
    exact h3 op hop hp hc

theorem chooseVersion_run_none (ops : List (AddOp P S V)) (p : P) (s : S) :
    chooseVersion (run ops) p s = none ↔
      ∀ op ∈ ops, op.p = p → VersionSet.contains s op.v = false := by
  rw [chooseVersion_none_spec]
  constructor
  · intro h op hop hp
    exact h op.v ((mem_versionsOf_run ops p op.v).mpr ⟨op, hop, hp, rfl⟩)
  · intro h w hw
    obtain ⟨op, hop, hp, rfl⟩ := (mem_versionsOf_run ops p w).mp hw
    exact h op hop hp

end Choose

section Prioritize
variable [VersionSet S V]

omit [DecidableEq V] in
theorem matchingCount_spec (o : Offline P S V) (p : P) (s : S) :
    matchingCount o p s = ((versionsOf o p).filter (fun v => VersionSet.contains s v)).length := rfl

omit [DecidableEq V] in
theorem matchingCount_le (o : Offline P S V) (p : P) (s : S) :
    matchingCount o p s ≤ (versionsOf o p).length :=
  List.length_filter_le _ _

omit [DecidableEq V] in
theorem matchingCount_eq_zero_iff (o : Offline P S V) (p : P) (s : S) :
    matchingCount o p s = 0 ↔ ∀ w ∈ versionsOf o p, VersionSet.contains s w = false := by
  rw [matchingCount_spec, List.length_eq_zero_iff, List.filter_eq_nil_iff]
  simp

/-- `Reverse(count)`: fewer matching versions is a strictly higher priority -/
theorem prioritize_order (c1 c2 : Nat) (h : c1 < c2) : cmpReverse c1 c2 = .gt := by
  unfold cmpReverse
  exact Nat.compare_eq_gt.mpr h

theorem prioritize_order_iff (c1 c2 : Nat) : cmpReverse c1 c2 = .gt ↔ c1 < c2 := by
  unfold cmpReverse
  exact Nat.compare_eq_gt

omit [DecidableEq V] in
theorem prioritize_run (o : Offline P S V) (p1 p2 : P) (s1 s2 : S)
    (h : matchingCount o p1 s1 < matchingCount o p2 s2) :
    cmpReverse (matchingCount o p1 s1) (matchingCount o p2 s2) = .gt :=
  prioritize_order _ _ h

end Prioritize

/-! ### Non-vacuity: an overwrite and a duplicate dependency entry -/

section Example

/-- versions `0..3`; bit `i` = version `i` -/
private def bs (b0 b1 b2 b3 : Bool) : BitSet 4 := ⟨[b0, b1, b2, b3]⟩

/-- `add(0, 1, [(1, A), (2, B), (1, C)])`, `add(0, 3, [])`, `add(1, 2, [(2, A)])`,
`add(0, 1, [(2, C)])` (overwrites the first call) -/
private def exOps : List (AddOp Nat (BitSet 4) Nat) :=
  [ ⟨0, 1, [(1, bs true false false false), (2, bs false true false false),
            (1, bs false false true false)]⟩,
    ⟨0, 3, []⟩,
    ⟨1, 2, [(2, bs true false false false)]⟩,
    ⟨0, 1, [(2, bs false false true false)]⟩ ]

-- the duplicate dependency entry for package `1` collapses, the last one wins
example : collectDeps [(1, bs true false false false), (2, bs false true false false),
    (1, bs false false true false)] =
    [(1, bs false false true false), (2, bs false true false false)] := by decide

-- the second call for `(0, 1)` overwrites the first
example : getDependencies (run exOps) 0 1 = some [(2, bs false false true false)] := by decide
example : getDependencies (run (exOps.take 3)) 0 1 =
    some [(1, bs false false true false), (2, bs false true false false)] := by decide
example : getDependencies (run exOps) 0 3 = some [] := by decide
example : getDependencies (run exOps) 0 2 = none := by decide
example : getDependencies (run exOps) 2 0 = none := by decide
example : versionsOf (run exOps) 0 = [1, 3] := by decide
example : packages (run exOps) = [0, 1] := by decide
-- the greatest added version of package `0` inside `{0, 1, 2}` is `1`; inside `{1, 3}` it is `3`
example : chooseVersion (run exOps) 0 (bs true true true false) = some 1 := by decide
example : chooseVersion (run exOps) 0 (bs false true false true) = some 3 := by decide
example : chooseVersion (run exOps) 0 (bs true false true false) = none := by decide
example : chooseVersion (run exOps) 2 (bs true true true true) = none := by decide
example : matchingCount (run exOps) 0 (bs false true false true) = 2 := by decide
example : matchingCount (run exOps) 1 (bs true true true true) = 1 := by decide
-- package `1` (one matching version) ranks strictly above package `0` (two matching versions)
example : cmpReverse (matchingCount (run exOps) 1 (bs true true true true))
    (matchingCount (run exOps) 0 (bs false true false true)) = .gt := by decide

-- the abstract theorems instantiate at the concrete types of the driver (`Nat` versions with
-- `BitSet 4` / `Range Nat` sets): no instance mismatch between `LinearOrder Nat` and the model
example (ops : List (AddOp Nat (BitSet 4) Nat)) (s : BitSet 4) :
    chooseVersion (run ops) 0 s = some 1 ↔ (1 ∈ versionsOf (run ops) 0 ∧
      VersionSet.contains s 1 = true ∧
      ∀ w ∈ versionsOf (run ops) 0, VersionSet.contains s w = true → w ≤ 1) :=
  chooseVersion_spec ops 0 s 1
example (ops : List (AddOp Nat (Range Nat) Nat)) (s : Range Nat) :
    chooseVersion (run ops) 0 s = none ↔
      ∀ w ∈ versionsOf (run ops) 0, VersionSet.contains s w = false :=
  chooseVersion_none_spec ops 0 s

end Example

end Offline
end Pubgrub
