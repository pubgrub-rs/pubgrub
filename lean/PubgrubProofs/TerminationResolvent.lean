/-
One step of conflict resolution moves the satisfier strictly earlier: what the satisfier search returns,
and the resolvent is satisfied before the old satisfier.
-/
import PubgrubProofs.NonEmpty
import PubgrubProofs.TerminationAccInv
import PubgrubProofs.TerminationSatBefore

set_option linter.unusedSectionVars false

namespace Pubgrub
open VersionSet

section
variable {P S V M Pr : Type} [DecidableEq P] [VersionSet S V] [DecidableEq S] [LawfulVersionSet S V]

/-- with canonical emptiness, a valid term that every choice makes true is `any` -/
theorem Term.eq_any_of_eval_all (ce : CanonEmpty S V) {t : Term S} (hv : t.Valid)
    (h : ∀ x : Option V, t.eval x = true) : t = (Term.any : Term S) := by
  cases t with
  | pos s => have := h none; simp [Term.eval] at this
  | neg s =>
    have : s = (VersionSet.empty : S) := by
      apply ce s hv
      intro v
      have := h (some v)
      simp only [Term.eval] at this
      cases hc : VersionSet.contains s v
      · rfl
      · rw [hc] at this; cases this
    subst this; rfl

theorem PartialSolution.satisfierSearch_same {root : P} {rv : V} {ps : PartialSolution P S V Pr}
    {store : List (Incompat P S V M)} (ctx : SearchCtx root rv ps store) (hsh : ∀ kv ∈ ps.assignments, kv.2.Shrink)
    {inc : Incompat P S V M}
    (hn : SmallMap.NoDupKeys inc.terms) (hsv : inc.SetsValid) (hsat : ps.Satisfies inc) {g : Nat}
    (hnt : inc.isTerminal root rv = false) (hbefore : ps.SatBefore inc g) {pkg : P} {c : Nat}
    (hss : ps.satisfierSearch inc store = .ok (pkg, .sameDecisionLevels c)) :
    ∃ pa dd tp, ps.getPA pkg = some pa ∧ dd ∈ pa.dated ∧ dd.cause = c ∧ inc.get pkg = some tp ∧
      dd.accumulated.Imp tp ∧ dd.globalIndex < g ∧
      ∀ q t, (q, t) ∈ inc.terms → q ≠ pkg → ∃ qa, ps.getPA q = some qa ∧ qa.SatBefore t dd.globalIndex := by
  have hw := ctx.wf
  obtain ⟨m, sg, sl, hm, hmap, hy'⟩ := ((satisfierSearch_post ctx hn hsv hsat hnt).of_ok hss).2 c rfl
  have hymem := maxByIndex_mem m _ hy'
  have hymax := maxByIndex_max m _ hy'
  -- the latest entry of the map is what `satisfier` returned for its package
  obtain ⟨tp, pa, htp, hpa, hsatp⟩ := findSatisfier_go_exact ps inc.terms inc.terms [] m hm (fun _ _ x => x)
    (fun q s hx => nomatch hx) _ _ hymem
  have hpam := SmallMap.mem_of_get hpa
  obtain ⟨i, _, hwf, _⟩ := hw.entry_of_getPA hpa
  have hpav := ctx.tv _ hpam
  have htpv : tp.Valid := hsv _ _ htp
  have hissat := (satisfier_spec hsatp hwf.indices).1
  obtain ⟨dd, hdd, hdis, he1, he2, _⟩ := hissat.of_some
  refine ⟨pa, dd, tp, hpa, hdd, he1, SmallMap.get_of_mem hn htp,
    Term.imp_of_disjoint_negate (hpav.dated dd hdd) htpv hdis, ?_, ?_⟩
  · -- the satisfier is before `g`
    obtain ⟨pa', hpa', hb⟩ := hbefore _ _ htp
    rw [hpa] at hpa'; injection hpa' with hpa'; subst hpa'
    have := hb.satisfier_lt hwf hpav htpv hsatp
    simp only at this
    omega
  · intro q t hqt hq
    obtain ⟨qa, hqa, himp⟩ := hsat q t hqt
    have hqam := SmallMap.mem_of_get hqa
    obtain ⟨s, hs⟩ := Option.isSome_iff_exists.1 (hmap.complete q t hqt)
    have hsm := SmallMap.mem_of_get hs
    obtain ⟨t', qa', ht', hqa', hsatq⟩ := hmap.sound _ _ hsm
    rw [hqa] at hqa'; injection hqa' with hqa'; subst hqa'
    have ett : t' = t := by
      have h1 := SmallMap.get_of_mem hn ht'
      have h2 := SmallMap.get_of_mem hn hqt
      rw [h1] at h2; injection h2
    subst ett
    have hle := hymax _ hsm
    simp only at hle
    have hne : s.2.1 ≠ sg := by
      intro e
      obtain ⟨b1, hb1⟩ := hsatq.event
      obtain ⟨b2, hb2⟩ := hissat.event
      exact hq ((ctx.gmono q qa pkg pa hqam hpam _ hb1 _ hb2).2 e)
    refine ⟨qa, hqa, PackageAssignments.satBefore_of_satisfier (ctx.tv _ hqam) (hsh _ hqam)
      (hsv _ _ hqt) himp hsatq ?_⟩
    omega

theorem satBefore_priorCause (ce : CanonEmpty S V) (W : World P S V M) (root : P) (rv : V)
    {st : State P S V M Pr} (hs : SInv W root rv st) (ht : TInv root rv st) (hacc : st.AccInv)
    {inc causeInc prior : Incompat P S V M} {cur c : Nat} (hinc : st.store[cur]? = some inc)
    (hcause : st.store[c]? = some causeInc)
    {pkg : P} {pa : PackageAssignments S V} {dd : DatedDerivation S} {tp : Term S}
    (hpa : st.ps.getPA pkg = some pa) (hdd : dd ∈ pa.dated) (hc : dd.cause = c)
    (htp : inc.get pkg = some tp) (himp : dd.accumulated.Imp tp)
    (hoth : ∀ q t, (q, t) ∈ inc.terms → q ≠ pkg →
      ∃ qa, st.ps.getPA q = some qa ∧ qa.SatBefore t dd.globalIndex)
    (hprior : Incompat.priorCause cur c inc causeInc pkg = .ok prior) :
    st.ps.SatBefore prior dd.globalIndex := by
  have gi := hs.store cur inc hinc
  have gc := hs.store c causeInc hcause
  have hpam := SmallMap.mem_of_get hpa
  subst hc
  refine Incompat.priorCause_terms gi.nodup gc.nodup hprior
    (R := fun k t => ∃ par, st.ps.getPA k = some par ∧ par.SatBefore t dd.globalIndex) hoth
    (fun k b hb hk => ht.cause.satBefore W root rv hs hpam hdd hcause hb hk) ?_ ?_
  · intro k a b ha hb ⟨par, k1, ta, k2, k3⟩ ⟨par', k4, tb, k5, k6⟩
    rw [k1] at k4; injection k4 with k4; subst k4
    rw [k2] at k5; injection k5 with k5; subst k5
    exact ⟨par, k1, ta, k2, k3.inter (gi.sets _ _ ha) (gc.sets _ _ hb) k6⟩
  · -- the pivot: a choice of the term before the derivation that the cause's term excludes is one of the
    -- accumulated term, hence of the incompatibility's term
    intro t1 t2 h1 h2 hne
    obtain rfl : t1 = tp := Option.some.inj ((SmallMap.get_of_mem gi.nodup h1).symm.trans htp)
    have v1 : t1.Valid := gi.sets _ _ h1
    have v2 : t2.Valid := gc.sets _ _ h2
    obtain ⟨inc0, c0, a1, a2, a3⟩ := hacc pkg pa hpam dd hdd
    rw [hcause] at a1; injection a1 with a1; subst a1
    obtain rfl : c0 = t2 := Option.some.inj (a2.symm.trans (SmallMap.get_of_mem gc.nodup h2))
    have hunion : ∀ x : Option V, (∀ t, pa.termBefore dd.globalIndex = some t → t.eval x = true) →
        (Term.union t1 c0).eval x = true := by
      intro x hx
      rw [Term.eval_union _ _ v1 v2]
      cases h2 : c0.eval x with
      | true => simp
      | false => rw [himp x (a3 x hx h2)]; rfl
    cases htb : pa.termBefore dd.globalIndex with
    | some tb =>
      refine ⟨pa, hpa, tb, htb, fun x hx => hunion x fun t ht' => ?_⟩
      rw [htb] at ht'; injection ht' with ht'; subst ht'; exact hx
    | none =>
      refine absurd (Term.eq_any_of_eval_all ce (Term.valid_union _ _ v1 v2) fun x => hunion x fun t ht' => ?_) hne
      rw [htb] at ht'; cases ht'

end
end Pubgrub
