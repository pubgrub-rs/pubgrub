/-
The satisfier search only panics at the sites excluded by `no_satisfier_panic`; conflict resolution, the
propagation loops and `unit_propagation` do not panic and keep `XInv`.
-/
import PubgrubProofs.OperationsNoPanic
import PubgrubProofs.LoopRules

set_option linter.unusedSectionVars false

namespace Pubgrub
open VersionSet

section
variable {P S V M Pr : Type} [DecidableEq P] [VersionSet S V] [DecidableEq S] [DecidableEq V]
  [LawfulVersionSet S V]

namespace PartialSolution

theorem satisfier_fine (pa : PackageAssignments S V) (start : Term S) :
    Fine (satisfier pa start) (fun r => ∀ c, r.1 = some c → ∃ dd ∈ pa.dated, dd.cause = c) := by
  unfold satisfier
  split
  · rename_i dd hdd
    refine Fine.ok ?_
    intro c hc
    injection hc with hc
    exact ⟨dd, List.mem_of_find?_eq_some hdd, hc⟩
  · split
    · exact Fine.ok (fun c hc => by cases hc)
    · exact Fine.panic (by is_listed)

/-- the causes recorded in the satisfier map are causes of dated derivations -/
def CausesFrom (ps : PartialSolution P S V Pr) (m : SmallMap P (Option Nat × Nat × Nat)) : Prop :=
  ∀ q r, (q, r) ∈ m → ∀ c, r.1 = some c → ∃ p pa dd, ps.getPA p = some pa ∧ dd ∈ pa.dated ∧ dd.cause = c

theorem findSatisfier_go_fine (ps : PartialSolution P S V Pr) :
    ∀ (terms : List (P × Term S)) (acc : SmallMap P (Option Nat × Nat × Nat)), ps.CausesFrom acc →
    Fine (terms.foldlM (m := R) (fun acc (pt : P × Term S) => do
      let pa ← unwrapOr (ps.getPA pt.1) "find_satisfier: Must exist"
      let s ← satisfier pa pt.2.negate
      pure (SmallMap.insert acc pt.1 s)) acc) ps.CausesFrom := by
  intro terms
  induction terms with
  | nil => intro acc h; exact Fine.pure' h
  | cons x rest ih =>
    intro acc h
    simp only [List.foldlM_cons]
    refine Fine.bind (Q := ps.CausesFrom) ?_ (fun acc' _ h' => ih acc' h')
    refine Fine.bind (Fine.unwrapOr (Q := fun pa => ps.getPA x.1 = some pa) (fun _ => by is_listed)
      (fun a ha => ha)) ?_
    intro pa _ hpa
    refine Fine.bind (satisfier_fine pa x.2.negate) ?_
    intro s _ hs
    refine Fine.pure' ?_
    intro q r hm c hc
    rcases SmallMap.mem_insert_sub hm with e | hm'
    · injection e with e1 e2; subst e2
      obtain ⟨dd, hdd, hcc⟩ := hs c hc
      exact ⟨x.1, pa, dd, hpa, hdd, hcc⟩
    · exact h q r hm' c hc

theorem findSatisfier_fine (ps : PartialSolution P S V Pr) (terms : List (P × Term S)) :
    Fine (ps.findSatisfier terms) ps.CausesFrom := by
  unfold findSatisfier
  exact findSatisfier_go_fine ps terms [] (fun q r hm => by cases hm)

theorem prevAccum_fine (sp : P) (pa : PackageAssignments S V) (store : List (Incompat P S V M))
    (sc : Option Nat) (hsc : ∀ c, sc = some c → c < store.length) :
    Fine (prevAccum sp pa store sc) (fun _ => True) := by
  unfold prevAccum
  split
  · rename_i cause
    have hlt := hsc cause rfl
    have hget : store[cause]? = some store[cause] := List.getElem?_eq_getElem hlt
    rw [storeGet_some hget]
    refine Fine.bind (Q := fun _ => True) (Fine.ok trivial) ?_
    intro c _ _
    refine Fine.bind (Fine.unwrapOr (Q := fun _ => True) (fun _ => by is_listed) (fun _ _ => trivial)) ?_
    intro t _ _
    exact Fine.pure' trivial
  · split
    · exact Fine.throw' (by is_listed)
    · exact Fine.pure' trivial

theorem prevTail_fine (inc : Incompat P S V M) (sp : P) (m : SmallMap P (Option Nat × Nat × Nat))
    (pa : PackageAssignments S V) (accum : Term S) :
    Fine (prevTail inc sp m pa accum) (fun _ => True) := by
  unfold prevTail
  refine Fine.bind (Fine.unwrapOr (Q := fun _ => True) (fun _ => by is_listed) (fun _ _ => trivial)) ?_
  intro t _ _
  refine Fine.bind (satisfier_fine pa _) ?_
  intro s _ _
  refine Fine.bind (Fine.unwrapOr (Q := fun _ => True) (fun _ => by is_listed) (fun _ _ => trivial)) ?_
  intro y _ _
  exact Fine.pure' trivial

theorem satisfierSearch_fine (ps : PartialSolution P S V Pr) (inc : Incompat P S V M)
    (store : List (Incompat P S V M))
    (hc : ∀ p pa, ps.getPA p = some pa → ∀ dd ∈ pa.dated, dd.cause < store.length) :
    Fine (ps.satisfierSearch inc store) (fun _ => True) := by
  rw [satisfierSearch_eq]
  refine Fine.bind (findSatisfier_fine ps inc.terms) ?_
  intro m _ hm
  refine Fine.bind (Fine.unwrapOr (Q := fun _ => True) (fun _ => by is_listed) (fun _ _ => trivial)) ?_
  intro y _ _
  refine Fine.bind (Q := fun _ => True) ?_ ?_
  · rw [findPreviousSatisfier_eq]
    refine Fine.bind (Fine.unwrapOr (Q := fun _ => True) (fun _ => by is_listed) (fun _ _ => trivial)) ?_
    intro pa _ _
    refine Fine.bind (Fine.unwrapOr (Q := fun sat => SmallMap.get m y.1 = some sat) (fun _ => by is_listed)
      (fun _ h => h)) ?_
    intro sat _ hsat
    refine Fine.bind (prevAccum_fine y.1 pa store sat.1 ?_) ?_
    · intro c hcc
      obtain ⟨p, pa', dd, hpa', hdd, hcause⟩ := hm y.1 sat (SmallMap.mem_of_get hsat) c hcc
      rw [← hcause]; exact hc p pa' hpa' dd hdd
    · intro accum _ _
      exact prevTail_fine inc y.1 m pa accum
  · intro prev _ _
    split
    · refine Fine.bind (Fine.unwrapOr (Q := fun _ => True) (fun _ => by is_listed) (fun _ _ => trivial)) ?_
      intro c _ _
      exact Fine.pure' trivial
    · exact Fine.pure' trivial

end PartialSolution

theorem State.CauseInv.valid {st : State P S V M Pr} (h : st.CauseInv) :
    ∀ p pa, st.ps.getPA p = some pa → ∀ dd ∈ pa.dated, dd.cause < st.store.length := by
  intro p pa hpa dd hdd
  obtain ⟨inc, hinc, _⟩ := h p pa (SmallMap.mem_of_get hpa) dd hdd
  exact (List.getElem?_eq_some_iff.1 hinc).1

theorem Incompat.asDependency_derived {i : Incompat P S V M} {a b : Nat} (h : i.kind = .derivedFrom a b) :
    i.asDependency = none := by
  unfold Incompat.asDependency; rw [h]

def Indexed (st : State P S V M Pr) (id : Nat) : Prop :=
  ∃ inc, st.store[id]? = some inc ∧ KeysIndexed st.incompatibilities inc

namespace State

theorem conflictResolution_np (W : World P S V M) (root : P) (rv : V) :
    ∀ (fuel : Nat) (st : State P S V M Pr) (cur : Nat) (changed : Bool),
    SInv W root rv st → PInv st → TInv root rv st → XInv st →
    (∃ inc, st.store[cur]? = some inc ∧ st.ps.Satisfies inc ∧ (changed = true → inc.asDependency = none) ∧
      (changed = false → KeysIndexed st.incompatibilities inc)) →
    NoPanic (conflictResolution fuel st cur changed)
      (fun x => XInv x.1 ∧ (∀ pkg rc, x.2 = .ok (pkg, rc) → Indexed x.1 rc) ∧
        ∀ t, x.2 = .error t → t < x.1.store.length) := by
  intro fuel
  induction fuel with
  | zero => intro st cur changed _ _ _ _ _; unfold conflictResolution; exact NoPanic.fuel
  | succ fuel ih =>
    intro st cur changed hs hp ht hx ⟨inc, hinc, hsat, hdep, hkeys⟩
    have hw := hp.wf
    have gi := hs.store cur inc hinc
    unfold conflictResolution
    refine NoPanic.bind_ok (storeGet_some hinc) ?_
    have hterm : inc.isTerminal st.rootPackage st.rootVersion = inc.isTerminal root rv := by
      rw [hs.root, hs.rv]
    rw [hterm]
    split
    · refine NoPanic.ok ⟨hx, (fun pkg rc h => by cases h), ?_⟩
      intro t h
      injection h with h; subst h
      exact (List.getElem?_eq_some_iff.1 hinc).1
    rename_i hnt
    have hnt' : inc.isTerminal root rv = false := by
      cases h : inc.isTerminal root rv with
      | true => exact absurd h hnt
      | false => rfl
    have hlvl : st.ps.currentDecisionLevel ≠ 0 := by
      intro h0
      rw [terminal_of_level0 W root rv hs ht hinc hsat h0] at hnt'; cases hnt'
    have hsearch := NoPanic.of_safe_fine
      (PartialSolution.satisfierSearch_safe (TInv.searchCtx hs hp ht) gi.nodup gi.sets hsat hnt')
      (PartialSolution.satisfierSearch_fine st.ps inc st.store ht.cause.valid)
    refine NoPanic.bind hsearch ?_
    intro ⟨pkg, search⟩ hss ⟨hpost, _⟩
    dsimp only
    cases search with
    | differentDecisionLevels prev =>
      dsimp only
      refine NoPanic.bind (backtrack_np W root rv hs hp hx hinc changed prev hdep hkeys) ?_
      intro st1 hst1 ⟨hx1, hk1⟩
      refine NoPanic.ok ⟨hx1, ?_, fun t h => by cases h⟩
      intro pkg' rc' h
      injection h with h; injection h with h1 h2; subst h1; subst h2
      obtain ⟨_, hstore⟩ := (backtrack_safe hp cur changed prev).of_ok hst1
      exact ⟨inc, hstore cur inc hinc, hk1⟩
    | sameDecisionLevels c =>
      dsimp only
      obtain ⟨causeInc, prior, hcause, hgetp, hcget, hprior, hs2, hp2, ht2, hlast, hsat2⟩ :=
        resolution_step hs hp ht hinc hsat hlvl hpost
      refine NoPanic.bind_ok (storeGet_some hcause) (NoPanic.bind_ok hprior ?_)
      have gc := hs.store _ _ hcause
      have hx2 : XInv ({ st with store := st.store ++ [prior] } : State P S V M Pr) := by
        refine hx.storeAppend [prior] ?_
        intro hd i hi
        rw [List.mem_singleton.1 hi]
        obtain ⟨hU, hall⟩ := hx.noAny hd
        exact Incompat.noAny_priorCause hU gi.nodup gc.nodup gi.sets gc.sets
          (hall inc (List.mem_of_getElem? hinc)) (hall causeInc (List.mem_of_getElem? hcause)) hprior
      have hpk : prior.kind = .derivedFrom cur c := by
        obtain ⟨_, _, _, _, _, _, _, hk, _⟩ :=
          Incompat.priorCause_spec inc causeInc gi.nodup gc.nodup cur c pkg prior hprior
        exact hk
      exact ih _ _ _ hs2 hp2 ht2 hx2 ⟨prior, hlast, hsat2, fun _ => Incompat.asDependency_derived hpk,
        fun h => by cases h⟩

theorem XInv.derive {st : State P S V M Pr} (hx : XInv st) (hw : st.ps.WF) {p : P} {id : Nat}
    {ps : PartialSolution P S V Pr} (hps : st.ps.addDerivation p id st.store = .ok ps)
    (hidx : (SmallMap.get st.incompatibilities p).isSome = true)
    (buffer : List P) (hb : ∀ q ∈ buffer, (SmallMap.get st.incompatibilities q).isSome = true)
    (contradicted : List (Nat × Nat)) :
    XInv ({ st with buffer := buffer, ps := ps, contradicted := contradicted } : State P S V M Pr) := by
  refine ⟨hx.idx, hx.md, ?_, hb, hx.noAny⟩
  intro q qa hq
  by_cases hqp : q = p
  · subst hqp; exact hidx
  · have := PartialSolution.addDerivation_getPA_ne hw hps hqp
    simp only at hq
    rw [this] at hq
    exact hx.asg q qa hq

theorem propagateIncompats_np (W : World P S V M) (root : P) (rv : V) :
    ∀ (ids : List Nat) (st : State P S V M Pr), SInv W root rv st → PInv st → TInv root rv st → XInv st →
    (∀ id ∈ ids, Indexed st id) →
    NoPanic (propagateIncompats st ids) (fun x => XInv x.1 ∧ ∀ id, x.2 = some id → Indexed x.1 id) := by
  intro ids
  induction ids with
  | nil =>
    intro st hs hp ht hx _
    unfold propagateIncompats
    exact NoPanic.ok ⟨hx, fun id h => by cases h⟩
  | cons id rest ih =>
    intro st hs hp ht hx hids
    have hrest : ∀ x ∈ rest, Indexed st x := fun x hx' => hids x (List.mem_cons_of_mem _ hx')
    obtain ⟨inc, hinc, hkeys⟩ := hids id List.mem_cons_self
    unfold propagateIncompats
    split
    · exact ih st hs hp ht hx hrest
    rw [storeGet_some hinc]
    dsimp only
    have hid := (List.getElem?_eq_some_iff.1 hinc).1
    split
    · exact NoPanic.ok ⟨hx, fun id' h => by injection h with h; subst h; exact ⟨inc, hinc, hkeys⟩⟩
    · rename_i p hrel
      obtain ⟨⟨ps', hps⟩, hnext⟩ := almost_derivation W root rv hs hp ht hinc hrel
      rw [hps]
      dsimp only
      obtain ⟨_, t, hpt, _⟩ := Incompat.relationGo_almost _ p inc.terms hrel
      have hpidx : (SmallMap.get st.incompatibilities p).isSome = true := hkeys (p, t) hpt
      refine ih _ ⟨hs.store, hs.root, hs.rv, PartialSolution.addDerivation_termsValid W root rv hs.store hs.ps hps⟩
        (hp.derive hid hps _ _) (hnext ps' hps _ rfl rfl) (XInv.derive hx hp.wf.wf hps hpidx _ ?_ _) hrest
      intro q hq
      split at hq
      · exact hx.buf q hq
      · rcases List.mem_append.1 hq with h | h
        · exact hx.buf q h
        · rw [List.mem_singleton.1 h]; exact hpidx
    · exact ih _ ⟨hs.store, hs.root, hs.rv, hs.ps⟩ (hp.cacheInsert hid _) (ht.congr rfl rfl)
        ⟨hx.idx, hx.md, hx.asg, hx.buf, hx.noAny⟩ hrest
    · exact ih st hs hp ht hx hrest

theorem unitPropagationLoop_np (W : World P S V M) (root : P) (rv : V) :
    ∀ (fuel : Nat) (st : State P S V M Pr), SInv W root rv st → PInv st → TInv root rv st → XInv st →
    NoPanic (unitPropagationLoop fuel st) (fun x => XInv x.1 ∧ ∀ t, x.2 = some t → t < x.1.store.length) := by
  intro fuel
  induction fuel with
  | zero => intro st _ _ _ _; unfold unitPropagationLoop; exact NoPanic.fuel
  | succ fuel ih =>
    intro st hs hp ht hx
    unfold unitPropagationLoop
    split
    · exact NoPanic.ok ⟨hx, fun t h => by cases h⟩
    rename_i current hcur
    dsimp only
    have hcidx : (SmallMap.get st.incompatibilities current).isSome = true :=
      hx.buf current (List.mem_of_getLast? hcur)
    split
    · rename_i hnone
      rw [hnone] at hcidx; cases hcidx
    rename_i ids hids
    have hs0 : SInv W root rv ({ st with buffer := st.buffer.dropLast } : State P S V M Pr) :=
      ⟨hs.store, hs.root, hs.rv, hs.ps⟩
    have hp0 : PInv ({ st with buffer := st.buffer.dropLast } : State P S V M Pr) := ⟨hp.wf, hp.cache⟩
    have ht0 : TInv root rv ({ st with buffer := st.buffer.dropLast } : State P S V M Pr) := ht.congr rfl rfl
    have hx0 : XInv ({ st with buffer := st.buffer.dropLast } : State P S V M Pr) :=
      ⟨hx.idx, hx.md, hx.asg, fun q hq => hx.buf q (List.dropLast_subset _ hq), hx.noAny⟩
    have hprop := propagateIncompats_safe W root rv ids.reverse _ hs0 hp0 ht0
    have hpropx := propagateIncompats_np W root rv ids.reverse _ hs0 hp0 ht0 hx0
      (fun id hid => hx.idx current ids hids id (List.mem_reverse.1 hid))
    split
    · rename_i e he
      exact hpropx.of_error he
    · rename_i st1 he
      have hs1 := propagateIncompats_inv W root rv _ _ he hs0
      have hp1 := (propagateIncompats_pinv (o := none) _ _ he hp0).1
      have ht1 := (hprop.of_ok he).1
      exact ih st1 hs1 hp1 ht1 (hpropx.of_ok he).1
    · rename_i st1 cid he
      have hs1 := propagateIncompats_inv W root rv _ _ he hs0
      have hp1 := (propagateIncompats_pinv (o := none) _ _ he hp0).1
      obtain ⟨ht1, hsat⟩ := hprop.of_ok he
      obtain ⟨hx1, hcidx1⟩ := hpropx.of_ok he
      obtain ⟨inc, hinc, hrel⟩ := hsat cid rfl
      obtain ⟨inc', hinc', hkeys⟩ := hcidx1 cid rfl
      simp only at hinc hinc'
      rw [hinc] at hinc'; injection hinc' with hinc'; subst hinc'
      have hsatis := PartialSolution.satisfies_of_relation W root rv hs1 hinc hrel
      have hcr := conflictResolution_safe W root rv fuel st1 cid false hs1 hp1 ht1 ⟨inc, hinc, hsatis⟩
      have hcrx := conflictResolution_np W root rv fuel st1 cid false hs1 hp1 ht1 hx1
        ⟨inc, hinc, hsatis, (fun h => by cases h), fun _ => hkeys⟩
      split
      · rename_i e he2
        exact hcrx.of_error he2
      · rename_i st2 terminal he2
        obtain ⟨hx2, _, hterm⟩ := hcrx.of_ok he2
        exact NoPanic.ok ⟨hx2, fun t h => by injection h with h; subst h; exact hterm _ rfl⟩
      · rename_i st2 pkg rc he2
        obtain ⟨hs2, _⟩ := conflictResolution_inv W root rv _ _ _ _ he2 hs1
        obtain ⟨hp2, _⟩ := conflictResolution_pinv _ _ _ _ he2 hp1
        obtain ⟨ht2, hac⟩ := hcr.of_ok he2 pkg rc rfl
        obtain ⟨hx2, hidx2, _⟩ := hcrx.of_ok he2
        obtain ⟨inc2, t0, ps', hinc2, ht0, hps, hnext⟩ := derivation_after_conflict hs2 hp2 ht2 hac
        obtain ⟨inc2', hinc2', hkeys2⟩ := hidx2 pkg rc rfl
        simp only at hinc2 hinc2'
        rw [hinc2] at hinc2'; injection hinc2' with hinc2'; subst hinc2'
        rw [hps]
        dsimp only
        obtain ⟨hs3, hp3, ht3⟩ := hnext [pkg] ps'.currentDecisionLevel
        have hpidx : (SmallMap.get st2.incompatibilities pkg).isSome = true :=
          hkeys2 (pkg, t0) (SmallMap.mem_of_get ht0)
        exact ih _ hs3 hp3 ht3
          (XInv.derive hx2 hp2.wf.wf hps hpidx _ (fun q hq => by rw [List.mem_singleton.1 hq]; exact hpidx) _)

theorem unitPropagation_np (W : World P S V M) (root : P) (rv : V) (fuel : Nat) (st : State P S V M Pr)
    (p : P) (hs : SInv W root rv st) (hp : PInv st) (ht : TInv root rv st) (hx : XInv st)
    (hpidx : (SmallMap.get st.incompatibilities p).isSome = true) :
    NoPanic (unitPropagation fuel st p) (fun x => XInv x.1 ∧ ∀ t, x.2 = some t → t < x.1.store.length) := by
  unfold unitPropagation
  exact unitPropagationLoop_np W root rv fuel _ ⟨hs.store, hs.root, hs.rv, hs.ps⟩ ⟨hp.wf, hp.cache⟩
    (ht.congr rfl rfl)
    ⟨hx.idx, hx.md, hx.asg, fun q hq => by rw [List.mem_singleton.1 hq]; exact hpidx, hx.noAny⟩

end State
end
end Pubgrub
