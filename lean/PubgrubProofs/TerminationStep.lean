/-
The run-level invariant `RInvM`: the state-level invariants, the bound `nextGlobalIndex + rank ≤ (B+1)^D`
(`B = Bnd fw`, `D = Dim fw` of TerminationMeasure.lean), enough fuel, no `outOfFuel` outcome, and a
budget of remaining provider calls that decreases with every answer.
-/
import PubgrubProofs.NoPanic
import PubgrubProofs.TerminationLoop

set_option linter.unusedSectionVars false

namespace Pubgrub
open VersionSet

variable {P S V M Pr E : Type} [DecidableEq P] [VersionSet S V] [DecidableEq S] [DecidableEq V]
  [LE Pr] [DecidableLE Pr] [LawfulVersionSet S V]
variable {W : World P S V M} {root : P} {rv : V} (fw : FiniteWorld W root rv)

def Cmax : Nat := (Bnd fw + 1) ^ Dim fw

/-- twice the bound of the number of provider calls in one cycle of the main loop -/
def Kc2 : Nat := 2 * fw.pkgs.length + 12

/-- the number of further answers after which the run has returned -/
def Budget (x : SolverState P S V M Pr × Request P S V M Pr E) (n : Nat) : Prop :=
  match x.1.phase with
  | .finished => True
  | .cancel => (TrigAt x.1.st x.1.next ∧ Kc2 fw * rank fw x.1.st.ps + 1 ≤ n) ∨
      Kc2 fw * rank fw x.1.st.ps + fw.pkgs.length + 6 ≤ n
  | .prioritizing _ rest _ => Kc2 fw * rank fw x.1.st.ps + rest.length + 5 ≤ n
  | .picking _ => Kc2 fw * rank fw x.1.st.ps + 4 ≤ n
  | .choosing _ _ => Kc2 fw * rank fw x.1.st.ps + 3 ≤ n
  | .fetching _ _ => Kc2 fw * rank fw x.1.st.ps + 2 ≤ n

/-- the run-level invariant of the termination proof -/
structure RInvM (x : SolverState P S V M Pr × Request P S V M Pr E) (n : Nat) : Prop where
  live : x.1.phase ≠ .finished → KInv fw x.1.st ∧ x.1.st.AccInv ∧
    x.1.st.ps.nextGlobalIndex + rank fw x.1.st.ps ≤ Cmax fw
  fetching : ∀ p v, x.1.phase = .fetching p v → v ∈ W.versions p
  fuel : 3 * Cmax fw + 3 ≤ x.1.fuel
  nofuel : x.2 ≠ .fault .outOfFuel
  budget : Budget fw x n

theorem Budget.final {x : SolverState P S V M Pr × Request P S V M Pr E} (hb : Budget fw x 0)
    (hco : Solver.Coherent x) : x.2.isFinal = true := by
  unfold Budget at hb
  unfold Solver.Coherent at hco
  split at hb
  · rename_i hph
    rw [hph] at hco
    exact hco
  · rcases hb with ⟨_, hb⟩ | hb <;> exact absurd hb (Nat.not_succ_le_zero _)
  all_goals exact absurd hb (Nat.not_succ_le_zero _)

theorem kc2_mono {r' r : Nat} (h : r' ≤ r) : Kc2 fw * r' ≤ Kc2 fw * r := Nat.mul_le_mul_left _ h

/-! ### the arithmetic of the budget

One cycle of the main loop asks the provider at most `L + 6` times (`L` calls of `prioritize`), and a cycle
that decreases the measure pays for the next one: `K = 2 * L + 12` calls per unit of the measure. -/

theorem mul_add_le_of_lt {K r' r : Nat} (h : r' < r) : K * r' + K ≤ K * r :=
  Nat.mul_succ K r' ▸ Nat.mul_le_mul_left K (Nat.succ_le_of_lt h)

/-- the budget left by a propagation that strictly decreased the measure if there was a trigger: enough
for the pick and the two calls after it, and before them for `L` calls of `prioritize` -/
theorem budget_after_propagation {K L r r1 n : Nat} (hK : K = 2 * L + 12) (hr : r1 ≤ r)
    (hb : (r1 < r ∧ K * r + 1 ≤ n + 1) ∨ K * r + L + 6 ≤ n + 1) :
    K * r1 + 4 ≤ n ∧ ∀ k, k + 1 ≤ L → K * r1 + k + 5 ≤ n := by
  have : K * r1 + L + 4 ≤ n := by
    rcases hb with ⟨hlt, hb⟩ | hb
    · have := mul_add_le_of_lt (K := K) hlt
      omega
    · have := Nat.mul_le_mul_left K hr
      omega
  exact ⟨Nat.le_trans (Nat.add_le_add_right (Nat.le_add_right _ L) 4) this,
    fun k hk => Nat.le_trans (Nat.add_le_add_right (Nat.add_le_add_left hk _) 4) this⟩

/-- a decision decreases the measure, which pays for a whole cycle -/
theorem budget_after_decision {K L r r' n : Nat} (hK : K = 2 * L + 12) (hr : r' < r)
    (hb : K * r + 2 ≤ n + 1) : K * r' + L + 6 ≤ n := by
  have := mul_add_le_of_lt (K := K) hr
  omega

/-! ### the invariant by the phase reached -/

def Request.noFault : Request P S V M Pr E → Bool
  | .fault _ => false
  | _ => true

theorem Request.ne_fault {r : Request P S V M Pr E} {f : Fault} (h : r.noFault = true) : r ≠ .fault f := by
  intro e; subst e; cases h

theorem rinvM_live {s : SolverState P S V M Pr} {r : Request P S V M Pr E} {n : Nat}
    (hk : KInv fw s.st) (hacc : s.st.AccInv) (hidx : s.st.ps.nextGlobalIndex + rank fw s.st.ps ≤ Cmax fw)
    (hf : 3 * Cmax fw + 3 ≤ s.fuel) (hr : r.noFault = true)
    (hv : match s.phase with
      | .fetching p v => v ∈ W.versions p
      | _ => True)
    (hb : Budget fw (s, r) n) : RInvM fw (s, r) n :=
  ⟨fun _ => ⟨hk, hacc, hidx⟩, fun p v h => by rw [show s.phase = _ from h] at hv; exact hv, hf,
    Request.ne_fault hr, hb⟩

theorem rinvM_finish (s : SolverState P S V M Pr) (r : Request P S V M Pr E) (n : Nat)
    (hr : r ≠ .fault .outOfFuel) (hf : 3 * Cmax fw + 3 ≤ s.fuel) : RInvM fw (Solver.finish s r) n :=
  ⟨fun h => absurd rfl h, fun _ _ h => (nomatch h), hf, hr, trivial⟩

theorem rinvM_loopAgain (s : SolverState P S V M Pr) (st : State P S V M Pr) (n : Nat)
    (hk : KInv fw st) (hacc : st.AccInv) (hidx : st.ps.nextGlobalIndex + rank fw st.ps ≤ Cmax fw)
    (hf : 3 * Cmax fw + 3 ≤ s.fuel)
    (hb : (TrigAt st s.next ∧ Kc2 fw * rank fw st.ps + 1 ≤ n) ∨
      Kc2 fw * rank fw st.ps + fw.pkgs.length + 6 ≤ n) :
    RInvM fw (Solver.loopAgain (E := E) s st) n :=
  rinvM_live fw (s := { s with st := st, phase := .cancel }) hk hacc hidx hf rfl trivial hb

theorem toPrioritize_length {ps : PartialSolution P S V Pr} {L : List (P × S)}
    (h : ps.toPrioritize = .ok L) : L.length ≤ ps.assignments.length := by
  unfold PartialSolution.toPrioritize at h
  split at h
  · cases h
  · injection h with h
    subst h
    exact Nat.le_trans (List.length_filterMap_le _ _) (by rw [List.length_drop]; omega)

theorem unitPropagation_budget (ce : CanonEmpty S V) {fuel n : Nat} {st : State P S V M Pr} (p : P)
    (hm : MInv fw st) (hidx : st.ps.nextGlobalIndex + rank fw st.ps ≤ Cmax fw) (hf : 3 * Cmax fw + 3 ≤ fuel)
    (hb : (TrigAt st p ∧ Kc2 fw * rank fw st.ps + 1 ≤ n + 1) ∨
      Kc2 fw * rank fw st.ps + fw.pkgs.length + 6 ≤ n + 1) :
    Fueled (st.unitPropagation fuel p) (fun x => x.2 = none → MInv fw x.1 ∧
      x.1.ps.nextGlobalIndex + rank fw x.1.ps ≤ Cmax fw ∧ Kc2 fw * rank fw x.1.ps + 4 ≤ n ∧
      ∀ k, k + 1 ≤ fw.pkgs.length → Kc2 fw * rank fw x.1.ps + k + 5 ≤ n) := by
  have hrb : rank fw st.ps + 1 ≤ Cmax fw := rank_bound fw st.ps
  refine (State.unitPropagation_term fw ce (Cmax fw) p hm hidx (by omega)).mono ?_
  intro x _ hx hn
  obtain ⟨hm1, hr1, hidx1, htrig⟩ := hx hn
  exact ⟨hm1, hidx1, budget_after_propagation rfl hr1 (hb.imp (fun h => ⟨htrig h.1, h.2⟩) id)⟩

/-- after the decision for the package in flight (it keeps the invariants and decreases the measure) the
main loop goes round again -/
theorem rinvM_decided (s : SolverState P S V M Pr) {st : State P S V M Pr} {n : Nat} (hp : PInv st)
    (hk : KInv fw st) (hacc : st.AccInv) (hidx : st.ps.nextGlobalIndex + rank fw st.ps ≤ Cmax fw)
    (hf : 3 * Cmax fw + 3 ≤ s.fuel) {p : P} {v : V} {t : Term S} {ps : PartialSolution P S V Pr}
    {debug : Bool} (hfl : st.ps.InFlightOK p) (hterm : st.ps.termIntersectionForPackage p = some t)
    (hcont : t.contains v = true) (hv : v ∈ W.versions p) (hps : st.ps.addDecision debug p v = .ok ps)
    (hb : Kc2 fw * rank fw st.ps + 2 ≤ n + 1) :
    RInvM fw (Solver.loopAgain (E := E) s ({ st with ps := ps } : State P S V M Pr)) n := by
  obtain ⟨h1, _, _⟩ := decided_ok hp hfl hterm hcont hps
  obtain ⟨_, _, pa, set, hpa, hinter⟩ := hfl
  have hw := hp.wf.wf
  have hw' : ps.WF := h1.wf.wf
  have hngi := (PartialSolution.addDecision_step hw hps hw' hpa hinter).next
  have hrk : rank fw ps < rank fw st.ps := rank_addDecision fw hw hps hw' hpa hinter
    (Nat.lt_of_succ_le (level_lt_Dim fw hw fun kv hkv => (hk.ps kv hkv).1.1))
  refine rinvM_loopAgain fw s _ n (hk.decide fw hw hps hw' hpa hinter hv rfl rfl)
    (hacc.decide hw hps hw' hpa hinter rfl rfl) ?_ hf (Or.inr (budget_after_decision rfl hrk hb))
  show ps.nextGlobalIndex + rank fw ps ≤ Cmax fw
  omega

/-- after a single-term incompatibility was added for the package in flight that its term does not
contradict, the main loop goes round again and the next propagation finds a trigger -/
theorem rinvM_added (s : SolverState P S V M Pr) {st : State P S V M Pr} {n : Nat} (hm : MInv fw s.st)
    (hidx : s.st.ps.nextGlobalIndex + rank fw s.st.ps ≤ Cmax fw) (hf : 3 * Cmax fw + 3 ≤ s.fuel)
    {inc : Incompat P S V M} {p : P} {tp cur : Term S} (hterms : inc.terms = [(p, tp)])
    (hdep : inc.asDependency = none) (hadd : s.st.addIncompatibility inc = .ok st)
    (g : inc.Good W root rv s.st.store s.st.store.length) (hok : OKT fw p tp)
    (hcur : s.st.ps.termIntersectionForPackage p = some cur)
    (hrel : tp.relationWith cur ≠ .contradicted) (hnext : s.next = p)
    (hb : Kc2 fw * rank fw s.st.ps + 2 ≤ n + 1) :
    RInvM fw (Solver.loopAgain (E := E) s st) n := by
  obtain ⟨e1, _, e3, _⟩ := State.addIncompatibility_single hterms hdep hadd
  refine rinvM_loopAgain fw s st n
    (State.addIncompatibility_kinv fw hadd (storeInv_push W root rv s.st.store inc hm.s.store g) hm.k
      (oki_single fw hterms hok))
    (hm.acc.storeExt (by rw [e1]) (fun i inc' hi => by
      rw [e3, List.getElem?_append_left (List.getElem?_eq_some_iff.1 hi).1]; exact hi))
    (by rw [e1]; exact hidx) hf (Or.inl ⟨?_, by rw [e1]; exact Nat.le_of_succ_le_succ hb⟩)
  rw [hnext]
  exact State.trigger_single hterms hdep hadd hm.p hcur hrel

/-- one transition of the coroutine uses up one call of the budget -/
theorem rinvM_of_stepTo (ce : CanonEmpty S V) (hW : W.SetsValid)
    {s : SolverState P S V M Pr} {req : Request P S V M Pr E} {a : Answer P S V M Pr E}
    {x : SolverState P S V M Pr × Request P S V M Pr E} (n : Nat)
    (h0 : RInv W root rv (s, req)) (h1 : RInv' (s, req)) (hT : RInvT root rv (s, req))
    (hN : RInvN (s, req)) (h : RInvM fw (s, req) (n + 1)) (ha : AnswerOK W req a)
    (hst : Solver.StepTo s a x) : RInvM fw x n := by
  have hs : SInv W root rv s.st := h0.sinv
  have hfuel : 3 * Cmax fw + 3 ≤ s.fuel := h.fuel
  have hbud := h.budget
  -- the bundle of invariants of a live state
  have hminv : ∀ {ph}, s.phase = ph → ph ≠ .finished → MInv fw s.st ∧
      s.st.ps.nextGlobalIndex + rank fw s.st.ps ≤ Cmax fw := fun e hne =>
    have hlive := e ▸ hne
    have ⟨hk, hacc, hidx⟩ := h.live hlive
    ⟨⟨hs, (h1.live hlive).1, hT.live hlive, hN hlive, hk, hacc⟩, hidx⟩
  have hup := fun hph : s.phase = .cancel =>
    unitPropagation_budget fw ce (n := n) s.next (hminv hph nofun).1 (hminv hph nofun).2 hfuel
      (by simpa only [Budget, hph] using hbud)
  -- no call of the step runs out of fuel
  have hnf : x.2 ≠ .fault .outOfFuel := fun hx => by
    rcases hst.fault_origin hx with ⟨hph, hu | ⟨st, terminal, hu, hb⟩⟩ | ⟨α, r, hq, hb⟩
    · exact (hup hph).nooof.ne hu
    · obtain ⟨hs1, hterm⟩ := State.unitPropagation_inv W root rv hu hs
      obtain ⟨inc, hinc, _⟩ := hterm terminal rfl
      obtain ⟨tree, htree⟩ := State.buildDerivationTree_ok st
        (TreeAux.causesBelow_of_storeInv W root rv st.store hs1.store) terminal
        (List.getElem?_eq_some_iff.1 hinc).1
      cases htree.symm.trans hb
    · exact hq.nooof.ne hb
  induction hst
  case finished hph =>
    exact ⟨fun hn => absurd hph hn, fun p v h' => (nomatch hph.symm.trans h'), hfuel, hnf,
      by simp only [Budget, hph]⟩
  case nothingToPrioritize st hph hu hL =>
    obtain ⟨hm1, hidx1, hpick, _⟩ := (hup hph).of_ok hu rfl
    exact rinvM_live fw hm1.k hm1.acc hidx1 hfuel rfl trivial hpick
  case firstPrioritize st cur rest hph hu hL =>
    obtain ⟨hm1, hidx1, _, hcalls⟩ := (hup hph).of_ok hu rfl
    exact rinvM_live fw hm1.k hm1.acc hidx1 hfuel rfl trivial
      (hcalls rest.length (Nat.le_trans (toPrioritize_length hL)
        (assignments_length_le fw hm1.p.wf.wf fun kv hkv => (hm1.k.ps kv hkv).1.1)))
  case lastPriority hph | nextPriority hph =>
    -- one call less is left
    obtain ⟨hm, hidx⟩ := hminv hph nofun
    simp only [Budget, hph] at hbud
    exact rinvM_live fw hm.k hm.acc hidx hfuel rfl trivial (Nat.le_of_succ_le_succ hbud)
  case toChoose acc p t set hph _ _ _ =>
    obtain ⟨hm, hidx⟩ := hminv hph nofun
    simp only [Budget, hph] at hbud
    -- the queue is not part of the measure
    have hr : rank fw ({ s.st.ps.afterPrioritize acc with
        queue := SmallMap.remove (s.st.ps.afterPrioritize acc).queue p } : PartialSolution P S V Pr) =
        rank fw s.st.ps := rank_congr fw rfl rfl
    refine rinvM_live fw (hm.k.congr fw rfl rfl) (hm.acc.storeExt rfl (fun _ _ h => h)) ?_ hfuel rfl
      trivial ?_
    · show s.st.ps.nextGlobalIndex + rank fw _ ≤ Cmax fw
      rw [hr]; exact hidx
    · show Kc2 fw * rank fw _ + 3 ≤ n
      rw [hr]; exact Nat.le_of_succ_le_succ hbud
  case noVersions p t inc st hph hinc hadd =>
    -- the incompatibility "no versions" triggers the next propagation
    obtain ⟨hm, hidx⟩ := hminv hph nofun
    simp only [Budget, hph] at hbud
    obtain ⟨hnext, hterm, hall, hqn, hpos⟩ := h1.choosing p t hph
    obtain ⟨htv, set, hreq, hts⟩ := h0.choosing p t hph
    cases hreq
    obtain ⟨hterms, hdep⟩ := Incompat.noVersions_ok hinc
    exact rinvM_added fw s hm hidx hfuel hterms hdep hadd
      (Incompat.noVersions_good W root rv _ _ p t htv set (hts ▸ rfl) ha inc hinc)
      (hm.k.terms fw hterm) hterm (by rw [Term.relationWith_self t htv]; nofun)
      hnext (Nat.le_of_succ_le hbud)
  case toFetch p t v hph _ _ =>
    obtain ⟨hm, hidx⟩ := hminv hph nofun
    simp only [Budget, hph] at hbud
    obtain ⟨_, set, hreq, _⟩ := h0.choosing p t hph
    cases hreq
    exact rinvM_live fw hm.k hm.acc hidx hfuel rfl ha (Nat.le_of_succ_le_succ hbud)
  case knownVersion p t v ps hph hcont _ hps =>
    obtain ⟨hm, hidx⟩ := hminv hph nofun
    simp only [Budget, hph] at hbud
    obtain ⟨_, hterm, hfl⟩ := h1.choosing p t hph
    obtain ⟨_, set, hreq, _⟩ := h0.choosing p t hph
    cases hreq
    exact rinvM_decided fw _ hm.p hm.k hm.acc hidx hfuel hfl hterm hcont ha hps (Nat.le_of_succ_le hbud)
  case unavailable p v st m hph hadd =>
    -- the incompatibility "custom" triggers the next propagation
    obtain ⟨hm, hidx⟩ := hminv hph nofun
    simp only [Budget, hph] at hbud
    obtain ⟨hnext, ⟨hall, hqn, hpos⟩, t, hterm, hcont⟩ := h1.fetching p v hph
    cases h0.fetching p v hph
    have hv := h.fetching p v hph
    refine rinvM_added fw s hm hidx hfuel (inc := (Incompat.customVersion p v m : Incompat P S V M))
      (tp := Term.pos (VersionSet.singleton v)) rfl rfl hadd
      (Incompat.customVersion_good W root rv s.st.store s.st.store.length p v m ha)
      ⟨(hm.k.terms fw hterm).1, GeneratedSet.version v hv⟩ hterm ?_ hnext hbud
    refine Term.relationWith_ne_contradicted_of_common _ _ v (LawfulVersionSet.valid_singleton v)
      (PartialSolution.termIntersection_valid hs.ps hterm) ?_ hcont
    exact (LawfulVersionSet.contains_singleton (S := S) v v).2 rfl
  case available p v st start stop ps deps hph hadd hps =>
    obtain ⟨hm, hidx⟩ := hminv hph nofun
    simp only [Budget, hph] at hbud
    obtain ⟨hnext, hfl, t, hterm, hcont⟩ := h1.fetching p v hph
    cases h0.fetching p v hph
    have hv := h.fetching p v hph
    have hd : W.deps p v = .available deps := ha
    obtain ⟨hp1, eps⟩ := State.addIncompatibilityFromDependencies_pinv hadd hm.p
    have hk1 : KInv fw st := State.addIncompatibilityFromDependencies_kinv fw hW hadd hs hm.k hd hv
      (hm.k.terms fw hterm).1
    have hacc1 : st.AccInv :=
      hm.acc.storeExt (by rw [eps]) (State.addIncompatibilityFromDependencies_prefix hadd)
    rcases PartialSolution.addVersion_spec hps with hps | ⟨rfl, -, hdecl⟩
    · exact rinvM_decided fw s hp1 hk1 hacc1 (eps ▸ hidx) hfuel (eps ▸ hfl) (eps ▸ hterm) hcont hv hps
        (eps ▸ hbud)
    · -- a new incompatibility is satisfied once `v` is chosen: no decision, but a trigger
      refine rinvM_loopAgain fw _ _ n hk1 hacc1 (eps ▸ hidx) hfuel (Or.inl ⟨?_, ?_⟩)
      · show TrigAt st s.next
        rw [hnext]
        exact State.trigger_declined W hW root rv hs hm.p hadd ha hterm hcont hdecl
      · show Kc2 fw * rank fw st.ps + 1 ≤ n
        rw [eps]; exact Nat.le_of_succ_le_succ hbud
  all_goals exact rinvM_finish fw _ _ n hnf hfuel

theorem rinvM_step (ce : CanonEmpty S V) (hW : W.SetsValid)
    (s : SolverState P S V M Pr) (req : Request P S V M Pr E) (a : Answer P S V M Pr E) (n : Nat)
    (h0 : RInv W root rv (s, req)) (h1 : RInv' (s, req)) (hT : RInvT root rv (s, req))
    (hN : RInvN (s, req)) (h : RInvM fw (s, req) (n + 1)) (ha : AnswerOK W req a) :
    RInvM fw (Solver.step s a) n :=
  rinvM_of_stepTo fw ce hW n h0 h1 hT hN h ha (Solver.step_spec s a)

end Pubgrub
