/-
The derivation trees returned by `resolve` satisfy the hypotheses of the reporter theorems (C08) and
of the collapse theorems (C09): they are sound, resolution-shaped, shared-consistent, their leaves are
true of the provider and contain valid sets.  This closes the chain C03 → C08/C09.
-/
import PubgrubProofs.StoreInvariant
import PubgrubProofs.TreeSound
import PubgrubProofs.CollapseSound
import PubgrubProofs.ReportSound

set_option linter.unusedSectionVars false

namespace Pubgrub
open VersionSet

variable {P S V M Pr E : Type} [DecidableEq P] [VersionSet S V] [DecidableEq S] [DecidableEq V]
  [LE Pr] [DecidableLE Pr] [LawfulVersionSet S V]

theorem Incompat.priorCause_keys (ia ib : Incompat P S V M)
    (na : SmallMap.NoDupKeys ia.terms) (nb : SmallMap.NoDupKeys ib.terms) (a b : Nat) (pivot : P)
    (r : Incompat P S V M) (hr : Incompat.priorCause a b ia ib pivot = .ok r) :
    pivot ∈ ia.terms.map Prod.fst ∧ pivot ∈ ib.terms.map Prod.fst ∧
      ∀ k ∈ r.terms.map Prod.fst, k ∈ ia.terms.map Prod.fst ∨ k ∈ ib.terms.map Prod.fst := by
  obtain ⟨t1, t2, merged, h1, h2, hnm, hm, -, hterms⟩ :=
    Incompat.priorCause_spec ia ib na nb a b pivot r hr
  have key : ∀ {m : SmallMap P (Term S)} {k t}, SmallMap.get m k = some t → k ∈ m.map Prod.fst :=
    fun h => SmallMap.key_mem_of_mem (SmallMap.mem_of_get h)
  refine ⟨key h1, key h2, fun k hk => ?_⟩
  obtain ⟨⟨k', v⟩, hkv, rfl⟩ := List.mem_map.1 hk
  have : k' = pivot ∨ (k', v) ∈ merged := by
    rw [hterms] at hkv
    split at hkv
    · exact ((SmallMap.mem_insert_iff merged hnm pivot _ k' v).1 hkv).imp (·.1) (·.2)
    · exact .inr hkv
  rcases this with rfl | hmem
  · exact .inl (key h1)
  · have hg := SmallMap.get_of_mem hnm hmem
    rw [hm k'] at hg
    split at hg
    · cases hg
    · cases hga : SmallMap.get ia.terms k' with
      | some ta => exact .inl (key hga)
      | none =>
        cases hgb : SmallMap.get ib.terms k' with
        | some tb => exact .inr (key hgb)
        | none => rw [hga, hgb] at hg; cases hg

theorem External.setsValid_of_good (W : World P S V M) (root : P) (rv : V)
    (store : List (Incompat P S V M)) (id : Nat) (inc : Incompat P S V M)
    (g : inc.Good W root rv store id) (e : External P S V M) (hke : inc.kind.toExternal = some e) :
    e.SetsValid := by
  have gk := g.kind
  have gs := g.sets
  unfold Incompat.KindTrue at gk
  generalize inc.kind = k at gk hke
  cases k <;> cases hke
  · trivial
  · exact gs _ (Term.pos _) (gk.2 ▸ List.mem_singleton_self _)
  · exact ⟨gk.2.1, gk.2.2.1⟩
  · obtain ⟨v, rfl, -, -⟩ := gk
    exact LawfulVersionSet.valid_singleton v

theorem IsTreeOf.shape (W : World P S V M) (root : P) (rv : V)
    (store : List (Incompat P S V M)) (hinv : StoreInv W root rv store) (sh : Nat → Bool)
    (id : Nat) (t : DerivationTree P S V M) (h : IsTreeOf store sh id t) :
    t.ResolutionShaped ∧ ∀ e ∈ t.externals, e.SetsValid := by
  induction h with
  | external id inc e hs hke =>
    refine ⟨trivial, fun e' he' => ?_⟩
    cases List.mem_singleton.1 he'
    exact External.setsValid_of_good W root rv store id inc (hinv id inc hs) e hke
  | derived id inc a b c1 c2 hs hkd ha hb ih1 ih2 =>
    obtain ⟨-, -, ia, ib, pivot, r, hsa, hsb, hr, hterms⟩ := (hinv id inc hs).kind.derived hkd
    obtain ⟨-, ia', hsa', ht1⟩ := IsTreeOf.checkable W root rv store hinv sh a c1 ha
    obtain ⟨-, ib', hsb', ht2⟩ := IsTreeOf.checkable W root rv store hinv sh b c2 hb
    cases hsa.symm.trans hsa'
    cases hsb.symm.trans hsb'
    obtain ⟨k1, k2, k3⟩ :=
      Incompat.priorCause_keys ia ib (hinv a ia hsa).nodup (hinv b ib hsb).nodup a b pivot r hr
    refine ⟨⟨⟨pivot, ht1 ▸ k1, ht2 ▸ k2, ?_⟩, ih1.1, ih2.1⟩, fun e he => ?_⟩
    · rw [ht1, ht2, hterms]; exact k3
    · exact (List.mem_append.1 he).elim (ih1.2 e) (ih2.2 e)

omit [DecidableEq V] [LawfulVersionSet S V] in
theorem DerivationTree.Checkable.sound (W : World P S V M) (root : P) (rv : V)
    (t : DerivationTree P S V M) (h : t.Checkable W root rv) (U : P → V → Prop) : t.Sound U := by
  induction h with
  | external e _ => exact .external e
  | derived terms sid c1 c2 _ _ hent ih1 ih2 =>
    refine .derived terms sid c1 c2 ih1 ih2 ?_
    intro σ _ hT
    rcases hent σ hT with h | h
    · exact ⟨_, by simp, h⟩
    · exact ⟨_, by simp, h⟩

theorem DerivationTree.Checkable.leavesTrueExisting (W : World P S V M) (root : P) (rv : V)
    (t : DerivationTree P S V M) (h : t.Checkable W root rv) : t.LeavesTrueExisting W root rv := by
  induction h with
  | external e he =>
    intro e' he'
    cases List.mem_singleton.1 he'
    exact External.trueInExisting_of_trueIn W root rv e he
  | derived terms sid c1 c2 _ _ _ ih1 ih2 =>
    exact fun e he => (List.mem_append.1 he).elim (ih1 e) (ih2 e)

theorem buildDerivationTree_shape (W : World P S V M) (root : P) (rv : V)
    (st : State P S V M Pr) (hinv : StoreInv W root rv st.store) (id : Nat)
    (tree : DerivationTree P S V M) (h : st.buildDerivationTree id = .ok tree) :
    tree.ResolutionShaped ∧ (∀ e ∈ tree.externals, e.SetsValid) ∧ tree.SharedConsistent := by
  obtain ⟨all, shared, _, ht⟩ := buildDerivationTree_spec st id tree h
  obtain ⟨h1, h2⟩ := IsTreeOf.shape W root rv st.store hinv _ id tree ht
  refine ⟨h1, h2, ?_⟩
  intro k t1 t2 hk1 hk2
  exact buildDerivationTree_shared_same W root rv st hinv id tree h k t1 t2 hk1 hk2

/-- everything the reporter and collapse theorems assume holds of the tree of a `NoSolution` result -/
theorem noSolution_tree_hypotheses (W : World P S V M) (hW : W.SetsValid) (debug : Bool) (fuel : Nat)
    (root : P) (rv : V) (s : SolverState P S V M Pr) (tree : DerivationTree P S V M)
    (h : Reachable (E := E) W debug fuel root rv (s, .noSolution tree)) :
    (∀ U : P → V → Prop, tree.Sound U) ∧ tree.SharedConsistent ∧ tree.ResolutionShaped ∧
      tree.LeavesTrueExisting W root rv ∧ (∀ e ∈ tree.externals, e.SetsValid) ∧
      (∀ σ : P → Option V, σ root = some rv → TermsTrue σ tree.terms) := by
  obtain ⟨terminal, inc, hinc, hterm, htree, hinv, -, -⟩ :=
    noSolution_tree_origin W hW debug fuel root rv s tree h
  obtain ⟨hc, hterms⟩ := buildDerivationTree_checkable W root rv s.st hinv terminal inc hinc tree htree
  obtain ⟨hr, hv, hsc⟩ := buildDerivationTree_shape W root rv s.st hinv terminal tree htree
  refine ⟨fun U => hc.sound W root rv tree U, hsc, hr, hc.leavesTrueExisting W root rv tree, hv, ?_⟩
  intro σ hσ
  rw [hterms]
  exact terminal_forbids_root root rv inc hterm σ hσ

/-- C09 on resolve's trees: after `collapse_no_versions` (if it does not panic) the explanation is
still true of the existing versions and the top still forbids the root -/
theorem noSolution_collapse_sound (W : World P S V M) (hW : W.SetsValid) (debug : Bool) (fuel : Nat)
    (root : P) (rv : V) (s : SolverState P S V M Pr) (tree : DerivationTree P S V M)
    (h : Reachable (E := E) W debug fuel root rv (s, .noSolution tree))
    (t' : DerivationTree P S V M) (hc : tree.collapseNoVersions = .ok t') :
    t'.Sound W.Exists ∧ t'.LeavesTrueExisting W root rv ∧ t'.NoVersionsOnlyBesideLeaf ∧
      (∀ σ : P → Option V, Within W.Exists σ → σ root = some rv → TermsTrue σ t'.terms) := by
  obtain ⟨hs, -, hr, hl, hv, htop⟩ := noSolution_tree_hypotheses (E := E) W hW debug fuel root rv s tree h
  obtain ⟨g1, g2, -, g4, -⟩ :=
    collapse_sound_of_resolutionShaped W root rv tree (hs W.Exists) hl hv hr t' hc
  refine ⟨g1, g2, g4, ?_⟩
  intro σ hw hσ
  exact collapse_top_forbids_root_of_resolutionShaped W root rv tree (hs W.Exists) hl hv hr htop t' hc
    σ hw hσ

/-- C08 on resolve's trees: the default report of a `NoSolution` tree is produced (no fuel problem) and
every step is entailed by the premises it cites, for all versions -/
theorem noSolution_report_sound (W : World P S V M) (hW : W.SetsValid) (debug : Bool) (fuel : Nat)
    (root : P) (rv : V) (s : SolverState P S V M Pr) (tree : DerivationTree P S V M)
    (h : Reachable (E := E) W debug fuel root rv (s, .noSolution tree)) :
    (∃ r, reportSteps tree = .ok r) ∧
    ∀ lines, reportSteps tree = .ok (.inr lines) →
      ∀ i l, lines[i]? = some l → ∀ c, l.step.conclusion = some c →
        Entails (fun _ _ => True) (stepPremises lines i l.step) c := by
  obtain ⟨hs, hsc, -⟩ := noSolution_tree_hypotheses (E := E) W hW debug fuel root rv s tree h
  refine ⟨report_terminates tree hsc, ?_⟩
  intro lines hl i l hli c hcl
  exact report_steps_sound (fun _ _ => True) tree (hs _) hsc lines hl i l hli c hcl

end Pubgrub
