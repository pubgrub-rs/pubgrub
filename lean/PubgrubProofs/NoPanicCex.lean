/-
Why `no_panic` needs canonical emptiness when the Rust's `debug_assert`s are on: a lawful version set
(all the laws of `LawfulVersionSet`, every set valid) over two versions, whose sets carry a tag that every
operation resets to `0`.  `E1` and `E2` are member-free sets with tags `1` and `2`: they are not `empty`,
but `union E1 E2 = empty`.  In the run below (root `r@1` depends on `q` and `y`; `y@1` on `x`; `x@2`
on `q ∈ E2`; `x@1` on `q ∈ E1`; priorities `y > x > q`) conflict resolution resolves
`{x: {1}, q: ¬E1}` with `{x: {2}, q: ¬E2}`: `prior_cause` intersects the two terms of `q` into
`¬(E1 ∪ E2) = ¬empty = Term::any`; the learned clause `{q: any, y: {1}}` is then handed to
`merge_incompatibility`, whose `assert_ne!(term, Term::any())` fails.  With `debug = false` the same
answers lead to `NoSolution`.
-/
import PubgrubProofs.NoPanic

set_option linter.unusedVariables false

namespace Pubgrub
namespace NoPanicCex
open VersionSet

inductive V2 where
  | v1 | v2
  deriving DecidableEq, Repr

/-- a set of versions with a tag -/
structure TSet where
  b1 : Bool
  b2 : Bool
  tag : Nat
  deriving DecidableEq, Repr

def TSet.has (a : TSet) : V2 → Bool
  | .v1 => a.b1
  | .v2 => a.b2

instance : VersionSet TSet V2 where
  empty := ⟨false, false, 0⟩
  singleton v := match v with | .v1 => ⟨true, false, 0⟩ | .v2 => ⟨false, true, 0⟩
  complement a := ⟨!a.b1, !a.b2, 0⟩
  intersection a b := ⟨a.b1 && b.b1, a.b2 && b.b2, 0⟩
  contains a v := a.has v
  full := ⟨true, true, 0⟩
  union a b := ⟨a.b1 || b.b1, a.b2 || b.b2, 0⟩
  isDisjoint a b := !(a.b1 && b.b1) && !(a.b2 && b.b2)
  subsetOf a b := (!a.b1 || b.b1) && (!a.b2 || b.b2)

def E1 : TSet := ⟨false, false, 1⟩
def E2 : TSet := ⟨false, false, 2⟩
def full : TSet := ⟨true, true, 0⟩

-- packages: r = 0, q = 1, y = 2, x = 3
def W : World Nat TSet V2 Unit where
  versions p := if p = 3 then [.v1, .v2] else [.v1]
  deps p v :=
    if p = 0 then .available [(1, full), (2, full)]
    else if p = 2 then .available [(3, full)]
    else if p = 3 then (match v with | .v2 => .available [(1, E2)] | .v1 => .available [(1, E1)])
    else .available []

abbrev Rq := Request Nat TSet V2 Unit Nat Unit
abbrev An := Answer Nat TSet V2 Unit Nat Unit

def answers : List An := [
  .ok, .priority 10, .picked (some 0), .version (some .v1), .available [(1, full), (2, full)],
  .ok, .priority 3, .priority 1, .picked (some 2), .version (some .v1), .available [(3, full)],
  .ok, .priority 2, .picked (some 3), .version (some .v2), .available [(1, E2)],
  .ok, .priority 2, .priority 1, .picked (some 3), .version (some .v1), .available [(1, E1)],
  .ok]

instance : LawfulVersionSet TSet V2 where
  Valid := fun _ => True
  valid_empty := trivial
  valid_singleton := fun _ => trivial
  valid_complement := fun _ _ => trivial
  valid_intersection := fun _ _ _ _ => trivial
  valid_full := trivial
  valid_union := fun _ _ _ _ => trivial
  contains_empty := by intro v; cases v <;> rfl
  contains_singleton := by intro v w; cases v <;> cases w <;> simp [VersionSet.contains, VersionSet.singleton, TSet.has]
  contains_complement := by intro s v _; cases v <;> rfl
  contains_intersection := by intro a b v _ _; cases v <;> rfl
  contains_full := by intro v; cases v <;> rfl
  contains_union := by intro a b v _ _; cases v <;> rfl
  isDisjoint_iff := by
    intro a b _ _
    obtain ⟨a1, a2, ta⟩ := a
    obtain ⟨c1, c2, tb⟩ := b
    constructor
    · intro h v
      cases v <;> cases a1 <;> cases a2 <;> cases c1 <;> cases c2 <;>
        simp_all [isDisjoint, contains, TSet.has]
    · intro h
      have h1 := h .v1
      have h2 := h .v2
      cases a1 <;> cases a2 <;> cases c1 <;> cases c2 <;> simp_all [isDisjoint, contains, TSet.has]
  subsetOf_iff := by
    intro a b _ _
    obtain ⟨a1, a2, ta⟩ := a
    obtain ⟨c1, c2, tb⟩ := b
    constructor
    · intro h v
      cases v <;> cases a1 <;> cases a2 <;> cases c1 <;> cases c2 <;>
        simp_all [subsetOf, contains, TSet.has]
    · intro h
      have h1 := h .v1
      have h2 := h .v2
      cases a1 <;> cases a2 <;> cases c1 <;> cases c2 <;> simp_all [subsetOf, contains, TSet.has]

theorem W_setsValid : W.SetsValid := fun _ _ _ _ _ _ => trivial

theorem not_unionCanon : ¬ UnionCanon TSet V2 := by
  intro h
  exact h E1 E2 trivial trivial (by decide) (by decide)

theorem not_canonicalEmpty : ¬ CanonicalEmpty TSet V2 := by
  intro h
  have := h.eq_empty_of_no_member E1 trivial (by intro v; cases v <;> rfl)
  revert this; decide

/-- a decidable check that an answer is consistent with the world `W` -/
def answerOKb : Rq → An → Bool
  | .chooseVersion p s, .version none => (W.versions p).all fun v => !contains s v
  | .chooseVersion p _, .version (some v) => decide (v ∈ W.versions p)
  | .getDependencies _ _, .unavailable _ => false
  | .getDependencies p v, .available ds =>
    match W.deps p v with
    | .available ds' => decide (ds' = ds)
    | .unavailable _ => false
  | _, _ => true

theorem answerOKb_sound (req : Rq) (a : An) (h : answerOKb req a = true) : AnswerOK W req a := by
  cases req <;> cases a
  all_goals first | exact True.intro | skip
  case chooseVersion.version p s o =>
    cases o with
    | none =>
      intro v hv
      have := List.all_eq_true.1 h v hv
      simpa using this
    | some v =>
      have hv : v ∈ W.versions p := of_decide_eq_true h
      exact hv
  case getDependencies.unavailable p v m => cases h
  case getDependencies.available p v ds =>
    simp only [answerOKb] at h
    split at h
    · rename_i ds' hd
      simp only [AnswerOK]
      rw [hd, of_decide_eq_true h]
    · cases h

/-- a decidable check that an answer is one of a well-behaved provider -/
def wellBehavedb : Rq → An → Bool
  | _, .error _ => false
  | .chooseVersion _ s, .version (some v) => contains s v
  | _, _ => true

theorem wellBehavedb_sound (req : Rq) (a : An) (h : wellBehavedb req a = true) : AnswerWellBehaved req a := by
  cases req <;> cases a
  all_goals first | exact True.intro | cases h | skip
  all_goals (rename_i o; cases o <;> first | exact True.intro | exact h)

/-- the last request of the run, provided the answers are consistent with `W` and well-behaved all along -/
def checkedRun : SolverState Nat TSet V2 Unit Nat × Rq → List An → Option Rq
  | (_, req), [] => some req
  | (s, req), a :: as =>
    if answerOKb req a && wellBehavedb req a then checkedRun (Solver.step s a) as else none

theorem reachableWB_of_checkedRun (debug : Bool) (fuel : Nat) (root : Nat) (rv : V2) :
    ∀ (as : List An) (x : SolverState Nat TSet V2 Unit Nat × Rq) (r : Rq), ReachableWB W debug fuel root rv x →
      checkedRun x as = some r → ReachableWB W debug fuel root rv ((Solver.after x as).1, r) := by
  intro as
  induction as with
  | nil => intro x r hx hc; cases hc; exact hx
  | cons a as ih =>
    intro x r hx hc
    obtain ⟨s, req⟩ := x
    simp only [checkedRun] at hc
    split at hc
    · rename_i hok
      simp only [Bool.and_eq_true] at hok
      exact ih _ r (ReachableWB.step hx (answerOKb_sound req a hok.1) (wellBehavedb_sound req a hok.2)) hc
    · cases hc

def panicSite : Rq → Option String
  | .fault (.panic site) => some site
  | _ => none

def isNoSolution : Rq → Bool
  | .noSolution _ => true
  | _ => false

/-- the run is evaluated here, once, by the kernel -/
theorem run_debug : (checkedRun (Solver.start true 100 0 V2.v1) answers).bind panicSite =
    some "merge_incompatibility: assert_ne!(term, Term::any())" := by decide +kernel

theorem panic_reachableWB :
    ReachableWB (E := Unit) W true 100 0 V2.v1
      ((Solver.after (Solver.start true 100 0 V2.v1) answers).1,
        .fault (.panic "merge_incompatibility: assert_ne!(term, Term::any())")) := by
  obtain ⟨r, hr, hs⟩ := Option.bind_eq_some_iff.1 run_debug
  have h := reachableWB_of_checkedRun true 100 0 V2.v1 answers _ r ReachableWB.start hr
  cases r <;> try cases hs
  rename_i e
  cases e <;> cases hs
  exact h

/-- the statement of `no_panic` for every lawful version set, without canonical emptiness, is false -/
theorem no_panic_false_without_canonicalEmpty :
    ¬ (∀ (P S V M Pr E : Type) [DecidableEq P] [VersionSet S V] [DecidableEq S] [DecidableEq V]
      [LE Pr] [DecidableLE Pr] [LawfulVersionSet S V]
      (W : World P S V M) (hW : W.SetsValid) (debug : Bool) (fuel : Nat)
      (root : P) (rv : V) (s : SolverState P S V M Pr) (site : String),
      ¬ Reachable (E := E) W debug fuel root rv (s, .fault (.panic site))) := by
  intro h
  exact h Nat TSet V2 Unit Nat Unit W W_setsValid true 100 0 V2.v1 _ _
    (reachable_of_wb W true 100 0 V2.v1 _ panic_reachableWB)

/-- in a release build (`debug = false`) the same answers, followed by the re-examination of `y`, end in
`NoSolution` -/
def answersRelease : List An := answers ++ [.priority 3, .priority 1, .picked (some 2), .version none, .ok]

theorem release_noSolution :
    isNoSolution (Solver.after (Solver.start (E := Unit) (Pr := Nat) (M := Unit) false 100 (0 : Nat) V2.v1)
      answersRelease).2 = true := by decide +kernel

theorem wellBehaved_outcomes_false_without_canonicalEmpty :
    ¬ (∀ (P S V M Pr E : Type) [DecidableEq P] [VersionSet S V] [DecidableEq S] [DecidableEq V]
      [LE Pr] [DecidableLE Pr] [LawfulVersionSet S V]
      (W : World P S V M) (hW : W.SetsValid) (debug : Bool) (fuel : Nat)
      (root : P) (rv : V) (s : SolverState P S V M Pr) (req : Request P S V M Pr E)
      (h : ReachableWB W debug fuel root rv (s, req)) (hfin : req.isFinal = true),
      (∃ sel, req = .solution sel) ∨ (∃ t, req = .noSolution t) ∨ req = .fault .outOfFuel ∨
        (∃ m, req = .protocolError m)) := by
  intro h
  rcases h Nat TSet V2 Unit Nat Unit W W_setsValid true 100 0 V2.v1 _ _ panic_reachableWB rfl with
    ⟨_, h⟩ | ⟨_, h⟩ | h | ⟨_, h⟩ <;> cases h

/-
The requests of the two runs (`Solver.trace … answers`, packages by number):
debug = true:   cancel, prio 0, pick [0], choose 0, deps 0, cancel, prio 2, prio 1, pick [2, 1], choose 2,
  deps 2, cancel, prio 3, pick [1, 3], choose 3, deps 3, cancel, prio 3, prio 1, pick [3, 1], choose 3, deps 3,
  cancel, panic in merge_incompatibility: assert_ne!(term, Term::any())
debug = false (`answersRelease`): the same up to the last cancel, then prio 2, prio 1, pick [2, 1], choose 2,
  cancel, nosolution
-/

end NoPanicCex
end Pubgrub
