/-
A derivation keeps the bundle of invariants and decreases the measure; `propagateIncompats` keeps the
bundle, does not increase the potential, and strictly decreases the measure when it meets a trigger
without ending in a conflict.
-/
import PubgrubProofs.TerminationConflict

set_option linter.unusedSectionVars false

namespace Pubgrub
open VersionSet

section
variable {P S V M Pr : Type} [DecidableEq P] [VersionSet S V] [DecidableEq S] [DecidableEq V]
  [LawfulVersionSet S V]
variable {W : World P S V M} {root : P} {rv : V} (fw : FiniteWorld W root rv)

/-- what the unit propagation may do to the measure, the global index and the buffer -/
structure Desc (st st' : State P S V M Pr) : Prop where
  rk : rank fw st'.ps ≤ rank fw st.ps
  idx : st'.ps.nextGlobalIndex + rank fw st'.ps ≤ st.ps.nextGlobalIndex + rank fw st.ps
  pot : 2 * rank fw st'.ps + st'.buffer.length ≤ 2 * rank fw st.ps + st.buffer.length

theorem Desc.refl (st : State P S V M Pr) : Desc fw st st :=
  ⟨Nat.le_refl _, Nat.le_refl _, Nat.le_refl _⟩

theorem Desc.trans {a b c : State P S V M Pr} (h1 : Desc fw a b) (h2 : Desc fw b c) : Desc fw a c :=
  ⟨Nat.le_trans h2.rk h1.rk, Nat.le_trans h2.idx h1.idx, Nat.le_trans h2.pot h1.pot⟩

theorem Desc.of_lt {st st' : State P S V M Pr} (hr : rank fw st'.ps < rank fw st.ps)
    (hn : st'.ps.nextGlobalIndex = st.ps.nextGlobalIndex + 1)
    (hb : st'.buffer.length ≤ st.buffer.length + 1) : Desc fw st st' :=
  ⟨Nat.le_of_lt hr, by omega, by omega⟩

theorem Desc.of_dropLast {st st' : State P S V M Pr}
    (h : Desc fw ({ st with buffer := st.buffer.dropLast } : State P S V M Pr) st') : Desc fw st st' :=
  ⟨h.rk, h.idx, Nat.le_trans h.pot
    (Nat.add_le_add_left (List.length_dropLast (xs := st.buffer) ▸ Nat.sub_le _ 1) _)⟩

theorem MInv.level_lt {st : State P S V M Pr} (hm : MInv fw st) : st.ps.currentDecisionLevel + 2 ≤ Dim fw :=
  level_lt_Dim fw hm.p.wf.wf (fun kv hkv => (hm.k.ps kv hkv).1.1)

theorem MInv.congr {st st' : State P S V M Pr} (hm : MInv fw st) (e1 : st'.ps = st.ps)
    (e2 : st'.store = st.store) (e3 : st'.rootPackage = st.rootPackage) (e4 : st'.rootVersion = st.rootVersion)
    (hc : ∀ kv ∈ st'.contradicted, kv.1 < st.store.length) : MInv fw st' := by
  refine ⟨⟨by rw [e2]; exact hm.s.store, by rw [e3]; exact hm.s.root, by rw [e4]; exact hm.s.rv,
    by rw [e1]; exact hm.s.ps⟩, ⟨by rw [e1]; exact hm.p.wf, by rw [e2]; exact hc⟩, hm.t.congr e1 e2,
    by rw [e1]; exact hm.ne, hm.k.congr fw (by rw [e1]) e2, ?_⟩
  exact hm.acc.storeExt (by rw [e1]) (by rw [e2]; exact fun _ _ h => h)

theorem MInv.almost (ce : CanonEmpty S V) {st : State P S V M Pr} (hm : MInv fw st) {id : Nat}
    {inc : Incompat P S V M} (hinc : st.store[id]? = some inc) {p : P}
    (hrel : st.ps.relation inc = .almostSatisfied p)
    {ps : PartialSolution P S V Pr} (hps : st.ps.addDerivation p id st.store = .ok ps)
    (buffer : List P) (lvl : Nat) :
    MInv fw ({ st with buffer := buffer, ps := ps, contradicted := SmallMap.insert st.contradicted id lvl } :
      State P S V M Pr) ∧
    rank fw ps < rank fw st.ps ∧ ps.nextGlobalIndex = st.ps.nextGlobalIndex + 1 := by
  have hs := hm.s
  have hp := hm.p
  have ht := hm.t
  have hw := hp.wf
  have gi := hs.store id inc hinc
  have hid : id < st.store.length := (List.getElem?_eq_some_iff.1 hinc).1
  obtain ⟨_, t, hpt, hself⟩ := Incompat.relationGo_almost _ p inc.terms hrel
  have hget : inc.get p = some t := SmallMap.get_of_mem gi.nodup hpt
  have htv : t.Valid := gi.sets p t hpt
  obtain ⟨_, _, _, _, _, _, _, hstep⟩ := PartialSolution.addDerivation_step W root rv hs.store hw.wf hps
  refine ⟨⟨⟨hs.store, hs.root, hs.rv, PartialSolution.addDerivation_termsValid W root rv hs.store hs.ps hps⟩,
    hp.derive hid hps _ _, (State.almost_derivation W root rv hs hp ht hinc hrel).2 ps hps _ rfl rfl,
    State.almost_ne ce W root rv hs hinc hrel hm.ne hps, hm.k.derive fw hs hw.wf hps rfl rfl,
    hm.acc.derive hs hw hps rfl rfl⟩, ?_, hstep.next⟩
  refine rank_addDerivation fw hw hs.ps hps hinc hget htv (hm.k.get fw hinc hget)
    (fun o ho => hm.k.terms fw ho) ?_ (by have := hm.level_lt fw; omega)
  intro o ho
  have ho' : st.ps.termIntersectionForPackage p = some o := ho
  rcases hself with hn | ⟨o', ho'', hinc'⟩
  · rw [ho'] at hn; cases hn
  · rw [ho'] at ho''; injection ho'' with ho''; subst ho''
    have hov : o.Valid := PartialSolution.termIntersection_valid hs.ps ho'
    have h2 := ((Term.relationWith_inconclusive_iff t o htv hov).1 hinc').2
    apply Classical.byContradiction
    intro hno
    apply h2
    intro c ⟨hc1, hc2⟩
    exact hno ⟨c, hc2, hc1⟩

namespace State

theorem propagateIncompats_term (ce : CanonEmpty S V) :
    ∀ (ids : List Nat) (st : State P S V M Pr), MInv fw st →
    ∀ {st' : State P S V M Pr} {r : Option Nat}, propagateIncompats st ids = .ok (st', r) →
    MInv fw st' ∧ Desc fw st st' ∧
    (∀ id, r = some id → ∃ inc, st'.store[id]? = some inc ∧ st'.ps.relation inc = .satisfied) ∧
    (∀ p id0, Trigger st p id0 → id0 ∈ ids → r = none → rank fw st'.ps < rank fw st.ps) := by
  intro ids
  induction ids with
  | nil =>
    intro st hm st' r hr
    simp only [propagateIncompats] at hr
    injection hr with hr; injection hr with h1 h2; subst h1; subst h2
    exact ⟨hm, Desc.refl fw st, fun id h => (by cases h), fun p id0 _ h _ => (by cases h)⟩
  | cons id rest ih =>
    intro st hm st' r hr
    have hs := hm.s
    have hp := hm.p
    unfold propagateIncompats at hr
    split at hr
    · rename_i hck
      obtain ⟨h1, h2, h3, h4⟩ := ih st hm hr
      refine ⟨h1, h2, h3, ?_⟩
      intro p id0 htr hid0 hrn
      have hne : id0 ≠ id := by
        intro e; subst e
        unfold SmallMap.containsKey at hck
        rw [htr.1] at hck; cases hck
      exact h4 p id0 htr (by
        rcases List.mem_cons.1 hid0 with e | e
        · exact absurd e hne
        · exact e) hrn
    split at hr
    · cases hr
    rename_i inc hinc
    have hlt := storeGet_lt hinc
    have hinc' := storeGet_ok hinc
    -- if the head is the trigger, the relation is `satisfied` or `almostSatisfied p`
    have hrel : ∀ p id0, Trigger st p id0 → id = id0 →
        st.ps.relation inc = .satisfied ∨ st.ps.relation inc = .almostSatisfied p := by
      intro p id0 htr e; subst e; exact Trigger.relation W root rv hs.store htr hinc'
    have hmem : ∀ id0, id0 ∈ id :: rest → id ≠ id0 → id0 ∈ rest := by
      intro id0 hid0 hne
      rcases List.mem_cons.1 hid0 with e | e
      · exact absurd e.symm hne
      · exact e
    split at hr
    · rename_i hsat
      injection hr with hr; injection hr with h1 h2; subst h1; subst h2
      exact ⟨hm, Desc.refl fw st, fun id' h => (by injection h with h; subst h; exact ⟨inc, hinc', hsat⟩),
        fun p id0 _ _ h => (by cases h)⟩
    · rename_i q hq'
      split at hr
      · cases hr
      rename_i ps hps
      obtain ⟨hm1, hrank, hnext⟩ := hm.almost fw ce hinc' hq' hps
        (if st.buffer.contains q then st.buffer else st.buffer ++ [q]) ps.currentDecisionLevel
      obtain ⟨h1, h2, h3, _⟩ := ih _ hm1 hr
      have hd1 : Desc fw st ({ st with
          buffer := if st.buffer.contains q then st.buffer else st.buffer ++ [q], ps := ps,
          contradicted := SmallMap.insert st.contradicted id ps.currentDecisionLevel } : State P S V M Pr) :=
        Desc.of_lt fw hrank hnext (by
          show (if st.buffer.contains q then st.buffer else st.buffer ++ [q]).length ≤ st.buffer.length + 1
          split
          · exact Nat.le_succ _
          · rw [List.length_append]; exact Nat.le_refl _)
      refine ⟨h1, hd1.trans fw h2, h3, ?_⟩
      intro p id0 _ _ _
      exact Nat.lt_of_le_of_lt h2.rk hrank
    · rename_i q hq'
      have hm1 : MInv fw ({ st with
          contradicted := SmallMap.insert st.contradicted id st.ps.currentDecisionLevel } : State P S V M Pr) :=
        hm.congr fw rfl rfl rfl rfl (hp.cacheInsert hlt _).cache
      obtain ⟨h1, h2, h3, h4⟩ := ih _ hm1 hr
      refine ⟨h1, ⟨h2.rk, h2.idx, h2.pot⟩, h3, ?_⟩
      intro p id0 htr hid0 hrn
      have hne : id ≠ id0 := by
        intro e
        rcases hrel p id0 htr e with e' | e'
        · rw [hq'] at e'; cases e'
        · rw [hq'] at e'; cases e'
      exact h4 p id0 (htr.cache hne _) (hmem id0 hid0 hne) hrn
    · rename_i hq'
      obtain ⟨h1, h2, h3, h4⟩ := ih st hm hr
      refine ⟨h1, h2, h3, ?_⟩
      intro p id0 htr hid0 hrn
      have hne : id ≠ id0 := by
        intro e
        rcases hrel p id0 htr e with e' | e'
        · rw [hq'] at e'; cases e'
        · rw [hq'] at e'; cases e'
      exact h4 p id0 htr (hmem id0 hid0 hne) hrn

end State
end
end Pubgrub
