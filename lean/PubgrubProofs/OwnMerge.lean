/-
`mergeIncompatibility` keeps the semantic bundle and index completeness (stated with a window of ids that
are stored but not merged yet, for the loop of `add_incompatibility_from_dependencies`).
-/
import PubgrubProofs.OwnTransport

set_option linter.unusedSectionVars false

namespace Pubgrub
open VersionSet

section Lawful
variable {P S V M Pr : Type} [DecidableEq P] [VersionSet S V] [DecidableEq S] [LawfulVersionSet S V]

theorem Incompat.owner_key (W : World P S V M) (root : P) (rv : V)
    {store : List (Incompat P S V M)} {id : Nat} {inc : Incompat P S V M}
    (g : inc.Good W root rv store id) {p : P} (ho : inc.OwnedBy p) : p ∈ inc.terms.map Prod.fst := by
  have k := g.kind
  unfold Incompat.OwnedBy at ho
  unfold Incompat.KindTrue at k
  cases hk : inc.kind with
  | notRoot q w => rw [hk] at ho; exact ho.elim
  | derivedFrom a b => rw [hk] at ho; exact ho.elim
  | noVersions q s =>
    rw [hk] at k ho; simp only at k ho
    subst ho; rw [k.2]; simp
  | custom q s m =>
    rw [hk] at k ho; simp only at k ho
    subst ho
    obtain ⟨w, _, _, ht⟩ := k
    rw [ht]; simp
  | fromDependencyOf q s q2 t =>
    rw [hk] at k ho; simp only at k ho
    subst ho
    rw [k.2.2.2]; exact Incompat.fromDependency_key q s (q2, t)

/-- an incompatibility is represented in the index -/
def State.Rep (st : State P S V M Pr) (id : Nat) (inc : Incompat P S V M) : Prop :=
  match inc.kind with
  | .fromDependencyOf p s q t =>
      ∃ id' ∈ st.indexOf p, ∃ inc' s', st.store[id']? = some inc' ∧
        inc'.kind = .fromDependencyOf p s' q t ∧ (∀ v : V, contains s v = true → contains s' v = true)
  | .noVersions p _ => id ∈ st.indexOf p
  | .custom p _ _ => id ∈ st.indexOf p
  | _ => True

/-- index completeness outside the window `[lo, hi)` of ids that are stored but not merged yet -/
def State.ICx (st : State P S V M Pr) (lo hi : Nat) : Prop :=
  ∀ id inc, st.store[id]? = some inc → (id < lo ∨ hi ≤ id) → st.Rep id inc

theorem State.icx_of_indexComplete {st : State P S V M Pr} (h : st.IndexComplete) (lo hi : Nat) :
    st.ICx lo hi := fun id inc hi' _ => h id inc hi'

theorem State.indexComplete_of_icx {st : State P S V M Pr} {lo hi : Nat} (h : st.ICx lo hi)
    (hle : hi ≤ lo) : st.IndexComplete := by
  intro id inc hinc
  apply h id inc hinc
  omega

theorem State.Rep.mono {st st' : State P S V M Pr} {id : Nat} {inc : Incompat P S V M}
    (h : st.Rep id inc)
    (hstore : StorePrefix st st') (hidx : ∀ p i, i ∈ st.indexOf p → i ∈ st'.indexOf p) :
    st'.Rep id inc := by
  unfold State.Rep at h ⊢
  cases hk : inc.kind with
  | fromDependencyOf p s q t =>
    rw [hk] at h; simp only at h ⊢
    obtain ⟨id', hid', inc', s', e1, e2, e3⟩ := h
    exact ⟨id', hidx p id' hid', inc', s', hstore _ _ e1, e2, e3⟩
  | noVersions p s => rw [hk] at h; simp only at h ⊢; exact hidx p id h
  | custom p s m => rw [hk] at h; simp only at h ⊢; exact hidx p id h
  | notRoot p v => trivial
  | derivedFrom a b => trivial

theorem List.getElem?_concat_ge {α : Type} {l : List α} {a x : α} {i : Nat} (hi : ¬ i < l.length)
    (hx : (l ++ [a])[i]? = some x) : i = l.length ∧ x = a := by
  have hlen := (List.getElem?_eq_some_iff.1 hx).1
  rw [List.length_append, List.length_singleton] at hlen
  have : i = l.length := by omega
  subst this
  rw [List.getElem?_append_right (Nat.le_refl _), Nat.sub_self] at hx
  exact ⟨rfl, (Option.some.inj hx).symm⟩

theorem State.ICx.storePush {st : State P S V M Pr} {lo hi : Nat} (h : st.ICx lo hi)
    (inc : Incompat P S V M) (hk : ∃ a b, inc.kind = .derivedFrom a b) :
    State.ICx { st with store := st.store ++ [inc] } lo hi := by
  intro id x hx hw
  by_cases hlt : id < st.store.length
  · exact (h id x ((StorePrefix.append st [inc]).get_old hlt hx) hw).mono (StorePrefix.append st [inc])
      (fun _ _ hi => hi)
  · obtain ⟨_, rfl⟩ := List.getElem?_concat_ge hlt hx
    obtain ⟨a, b, hk⟩ := hk
    unfold State.Rep; rw [hk]; trivial

theorem State.rep_self {st : State P S V M Pr} {id : Nat}
    {inc : Incompat P S V M} (hinc : st.store[id]? = some inc)
    (hself : ∀ p, inc.OwnedBy p → id ∈ st.indexOf p) : st.Rep id inc := by
  unfold State.Rep
  cases hk : inc.kind with
  | fromDependencyOf p s q t =>
    exact ⟨id, hself p (by unfold Incompat.OwnedBy; rw [hk]), inc, s, hinc, hk, fun _ hv => hv⟩
  | noVersions p s => exact hself p (by unfold Incompat.OwnedBy; rw [hk])
  | custom p s m => exact hself p (by unfold Incompat.OwnedBy; rw [hk])
  | notRoot p v => trivial
  | derivedFrom a b => trivial

theorem State.mergeIncompatibility_own (W : World P S V M) (root : P) (rv : V)
    {st st' : State P S V M Pr} {id : Nat} {waive : P → Nat → Prop} {lo hi : Nat}
    (hr : State.mergeIncompatibility st id = .ok st') (h : Sem W root rv st waive)
    (Hown : ∀ inc, st.store[id]? = some inc → ∀ p, inc.OwnedBy p →
      ∀ pa g v t, st.ps.getPA p = some pa → pa.inter ≠ .decision g v t)
    (hicx : st.ICx lo hi) :
    Sem W root rv st' waive ∧ st'.ICx lo hi ∧ (∀ inc, st.store[id]? = some inc → st'.Rep id inc) ∧
      StorePrefix st st' ∧ st'.ps = st.ps := by
  obtain ⟨hps, hc, _, inc, hinc, hcase⟩ := State.mergeIncompatibility_spec hr
  have hs' := State.mergeIncompatibility_inv W root rv hr h.sinv
  have ginc := h.sinv.store id inc hinc
  rcases hcase with ⟨hstore, hidx⟩ | ⟨past, pastInc, merged, hpast, hm, hstore, hidx⟩
  · have hpre : StorePrefix st st' := StorePrefix.of_eq hstore
    have hmem : ∀ p i, i ∈ st'.indexOf p ↔ i ∈ st.indexOf p ∨ (i = id ∧ p ∈ inc.terms.map Prod.fst) := by
      intro p i; rw [State.indexOf_eq, hidx, mem_idxOf_foldl_append]; rfl
    refine ⟨Sem.grow W root rv h hs' hpre hps hc ?_, ?_, ?_, hpre, hps⟩
    · intro p i hi
      rcases (hmem p i).1 hi with hi | ⟨rfl, _⟩
      · exact Or.inl hi
      · rw [hstore]
        exact Or.inr ⟨(List.getElem?_eq_some_iff.1 hinc).1, fun inc' hinc' => Hown inc' hinc' p⟩
    · intro i x hx hw
      rw [hstore] at hx
      exact (hicx i x hx hw).mono hpre (fun p i hi => (hmem p i).2 (Or.inl hi))
    · intro inc' hinc'
      rw [hinc] at hinc'; injection hinc' with hinc'; subst hinc'
      exact State.rep_self (hpre _ _ hinc)
        (fun p ho => (hmem p id).2 (Or.inr ⟨rfl, Incompat.owner_key W root rv ginc ho⟩))
  · have gpast := h.sinv.store past pastInc hpast
    obtain ⟨p1, p2, s1, s2, t, _, hka, hkb, rfl⟩ := Incompat.mergeDependents_ok_some hm
      (fun _ _ _ _ hk => (ginc.terms_of_fromDependencyOf hk).2.2.2)
      (fun _ _ _ _ hk => (gpast.terms_of_fromDependencyOf hk).2.2.2)
    obtain ⟨_, vs1, _, _⟩ := ginc.terms_of_fromDependencyOf hka
    obtain ⟨_, vs2, _, _⟩ := gpast.terms_of_fromDependencyOf hkb
    have hpre : StorePrefix st st' := StorePrefix.of_append hstore
    have hnewget : st'.store[st.store.length]? =
        some (Incompat.fromDependency (M := M) p1 (union s1 s2) (p2, t)) := by
      rw [hstore, List.getElem?_append_right (Nat.le_refl _), Nat.sub_self]; rfl
    have hmem : ∀ p i, i ∈ st'.indexOf p ↔
        (i ∈ st.indexOf p ∧
          (p ∈ (Incompat.fromDependency (M := M) p1 (union s1 s2) (p2, t)).terms.map Prod.fst → i ≠ past)) ∨
        (i = st.store.length ∧
          p ∈ (Incompat.fromDependency (M := M) p1 (union s1 s2) (p2, t)).terms.map Prod.fst) := by
      intro p i; rw [State.indexOf_eq, hidx, mem_idxOf_foldl_append, mem_idxOf_foldl_filter]; rfl
    -- the merged incompatibility represents every dependency (p1 … → p2 t) with dependents inside s1 ∪ s2
    have hrepnew : ∀ (i : Nat) (x : Incompat P S V M) (s : S), x.kind = .fromDependencyOf p1 s p2 t →
        (∀ v : V, contains s v = true → contains (union s1 s2) v = true) → st'.Rep i x := by
      intro i x s hk hsub
      unfold State.Rep; rw [hk]
      exact ⟨st.store.length, (hmem _ _).2 (Or.inr ⟨rfl, Incompat.fromDependency_key p1 _ _⟩), _, union s1 s2,
        hnewget, rfl, hsub⟩
    refine ⟨Sem.grow W root rv h hs' hpre hps hc ?_, ?_, fun inc' hinc' => ?_, hpre, hps⟩
    · intro p i hi
      rcases (hmem p i).1 hi with ⟨hi, _⟩ | ⟨rfl, _⟩
      · exact Or.inl hi
      · refine Or.inr ⟨(List.getElem?_eq_some_iff.1 hnewget).1, ?_⟩
        intro inc' hinc' ho
        rw [hnewget] at hinc'; injection hinc' with hinc'; subst hinc'
        have hp : p1 = p := ho
        subst hp
        exact Hown inc hinc p1 (by unfold Incompat.OwnedBy; rw [hka])
    · intro i x hx hw
      by_cases hlt : i < st.store.length
      · have hxo := hpre.get_old hlt hx
        have hold := hicx i x hxo hw
        -- every index entry but `past` survives, and `past` is a dependency incompatibility
        have hkeep : ∀ p j, j ∈ st.indexOf p → j ≠ past → j ∈ st'.indexOf p :=
          fun p j hj hne => (hmem p j).2 (Or.inl ⟨hj, fun _ => hne⟩)
        have hxp : i = past → x.kind = .fromDependencyOf p1 s2 p2 t := by
          rintro rfl; rw [hpast] at hxo; injection hxo with e; rw [← e]; exact hkb
        unfold State.Rep at hold ⊢
        cases hk : x.kind with
        | fromDependencyOf p s q t' =>
          rw [hk] at hold; simp only at hold ⊢
          obtain ⟨id', hid', inc', s', e1, e2, e3⟩ := hold
          by_cases hsurv : id' = past
          · subst hsurv
            rw [hpast] at e1; injection e1 with e1; subst e1
            rw [hkb] at e2
            injection e2 with e2a e2b e2c e2d
            subst e2a e2b e2c e2d
            have := hrepnew i x s hk (fun v hv => by
              rw [LawfulVersionSet.contains_union _ _ _ vs1 vs2, e3 v hv, Bool.or_true])
            unfold State.Rep at this; rw [hk] at this; exact this
          · exact ⟨id', hkeep p id' hid' hsurv, inc', s', hpre _ _ e1, e2, e3⟩
        | noVersions p s =>
          rw [hk] at hold
          exact hkeep p i hold (fun e => by rw [hxp e] at hk; cases hk)
        | custom p s m =>
          rw [hk] at hold
          exact hkeep p i hold (fun e => by rw [hxp e] at hk; cases hk)
        | notRoot p v => trivial
        | derivedFrom a b => trivial
      · rw [hstore] at hx
        obtain ⟨_, rfl⟩ := List.getElem?_concat_ge hlt hx
        exact hrepnew i _ _ rfl (fun _ hv => hv)
    · rw [hinc] at hinc'; injection hinc' with e; subst e
      exact hrepnew id inc s1 hka (fun v hv => by
        rw [LawfulVersionSet.contains_union _ _ _ vs1 vs2, hv, Bool.true_or])

end Lawful
end Pubgrub
