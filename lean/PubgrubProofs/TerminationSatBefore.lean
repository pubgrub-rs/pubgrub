/-
The satisfier of a term and the global index before which the term is satisfied.
-/
import PubgrubProofs.SatisfierTheory

set_option linter.unusedSectionVars false

namespace Pubgrub
open VersionSet

section
variable {P S V M Pr : Type} [DecidableEq P] [VersionSet S V] [DecidableEq S] [LawfulVersionSet S V]

/-- every term of the incompatibility is satisfied by the assignments with global index below `g` -/
def PartialSolution.SatBefore (ps : PartialSolution P S V Pr) (inc : Incompat P S V M) (g : Nat) : Prop :=
  ∀ q t, (q, t) ∈ inc.terms → ∃ pa, ps.getPA q = some pa ∧ pa.SatBefore t g

/-- what `satisfier` returns; the derivation found is the earliest one whose accumulated term is disjoint
from `start` -/
theorem PartialSolution.satisfier_spec {pa : PackageAssignments S V} {start : Term S}
    {s : Option Nat × Nat × Nat} (h : PartialSolution.satisfier pa start = .ok s)
    (hidx : (pa.dated.map (·.globalIndex)).Pairwise (· < ·)) :
    pa.IsSat start s ∧
      ∀ dd' ∈ pa.dated, dd'.accumulated.isDisjoint start = true → s.2.1 ≤ dd'.globalIndex := by
  unfold PartialSolution.satisfier at h
  split at h
  · rename_i dd0 hdd0
    injection h with h; subst h
    obtain ⟨hp, as, bs, hsplit, hbefore⟩ := List.find?_eq_some_iff_append.1 hdd0
    refine ⟨Or.inl ⟨dd0, List.mem_of_find?_eq_some hdd0, hp, rfl⟩, ?_⟩
    intro dd' hdd' hdis
    rw [hsplit] at hdd' hidx
    rw [List.pairwise_map, List.pairwise_append] at hidx
    obtain ⟨_, hl2, _⟩ := hidx
    rw [List.pairwise_cons] at hl2
    rcases List.mem_append.1 hdd' with h1 | h1
    · have := hbefore dd' h1
      rw [hdis] at this; cases this
    · rcases List.mem_cons.1 h1 with e | e
      · subst e; exact Nat.le_refl _
      · exact Nat.le_of_lt (hl2.1 dd' e)
  · rename_i hnone
    have hall : ∀ dd ∈ pa.dated, dd.accumulated.isDisjoint start = false := by
      intro dd hdd
      have := List.find?_eq_none.1 hnone dd hdd
      simpa using this
    split at h
    · rename_i g v t hinter
      injection h with h; subst h
      exact ⟨Or.inr ⟨hall, g, v, t, hinter, rfl⟩, fun dd' hdd' hdis => by rw [hall dd' hdd'] at hdis; cases hdis⟩
    · cases h

theorem PackageAssignments.SatBefore.satisfier_lt {pa : PackageAssignments S V} {dl n i : Nat}
    (hw : pa.WFAt dl n i) (hv : pa.TermsValid) {t : Term S} (htv : t.Valid) {g : Nat}
    (hsat : pa.SatBefore t g) {s : Option Nat × Nat × Nat}
    (hs : PartialSolution.satisfier pa t.negate = .ok s) : s.2.1 < g := by
  obtain ⟨t0, ht0, himp⟩ := hsat
  obtain ⟨hissat, hmin⟩ := PartialSolution.satisfier_spec hs hw.indices
  rcases termBefore_eq_some ht0 with ⟨gd, v, hinter, hlt⟩ | ⟨dd0, hdd0, hlt, rfl⟩
  · -- the decision is before `g`, and so are the derivations, which precede it
    rcases hissat with ⟨dd, hdd, _, rfl⟩ | ⟨_, g2, v2, t2, hint2, rfl⟩
    · exact Nat.lt_trans ((hw.of_decision hinter).2.2.2.1 dd hdd) hlt
    · rw [hinter] at hint2; injection hint2 with e1 _ _; subst e1; exact hlt
  · exact Nat.lt_of_le_of_lt
      (hmin dd0 hdd0 (Term.disjoint_negate_of_imp (hv.dated dd0 hdd0) htv himp)) hlt

theorem PackageAssignments.satBefore_of_satisfier {pa : PackageAssignments S V}
    (hv : pa.TermsValid) (hsh : pa.Shrink) {t : Term S} (htv : t.Valid)
    (himp : pa.inter.term.Imp t) {s : Option Nat × Nat × Nat}
    (hs : pa.IsSat t.negate s) {g : Nat} (hg : s.2.1 < g) : pa.SatBefore t g := by
  -- a derivation before `g` that satisfies the term
  have hfrom : ∀ dd ∈ pa.dated, dd.globalIndex < g → dd.accumulated.Imp t →
      ∃ t0, ((pa.dated.filter fun dd => Decidable.decide (dd.globalIndex < g)).getLast?).map
        (·.accumulated) = some t0 ∧ t0.Imp t := by
    intro dd hdd hlt hdimp
    have hmf : dd ∈ pa.dated.filter fun dd => Decidable.decide (dd.globalIndex < g) :=
      List.mem_filter.2 ⟨hdd, by simpa using hlt⟩
    obtain ⟨l, hl⟩ := getLast?_of_mem hmf
    refine ⟨l.accumulated, by rw [hl]; rfl, ?_⟩
    have hs' : (pa.dated.filter fun dd => Decidable.decide (dd.globalIndex < g)).Pairwise
        (fun a b => b.accumulated.Imp a.accumulated) := List.Pairwise.sublist List.filter_sublist hsh
    rcases pairwise_getLast hs' hl dd hmf with e | e
    · subst e; exact hdimp
    · exact Term.Imp.trans e hdimp
  unfold PackageAssignments.SatBefore PackageAssignments.termBefore
  rcases hs with ⟨dd, hdd, hdis, rfl⟩ | ⟨_, g2, v2, t2, hint2, rfl⟩
  · have hdimp : dd.accumulated.Imp t := Term.imp_of_disjoint_negate (hv.dated dd hdd) htv hdis
    split
    · rename_i gd v t' hinter
      split
      · refine ⟨t', rfl, ?_⟩
        rw [hinter] at himp; exact himp
      · exact hfrom dd hdd hg hdimp
    · exact hfrom dd hdd hg hdimp
  · rw [hint2]
    simp only
    rw [if_pos hg]
    refine ⟨t2, rfl, ?_⟩
    rw [hint2] at himp; exact himp

theorem PackageAssignments.satBefore_next {pa : PackageAssignments S V} {dl n i : Nat}
    (hw : pa.WFAt dl n i) {t : Term S} (himp : pa.inter.term.Imp t) : pa.SatBefore t n :=
  ⟨pa.inter.term, PackageAssignments.termBefore_current hw (Nat.le_refl _), himp⟩

theorem PartialSolution.satBefore_of_satisfies {ps : PartialSolution P S V Pr} (h : ps.WF')
    {inc : Incompat P S V M} (hsat : ps.Satisfies inc) : ps.SatBefore inc ps.nextGlobalIndex := by
  intro q t hqt
  obtain ⟨pa, hpa, himp⟩ := hsat q t hqt
  obtain ⟨i, _, hwf, _⟩ := h.entry_of_getPA hpa
  exact ⟨pa, hpa, PackageAssignments.satBefore_next hwf himp⟩

end
end Pubgrub
