/-
The run-level invariant `RInvT` (`TInv` while the run is live, its consequences in the state a solution is
returned from, no listed panic) and its preservation by `Solver.step`.
-/
import PubgrubProofs.ConflictResolution
import PubgrubProofs.StepFault

set_option linter.unusedSectionVars false

namespace Pubgrub
open VersionSet

section
variable {P S V M Pr : Type} [DecidableEq P] [VersionSet S V] [DecidableEq S] [LawfulVersionSet S V]

namespace State

theorem tinv_addSingle {root : P} {rv : V} {st st' : State P S V M Pr} (ht : TInv root rv st)
    {inc : Incompat P S V M} {p : P} {tp : Term S} (hterms : inc.terms = [(p, tp)])
    (hdep : inc.asDependency = none) (hr : addIncompatibility st inc = .ok st')
    (hpos : st.ps.InflightPos p) : TInv root rv st' := by
  obtain ⟨e1, _, e3, _⟩ := addIncompatibility_single hterms hdep hr
  obtain ⟨pa, s, hpa, _⟩ := hpos
  have hpam := SmallMap.mem_of_get hpa
  refine ht.storeExt e1 ?_ ?_ ?_
  · intro i inc' hi
    rw [e3, List.getElem?_append_left (List.getElem?_eq_some_iff.1 hi).1]; exact hi
  · intro e; rw [e] at hpam; cases hpam
  · intro h0 inc' hinc' kv hkv
    obtain ⟨_, g2, g3⟩ := ht.rootinv.lvl0 h0
    rw [e3] at hinc'
    rcases List.mem_append.1 hinc' with hi | hi
    · exact g2 inc' hi kv hkv
    · rw [List.mem_singleton] at hi; subst hi
      rw [hterms, List.mem_singleton] at hkv
      subst hkv
      exact (g3 _ hpam).1

theorem addIncompatibilityFromDependencies_prefix {st st' : State P S V M Pr} {p : P} {v : V}
    {deps : List (P × S)} {start stop : Nat}
    (hr : addIncompatibilityFromDependencies st p v deps = .ok (st', start, stop)) :
    ∀ (i : Nat) (inc : Incompat P S V M), st.store[i]? = some inc → st'.store[i]? = some inc := by
  obtain ⟨h1, -, -⟩ := addIncompatibilityFromDependencies_spec hr
  intro i inc hi
  apply foldlM_merge_prefix _ _ _ h1 i inc
  show (st.store ++ _)[i]? = some inc
  rw [List.getElem?_append_left (List.getElem?_eq_some_iff.1 hi).1]; exact hi

end State
end

variable {P S V M Pr E : Type} [DecidableEq P] [VersionSet S V] [DecidableEq S] [DecidableEq V]
  [LE Pr] [DecidableLE Pr] [LawfulVersionSet S V]

structure RInvT (root : P) (rv : V) (x : SolverState P S V M Pr × Request P S V M Pr E) : Prop where
  live : x.1.phase ≠ .finished → TInv root rv x.1.st
  sol : ∀ sel, x.2 = .solution sel → x.1.st.ps.LevelMono ∧ x.1.st.CauseInv
  fault : ∀ site, x.2 = .fault (.panic site) → ¬ Listed site

theorem rinvT_finish (root : P) (rv : V) (s : SolverState P S V M Pr) (r : Request P S V M Pr E)
    (hsol : ∀ sel, r = .solution sel → s.st.ps.LevelMono ∧ s.st.CauseInv)
    (hfault : ∀ site, r = .fault (.panic site) → ¬ Listed site) : RInvT root rv (Solver.finish s r) :=
  ⟨fun h => absurd rfl h, hsol, hfault⟩

theorem rinvT_loopAgain (root : P) (rv : V) (s : SolverState P S V M Pr) (st : State P S V M Pr)
    (h : TInv root rv st) : RInvT (E := E) root rv (Solver.loopAgain s st) :=
  ⟨fun _ => h, fun sel h => by simp [Solver.loopAgain] at h, fun site h => by simp [Solver.loopAgain] at h⟩

theorem rinvT_start (debug : Bool) (fuel : Nat) (root : P) (rv : V) :
    RInvT root rv (Solver.start (Pr := Pr) (E := E) (M := M) (S := S) debug fuel root rv) := by
  refine ⟨fun _ => ⟨?_, ?_, ?_, ⟨?_, ?_, ?_, ?_⟩⟩, fun sel h => by simp [Solver.start] at h,
    fun site h => by simp [Solver.start] at h⟩
  · intro p pa q qa h; simp [Solver.start, State.init, PartialSolution.empty] at h
  · intro kv h; simp [Solver.start, State.init, PartialSolution.empty] at h
  · intro p pa h; simp [Solver.start, State.init, PartialSolution.empty] at h
  · intro _
    refine ⟨rfl, ?_, ?_⟩
    · intro inc hinc kv hkv
      simp only [Solver.start, State.init, List.mem_singleton] at hinc
      subst hinc
      simp only [Incompat.notRoot, List.mem_singleton] at hkv
      subst hkv; rfl
    · intro kv h; simp [Solver.start, State.init, PartialSolution.empty] at h
  · intro _; rfl
  · intro p pa h; simp [Solver.start, State.init, PartialSolution.empty] at h
  · intro p pa h; simp [Solver.start, State.init, PartialSolution.empty] at h

theorem rinvT_live (root : P) (rv : V) (s : SolverState P S V M Pr) (r : Request P S V M Pr E)
    (h : TInv root rv s.st) (h1 : ∀ sel, r ≠ .solution sel := by intro sel h'; cases h')
    (h2 : ∀ f, r ≠ .fault f := by intro f h'; cases h') : RInvT root rv (s, r) :=
  ⟨fun _ => h, fun sel h => absurd h (h1 sel), fun _ h => absurd h (h2 _)⟩

theorem tinv_decided (root : P) (rv : V) {st0 st : State P S V M Pr} {p : P} {v : V}
    {t : Term S} {ps : PartialSolution P S V Pr} {debug : Bool}
    (hp0 : PInv st0) (ht0 : TInv root rv st0)
    (eps : st.ps = st0.ps)
    (est : ∀ (i : Nat) (inc : Incompat P S V M), st0.store[i]? = some inc → st.store[i]? = some inc)
    (hp : PInv st) (hfl : st.ps.InFlightOK p)
    (hterm : st.ps.termIntersectionForPackage p = some t) (hcont : t.contains v = true)
    (hps : st.ps.addDecision debug p v = .ok ps) : TInv root rv { st with ps := ps } := by
  obtain ⟨h1, _, _⟩ := decided_ok hp hfl hterm hcont hps
  obtain ⟨_, _, pa, set, hpa, hinter⟩ := hfl
  have ht : t = .pos set := by
    simp only [PartialSolution.termIntersectionForPackage, hpa, Option.map_some, hinter, AssignInter.term] at hterm
    injection hterm with hterm; exact hterm.symm
  subst ht
  rw [eps] at hps hpa
  exact tinv_decision root rv hp0 ht0 hps h1.wf.wf hpa hinter hcont rfl est

theorem tinv_addVersion (root : P) (rv : V) {st0 st : State P S V M Pr} {p : P} {v : V}
    {t : Term S} {ps : PartialSolution P S V Pr} {news : List (Incompat P S V M)}
    (hp0 : PInv st0) (ht0 : TInv root rv st0)
    (eps : st.ps = st0.ps)
    (est : ∀ (i : Nat) (inc : Incompat P S V M), st0.store[i]? = some inc → st.store[i]? = some inc)
    (hp : PInv st) (hfl : st.ps.InFlightOK p)
    (hterm : st.ps.termIntersectionForPackage p = some t) (hcont : t.contains v = true)
    (hps : st.ps.addVersion st.debug p v news = .ok ps) : TInv root rv { st with ps := ps } := by
  rcases PartialSolution.addVersion_spec hps with hd | ⟨rfl, hbt, -⟩
  · exact tinv_decided root rv hp0 ht0 eps est hp hfl hterm hcont hd
  · -- no decision: a backtrack has happened, so the level is not 0, and only the store has grown
    have hlvl : st0.ps.currentDecisionLevel ≠ 0 := by
      intro h0
      rw [eps, (ht0.rootinv.lvl0 h0).1] at hbt
      cases hbt
    obtain ⟨_, _, pa, set, hpa, _⟩ := hfl
    have hne : st0.ps.assignments ≠ [] := by
      intro e
      have := SmallMap.mem_of_get hpa
      rw [eps, e] at this; cases this
    exact (ht0.storeExt eps est hne (fun h0 => absurd h0 hlvl)).congr rfl rfl

theorem rinvT_step (W : World P S V M) (root : P) (rv : V)
    (s : SolverState P S V M Pr) (req : Request P S V M Pr E) (a : Answer P S V M Pr E)
    (h0 : RInv W root rv (s, req)) (h1 : RInv' (s, req)) (h : RInvT root rv (s, req)) :
    RInvT root rv (Solver.step s a) := by
  have hs : SInv W root rv s.st := h0.sinv
  have live : ∀ {ph}, s.phase = ph → ph ≠ .finished → PInv s.st ∧ TInv root rv s.st :=
    fun e hne => ⟨(h1.live (e ▸ hne)).1, h.live (e ▸ hne)⟩
  have hup := fun hph : s.phase = .cancel =>
    State.unitPropagation_safe W root rv s.fuel s.st s.next hs (live hph nofun).1 (live hph nofun).2
  have hfault : ∀ site, (Solver.step s a).2 = .fault (.panic site) → ¬ Listed site := fun site hx => by
    rcases (Solver.step_spec s a).fault_origin hx with ⟨hph, hu | ⟨st, terminal, -, hb⟩⟩ | ⟨α, r, hq, hb⟩
    · exact (hup hph).of_panic hu
    · exact (State.buildDerivationTree_safe st terminal).of_panic hb
    · exact hq.safe0.of_panic hb
  -- the fault of a step is accounted for; what is left are the steps that go on or return a solution
  refine Solver.step_cases (motive := fun x => (∀ site, x.2 = .fault (.panic site) → ¬ Listed site) →
    RInvT root rv x) s a ?stop ?propagated ?prioritized ?solved ?popped ?noVersion ?fetch ?redecided
    ?unavailable ?available hfault
  case stop => exact fun s' r _ hr hf => rinvT_finish root rv s' r (fun sel e => absurd e (hr sel)) hf
  case propagated =>
    intro st L hph _ hu _ _
    have ht1 : TInv root rv st := (hup hph).of_ok hu rfl
    cases L with
    | nil => exact rinvT_live root rv _ _ ht1
    | cons cur rest => exact rinvT_live root rv _ _ ht1
  case prioritized =>
    intro cur rest acc pr hph _ _
    cases rest with
    | nil => exact rinvT_live root rv _ _ (live hph nofun).2
    | cons nxt rest' => exact rinvT_live root rv _ _ (live hph nofun).2
  case solved =>
    intro acc sel hph _ _ _ hf
    have ht1 : TInv root rv { s.st with ps := s.st.ps.afterPrioritize acc } :=
      (live hph nofun).2.congr_fields rfl rfl rfl rfl
    exact rinvT_finish root rv _ _ (fun _ _ => ⟨ht1.gmono.levelMono, ht1.cause⟩) hf
  case popped =>
    intro acc p t set hph _ _ _ _ _
    exact rinvT_live root rv _ _ ((live hph nofun).2.congr_fields rfl rfl rfl rfl)
  case noVersion =>
    intro p t inc st hph _ hinc hadd _
    obtain ⟨hp, ht⟩ := live hph nofun
    obtain ⟨hterms, hdep⟩ := Incompat.noVersions_ok hinc
    exact rinvT_loopAgain root rv s st
      (State.tinv_addSingle ht hterms hdep hadd (h1.choosing p t hph).2.2.2.2)
  case fetch =>
    intro p t v hph _ _ _ _
    exact rinvT_live root rv _ _ (live hph nofun).2
  case redecided =>
    intro p t v ps hph _ hcont _ hps _
    obtain ⟨hp, ht⟩ := live hph nofun
    obtain ⟨_, hterm, hfl⟩ := h1.choosing p t hph
    exact rinvT_loopAgain root rv _ _
      (tinv_decided root rv hp ht rfl (fun i inc hi => hi) hp hfl hterm hcont hps)
  case unavailable =>
    intro p v m st hph _ hadd _
    obtain ⟨hp, ht⟩ := live hph nofun
    exact rinvT_loopAgain root rv s st
      (State.tinv_addSingle (tp := Term.pos (VersionSet.singleton v)) ht rfl rfl hadd
        (h1.fetching p v hph).2.1.2.2)
  case available =>
    intro p v deps st start stop ps hph _ hadd hps _
    obtain ⟨hp, ht⟩ := live hph nofun
    obtain ⟨_, hfl, t, hterm, hcont⟩ := h1.fetching p v hph
    obtain ⟨hp1, eps⟩ := State.addIncompatibilityFromDependencies_pinv hadd hp
    exact rinvT_loopAgain root rv _ _
      (tinv_addVersion root rv hp ht eps (State.addIncompatibilityFromDependencies_prefix hadd) hp1
        (eps ▸ hfl) (eps ▸ hterm) hcont hps)

end Pubgrub
