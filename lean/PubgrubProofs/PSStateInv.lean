/-
The state-level invariant `PInv` (strengthened I-PS plus: the contradiction cache points into the
store); decision levels returned by the satisfier search; `mergeIncompatibility`.
-/
import PubgrubProofs.PSQueueInv

set_option linter.unusedSectionVars false

namespace Pubgrub
open VersionSet

theorem SmallMap.mem_insert_sub {K T : Type} [DecidableEq K] {m : SmallMap K T} {k : K} {v : T} {x : K × T}
    (h : x ∈ SmallMap.insert m k v) : x = (k, v) ∨ x ∈ m := by
  induction m with
  | nil => simp [SmallMap.insert] at h; exact Or.inl h
  | cons y m ih =>
    obtain ⟨a, b⟩ := y
    by_cases hk : k = a
    · subst hk
      simp only [SmallMap.insert, if_true, List.mem_cons] at h
      rcases h with h | h
      · exact Or.inl h
      · exact Or.inr (List.mem_cons_of_mem _ h)
    · simp only [SmallMap.insert, if_neg hk, List.mem_cons] at h
      rcases h with h | h
      · exact Or.inr (h ▸ List.mem_cons_self)
      · rcases ih h with h | h
        · exact Or.inl h
        · exact Or.inr (List.mem_cons_of_mem _ h)

section PS
variable {P S V M Pr : Type} [DecidableEq P] [VersionSet S V] [DecidableEq S]
  [LawfulVersionSet S V]

namespace PartialSolution

theorem highest_le {ps : PartialSolution P S V Pr} (h : ps.WF) {p : P} {pa : PackageAssignments S V}
    (hpa : ps.getPA p = some pa) : pa.highest ≤ ps.currentDecisionLevel := by
  obtain ⟨i, _, hi⟩ := getElem_of_getPA hpa
  have he := h.entries i p pa hi
  by_cases hlt : i < ps.currentDecisionLevel
  · obtain ⟨g, v, _, h2, _⟩ := he.decided hlt; omega
  · obtain ⟨t, l, f, _, h2, _⟩ := he.undecided (Nat.le_of_not_lt hlt); exact h2

theorem satisfier_level {pa : PackageAssignments S V} (hx : pa.WFX) {term : Term S}
    {r : Option Nat × Nat × Nat} (hr : satisfier pa term = .ok r) : r.2.2 ≤ pa.highest := by
  unfold satisfier at hr
  split at hr
  · rename_i dd hdd
    injection hr with hr; subst hr
    exact hx.le_highest dd (List.mem_of_find?_eq_some hdd)
  · split at hr
    · injection hr with hr; subst hr; exact Nat.le_refl _
    · cases hr

theorem findSatisfier_level {ps : PartialSolution P S V Pr} (h : ps.WF') :
    ∀ (terms : List (P × Term S)) (acc m : SmallMap P (Option Nat × Nat × Nat)),
    (∀ kv ∈ acc, kv.2.2.2 ≤ ps.currentDecisionLevel) →
    terms.foldlM (m := R) (fun acc (pt : P × Term S) => do
      let pa ← unwrapOr (ps.getPA pt.1) "find_satisfier: Must exist"
      let s ← satisfier pa pt.2.negate
      pure (SmallMap.insert acc pt.1 s)) acc = .ok m →
    ∀ kv ∈ m, kv.2.2.2 ≤ ps.currentDecisionLevel := by
  intro terms acc m hacc hr
  refine foldlM_ok_inv (fun acc => ∀ kv ∈ acc, kv.2.2.2 ≤ ps.currentDecisionLevel) hr hacc ?_
  intro pt _ acc acc1 hacc h1
  simp only [bind, Except.bind, pure, Except.pure] at h1
  split at h1
  · cases h1
  rename_i pa hpa
  split at h1
  · cases h1
  rename_i s hs
  injection h1 with h1; subst h1
  intro kv hkv
  rcases SmallMap.mem_insert_sub hkv with rfl | hkv
  · have hpa' := unwrapOr_ok hpa
    exact Nat.le_trans (satisfier_level (h.wfx _ (SmallMap.mem_of_get hpa')) hs) (highest_le h.wf hpa')
  · exact hacc kv hkv

theorem maxByIndex_mem : ∀ (m : List (P × (Option Nat × Nat × Nat))) (y : P × (Option Nat × Nat × Nat)),
    maxByIndex m = some y → y ∈ m := by
  intro m
  induction m with
  | nil => intro y h; simp [maxByIndex] at h
  | cons x rest ih =>
    intro y h
    unfold maxByIndex at h
    split at h
    · injection h with h; subst h; exact List.mem_cons_self
    · rename_i z hz
      split at h
      · injection h with h; subst h; exact List.mem_cons_self
      · injection h with h; subst h; exact List.mem_cons_of_mem _ (ih z hz)

theorem satisfierSearch_prev_lt {ps : PartialSolution P S V Pr} (h : ps.WF') {inc : Incompat P S V M}
    {store : List (Incompat P S V M)} {pkg : P} {prev : Nat}
    (hr : ps.satisfierSearch inc store = .ok (pkg, .differentDecisionLevels prev)) :
    prev < ps.currentDecisionLevel := by
  unfold satisfierSearch at hr
  simp only [bind, Except.bind, pure, Except.pure] at hr
  split at hr
  · cases hr
  rename_i m hm
  split at hr
  · cases hr
  rename_i y hy
  obtain ⟨sp, sc, sg, sdl⟩ := y
  simp only at hr
  split at hr
  · cases hr
  rename_i prev' hprev
  have hmem := maxByIndex_mem _ _ (unwrapOr_ok hy)
  have hlev := findSatisfier_level h inc.terms [] m (by intro kv hkv; cases hkv) hm _ hmem
  simp only at hlev
  split at hr
  · split at hr
    · cases hr
    · injection hr with hr; injection hr with _ hr; cases hr
  · rename_i hlt
    injection hr with hr; injection hr with _ hr; injection hr with hr; subst hr
    exact Nat.lt_of_lt_of_le (Nat.lt_of_not_le hlt) hlev

theorem satisfierSearch_level {ps : PartialSolution P S V Pr} (h : ps.WF') {inc : Incompat P S V M}
    {store : List (Incompat P S V M)} {pkg : P} {prev : Nat}
    (hr : ps.satisfierSearch inc store = .ok (pkg, .differentDecisionLevels prev)) :
    prev ≤ ps.currentDecisionLevel :=
  Nat.le_of_lt (satisfierSearch_prev_lt h hr)

end PartialSolution

/-- the part of the state-level invariant that concerns the partial solution: strengthened I-PS, and
the `contradicted` cache only mentions stored incompatibilities -/
structure PInv (st : State P S V M Pr) : Prop where
  wf : st.ps.WF'
  cache : ∀ kv ∈ st.contradicted, kv.1 < st.store.length

namespace State

/-- the result of `mergeIncompatibility`, up to the `merged_dependencies` table -/
theorem mergeIncompatibility_spec {st st' : State P S V M Pr} {id : Nat}
    (hr : mergeIncompatibility st id = .ok st') :
    st'.ps = st.ps ∧ st'.contradicted = st.contradicted ∧ st'.buffer = st.buffer ∧
    ∃ inc, st.store[id]? = some inc ∧
      ((st'.store = st.store ∧
        st'.incompatibilities =
          inc.terms.foldl (fun idx kv => updIndex idx kv.1 (fun ids => ids ++ [id])) st.incompatibilities) ∨
       (∃ past pastInc merged, st.store[past]? = some pastInc ∧
          inc.mergeDependents pastInc = .ok (some merged) ∧ st'.store = st.store ++ [merged] ∧
          st'.incompatibilities =
            merged.terms.foldl (fun idx kv => updIndex idx kv.1 (fun ids => ids ++ [st.store.length]))
              (merged.terms.foldl (fun idx kv => updIndex idx kv.1 (fun ids => ids.filter (· ≠ past)))
                st.incompatibilities))) := by
  unfold mergeIncompatibility at hr
  simp only [bind, Except.bind, pure, Except.pure, throw, throwThe, MonadExceptOf.throw] at hr
  split at hr
  · cases hr
  rename_i inc hinc
  split at hr
  · split at hr
    · cases hr
    rename_i inc2 hinc2
    injection hinc2 with hinc2; subst hinc2
    split at hr
    · cases hr
    injection hr with hr; subst hr
    exact ⟨rfl, rfl, rfl, inc, storeGet_ok hinc, Or.inl ⟨rfl, rfl⟩⟩
  · split at hr
    · cases hr
    rename_i o ho
    split at hr
    · rename_i past merged
      split at hr
      · cases hr
      rename_i inc2 hinc2
      have hinc2' := storeGet_ok hinc2
      rw [List.getElem?_append_right (Nat.le_refl _)] at hinc2'
      simp only [Nat.sub_self, List.getElem?_cons_zero] at hinc2'
      injection hinc2' with hinc2'; subst hinc2'
      split at hr
      · cases hr
      injection hr with hr; subst hr
      obtain ⟨pastInc, hpast, hm⟩ := findMerge_ok ho
      exact ⟨rfl, rfl, rfl, inc, storeGet_ok hinc, Or.inr ⟨past, pastInc, merged, hpast, hm, rfl, rfl⟩⟩
    · split at hr
      · cases hr
      rename_i inc2 hinc2
      injection hinc2 with hinc2; subst hinc2
      split at hr
      · cases hr
      injection hr with hr; subst hr
      exact ⟨rfl, rfl, rfl, inc, storeGet_ok hinc, Or.inl ⟨rfl, rfl⟩⟩

theorem mergeIncompatibility_store {st st' : State P S V M Pr} {id : Nat}
    (hr : mergeIncompatibility st id = .ok st') : ∃ extra, st'.store = st.store ++ extra := by
  obtain ⟨_, _, _, _, _, ⟨e, _⟩ | ⟨_, _, merged, _, _, e, _⟩⟩ := mergeIncompatibility_spec hr
  · exact ⟨[], by rw [e, List.append_nil]⟩
  · exact ⟨[merged], e⟩

theorem mergeIncompatibility_pinv {st st' : State P S V M Pr} {id : Nat}
    (hr : mergeIncompatibility st id = .ok st') (h : PInv st) : PInv st' ∧ st'.ps = st.ps := by
  obtain ⟨e1, e2, _⟩ := mergeIncompatibility_spec hr
  obtain ⟨extra, e3⟩ := mergeIncompatibility_store hr
  refine ⟨⟨e1 ▸ h.wf, ?_⟩, e1⟩
  rw [e2, e3, List.length_append]
  exact fun kv hkv => Nat.lt_of_lt_of_le (h.cache kv hkv) (Nat.le_add_right _ _)

end State
end PS
end Pubgrub
