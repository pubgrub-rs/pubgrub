/-
The Display clause of property C15: "The Display text of a range - read with the usual meaning of '*',
a bare version, '<', '<=', '>', '>=', ', ' (and) and ' | ' (or), '∅' for empty - denotes exactly the
range's set, distinct sets print differently".

The model's `Range.display` (PubgrubModel/Range.lean) builds a `String`.  Strings are awkward to reason
about in the kernel, so this file works with the *structure* of the text: a list (joined by " | ") of
segments, each a list (joined by ", ") of atoms `>=v`, `>v`, `<=v`, `<v`, bare `v`, or the single token `*`;
`∅` for the empty list.  The model's string is the rendering of that structure, the structure denotes the
range's set, and a segment can be read back from its atoms, so the structure determines the range.
-/
import PubgrubProofs.RangeSet

namespace Pubgrub.Range
open Pubgrub Bound

/-- one comparison of the Display grammar -/
inductive Atom (V : Type) where
  | ge (v : V) | gt (v : V) | le (v : V) | lt (v : V) | eq (v : V) | star
  deriving DecidableEq, Repr

variable {V : Type}

/-- the atoms of one segment, as `impl Display for Range` prints them -/
def segAtoms [DecidableEq V] : Seg V → List (Atom V)
  | (unb, unb) => [.star]
  | (unb, incl v) => [.le v]
  | (unb, excl v) => [.lt v]
  | (incl v, unb) => [.ge v]
  | (incl v, incl b) => if v = b then [.eq v] else [.ge v, .le b]
  | (incl v, excl b) => [.ge v, .lt b]
  | (excl v, unb) => [.gt v]
  | (excl v, incl b) => [.gt v, .le b]
  | (excl v, excl b) => [.gt v, .lt b]

/-- the structured text of a range: one atom list per segment -/
def displayAtoms [DecidableEq V] (r : Range V) : List (List (Atom V)) := r.map segAtoms

/-- text of one atom -/
def Atom.render (showV : V → String) : Atom V → String
  | .ge v => ">=" ++ showV v
  | .gt v => ">" ++ showV v
  | .le v => "<=" ++ showV v
  | .lt v => "<" ++ showV v
  | .eq v => showV v
  | .star => "*"

/-- text of the structure: atoms joined by ", ", segments by " | ", "∅" when there is no segment -/
def renderAtoms (showV : V → String) (segs : List (List (Atom V))) : String :=
  match segs with
  | [] => "∅"
  | _ => " | ".intercalate (segs.map fun atoms => ", ".intercalate (atoms.map (Atom.render showV)))

/-- string-literal facts: the separators of `displaySeg` are `", "` followed by the comparison sign -/
theorem lit_comma_le : ", <=" = ", " ++ "<=" := by decide
theorem lit_comma_lt : ", <" = ", " ++ "<" := by decide

theorem intercalate_pair (sep x y : String) : sep.intercalate [x, y] = x ++ sep ++ y := by
  rw [String.intercalate_cons_cons, String.intercalate_singleton]

theorem displaySeg_eq_render [DecidableEq V] (showV : V → String) (s : Seg V) :
    displaySeg showV s = ", ".intercalate ((segAtoms s).map (Atom.render showV)) := by
  rcases s with ⟨s, e⟩
  cases s <;> cases e <;>
    simp only [displaySeg, segAtoms, List.map_cons, List.map_nil, Atom.render,
      String.intercalate_singleton, intercalate_pair, lit_comma_le, lit_comma_lt,
      String.append_assoc]
  · split <;>
      simp only [List.map_cons, List.map_nil, Atom.render,
        String.intercalate_singleton, intercalate_pair, String.append_assoc]

theorem display_eq_render' [DecidableEq V] (showV : V → String) (r : Range V) :
    Range.display showV r = renderAtoms showV (displayAtoms r) := by
  cases r with
  | nil => rfl
  | cons s t =>
    simp only [display, renderAtoms, displayAtoms, List.map_cons, List.map_map]
    congr 1
    simp only [List.cons.injEq, displaySeg_eq_render, true_and]
    apply List.map_congr_left
    intro a _
    simp only [Function.comp, displaySeg_eq_render]

theorem display_eq_render [LT V] [LE V] [DecidableLT V] [DecidableLE V] [DecidableEq V]
    (showV : V → String) (r : Range V) :
    Range.display showV r = renderAtoms showV (displayAtoms r) := display_eq_render' showV r

/-- the start bound an atom stands for when it opens a segment -/
def Atom.start : Atom V → Bound V
  | .ge v => incl v
  | .gt v => excl v
  | .eq v => incl v
  | _ => unb

/-- the end bound an atom stands for when it closes a segment -/
def Atom.end : Atom V → Bound V
  | .le v => incl v
  | .lt v => excl v
  | .eq v => incl v
  | _ => unb

/-- reading a segment back from its atoms: the first gives the start, the last the end -/
def readSeg : List (Atom V) → Seg V
  | [] => (unb, unb)
  | [a] => (a.start, a.end)
  | a :: b :: _ => (a.start, b.end)

theorem readSeg_segAtoms [DecidableEq V] (s : Seg V) : readSeg (segAtoms s) = s := by
  rcases s with ⟨s, e⟩
  cases s <;> cases e <;> try rfl
  rename_i v b
  simp only [segAtoms]
  split
  · subst_vars; rfl
  · rfl

/-- the atoms of a segment determine the segment: any segment, valid or not (the only overlap candidate,
a bare `v` for `[v, v]`, is produced by no other bound pair) -/
theorem segAtoms_injective [DecidableEq V] : Function.Injective (segAtoms : Seg V → List (Atom V)) :=
  Function.LeftInverse.injective readSeg_segAtoms

section Meaning
variable [LinearOrder V]

/-- the usual meaning of an atom -/
def Atom.holds (x : V) : Atom V → Prop
  | .ge v => v ≤ x
  | .gt v => v < x
  | .le v => x ≤ v
  | .lt v => x < v
  | .eq v => x = v
  | .star => True

/-- the set a structured text denotes: some segment all of whose atoms hold ("," = and, "|" = or) -/
def Denotes (segs : List (List (Atom V))) (x : V) : Prop :=
  ∃ atoms ∈ segs, ∀ a ∈ atoms, a.holds x

theorem segAtoms_holds_iff (s : Seg V) (x : V) : (∀ a ∈ segAtoms s, a.holds x) ↔ Seg.Mem x s := by
  rcases s with ⟨s, e⟩
  cases s <;> cases e <;>
    simp only [segAtoms, Seg.Mem, aboveStart, belowEnd, List.mem_cons, List.not_mem_nil, or_false,
      forall_eq_or_imp, forall_eq, Atom.holds, and_true, true_and]
  · rename_i v b
    split
    · subst_vars
      simp only [List.mem_cons, List.not_mem_nil, or_false, forall_eq]
      constructor
      · intro h; subst h; exact ⟨le_refl _, le_refl _⟩
      · intro h; exact le_antisymm h.2 h.1
    · simp only [List.mem_cons, List.not_mem_nil, or_false, forall_eq_or_imp, forall_eq]

theorem display_denotes (r : Range V) (x : V) :
    Denotes (displayAtoms r) x ↔ Range.contains r x = true := by
  rw [contains_iff_mem]
  simp only [Denotes, displayAtoms, List.mem_map, Range.Mem]
  constructor
  · rintro ⟨_, ⟨s, hs, rfl⟩, h⟩
    exact ⟨s, hs, (segAtoms_holds_iff s x).1 h⟩
  · rintro ⟨s, hs, h⟩
    exact ⟨_, ⟨s, hs, rfl⟩, (segAtoms_holds_iff s x).2 h⟩

theorem displayAtoms_injective' (a b : Range V) (h : displayAtoms a = displayAtoms b) : a = b :=
  (List.map_inj_right fun _ _ hxy => segAtoms_injective hxy).1 h

set_option linter.unusedVariables false in
/-- the text determines the segment list of a canonical range (canonicity is not used, see
`displayAtoms_injective'`) -/
theorem displayAtoms_injective (a b : Range V) (ha : Range.WF a) (hb : Range.WF b)
    (h : displayAtoms a = displayAtoms b) : a = b :=
  displayAtoms_injective' a b h

set_option linter.unusedVariables false in
/-- distinct sets print differently: over a dense order without end points, canonical ranges with
different points have different structured texts -/
theorem distinct_sets_print_differently [DenselyOrdered V] [NoMinOrder V] [NoMaxOrder V] [Nonempty V]
    (a b : Range V) (ha : Range.WF a) (hb : Range.WF b)
    (hne : ∃ x, Range.contains a x ≠ Range.contains b x) : displayAtoms a ≠ displayAtoms b := by
  -- Neither density, nor the absence of end points, nor canonicity is used: the structured text
  -- determines the segment list (`displayAtoms_injective'`), hence the set.  (Density etc. matter for
  -- the converse direction, `ext_of_dense`: equal sets ⇒ equal canonical lists ⇒ equal texts.)
  intro h
  obtain ⟨x, hx⟩ := hne
  exact hx (by rw [displayAtoms_injective' a b h])

end Meaning
end Pubgrub.Range

