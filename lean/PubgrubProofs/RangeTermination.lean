/-
Termination of `resolve` for `Range V` over any linear order and a finite registry, from the generic
termination theorem (PubgrubProofs/Termination.lean: `resolve_terminates`, `resolve_total`, for lawful
version sets with canonical emptiness and a `FiniteWorld` — PubgrubProofs/TermDefs.lean) applied to the
image registry over the dense order `Dense V = V ×ₗ ℚ` (RangeHom.lean, HomSolver.lean, RangeAnyOrder.lean).

(1) Test versions exist (`generated_separated`, DenseTestPoints.lean, over RangeBounds.lean): for a finite registry every generated set of the image world has all its
    bound values in `ι '' boundsOf p`, where `boundsOf p` lists `rv`, the offered versions of `p`, and
    the bound values of every dependency set on `p` declared by an offered version of a package of `pkgs`
    (the bound values of the results of the `Range` operations are among those of the inputs, for
    arbitrary segment lists).  Membership of a point `d` in a segment list whose bound values lie in a
    set `B` depends only on how `d` compares (`<`, `=`) with each element of `B`; and for
    `B = ι '' boundsOf p` every `d = (x, q) : Dense V` has the comparison profile of one of the test points
    `(b, -1), (b, 0), (b, 1)`: `(x, sign q)` if `x ∈ boundsOf p`; else `(b*, 1)` with `b*` the largest
    bound below `x`; else `(b₀, -1)` with `b₀` the smallest bound.  Hence `FiniteWorld.separated`.
(2) Transfer: `WellBehavedRun` of the run over `V` gives `WellBehavedRun` of the image run
    (`trace_mapH`, `answerOK_mapH`, `answerWellBehaved_mapH`, `isFinal_mapH`), `after_mapH` relates the
    final requests, `Request.mapH` preserves `isFinal`, `outOfFuel`, and the constructors.
-/
import PubgrubProofs.Termination
import PubgrubProofs.RangeAnyOrder
import PubgrubProofs.DenseTestPoints


namespace Pubgrub
open VersionSet

variable {P V M Pr E : Type} [DecidableEq P] [LinearOrder V] [LE Pr] [DecidableLE Pr]

/-- a finite registry: finitely many packages are involved (each offers finitely many versions:
`versions p` is a list) -/
structure FiniteRegistry (W : World P (Range V) V M) (root : P) where
  pkgs : List P
  root_mem : root ∈ pkgs
  deps_mem : ∀ p v ds, v ∈ W.versions p → W.deps p v = .available ds → ∀ d ∈ ds, d.1 ∈ pkgs

set_option linter.unusedVariables false in
/-- the image registry over the dense order is a `FiniteWorld` -/
noncomputable def FiniteRegistry.finiteWorld (W : World P (Range V) V M) (hW : W.RangesWF) (root : P) (rv : V)
    (fr : FiniteRegistry W root) :
    FiniteWorld (World.mapH Range.denseHom Dense.back W) root (Range.denseHom.ι rv) := by
  exact
    { pkgs := fr.pkgs
      root_mem := fr.root_mem
      deps_mem := by
        intro p v' ds' hv' hds' d hd
        simp only [World.mapH, List.mem_map] at hv'
        obtain ⟨v, hv, rfl⟩ := hv'
        rw [World.mapH_deps Range.denseHom Dense.back Dense.back_ι] at hds'
        obtain ⟨ds, hds, rfl⟩ := DepsAnswer.mapH_available _ _ _ hds'
        obtain ⟨q, s'⟩ := d
        obtain ⟨s, hs, rfl⟩ := (mem_depsMapH _ ds q s').1 hd
        exact fr.deps_mem p v ds hv hds (q, s) hs
      tests := fun p => Dense.testsOf (boundsOf W fr.pkgs rv p)
      separated := fun p a b ha hb h d => generated_separated W root rv fr.pkgs p a b ha hb h d }


theorem WellBehavedRun.image (W : World P (Range V) V M) (debug : Bool) (fuel : Nat) (root : P) (rv : V)
    (as : List (Answer P (Range V) V M Pr E)) (h : WellBehavedRun W debug fuel root rv as) :
    WellBehavedRun (World.mapH Range.denseHom Dense.back W) debug fuel root (Range.denseHom.ι rv)
      (as.map (Answer.mapH Range.denseHom)) := by
  intro k a' ha'
  rw [List.getElem?_map] at ha'
  obtain ⟨a, ha, rfl⟩ := Option.map_eq_some_iff.1 ha'
  obtain ⟨r, hr, hwb⟩ := h k a ha
  refine ⟨_, trace_mapH_getElem? _ debug fuel root rv as k r hr, fun hfin => ?_⟩
  obtain ⟨h1, h2⟩ := hwb ((isFinal_mapH _ r).symm.trans hfin)
  exact ⟨answerOK_mapH _ _ Dense.back_ι W r a h1, answerWellBehaved_mapH _ r a h2⟩

theorem after_image (debug : Bool) (fuel : Nat) (root : P) (rv : V)
    (as : List (Answer P (Range V) V M Pr E)) :
    (Solver.after (Solver.start debug fuel root (Range.denseHom.ι rv))
        (as.map (Answer.mapH Range.denseHom))).2 =
      Request.mapH Range.denseHom (Solver.after (Solver.start debug fuel root rv) as).2 := by
  rw [start_mapH Range.denseHom debug fuel root rv, after_mapH]

/-- C05 (termination) for `Range` over any linear order: for a finite registry there are bounds `N`
(provider calls) and `fuel0` such that every well-behaved run of at least `N` answers with fuel at least
`fuel0` has returned, and not by running out of fuel -/
theorem range_resolve_terminates (W : World P (Range V) V M) (hW : W.RangesWF) (root : P) (rv : V)
    (fr : FiniteRegistry W root) (debug : Bool) :
    ∃ N fuel0 : Nat, ∀ fuel, fuel0 ≤ fuel → ∀ as : List (Answer P (Range V) V M Pr E), N ≤ as.length →
      WellBehavedRun W debug fuel root rv as →
      (Solver.after (Solver.start debug fuel root rv) as).2.isFinal = true ∧
      (Solver.after (Solver.start debug fuel root rv) as).2 ≠ .fault .outOfFuel := by
  have : Nonempty V := ⟨rv⟩
  have hW' := World.setsValid_mapH W hW
  obtain ⟨N, fuel0, hN⟩ := resolve_terminates (Pr := Pr) (E := E) _ hW' root _
    (fr.finiteWorld W hW root rv) debug
  refine ⟨N, fuel0, ?_⟩
  intro fuel hfuel as hlen hwb
  obtain ⟨h1, h2⟩ := hN fuel hfuel (as.map (Answer.mapH Range.denseHom)) (by simpa using hlen)
    (WellBehavedRun.image W debug fuel root rv as hwb)
  rw [after_image] at h1 h2
  exact ⟨(isFinal_mapH _ _).symm.trans h1, fun he => h2 (by rw [he]; rfl)⟩

/-- after `N` answers the run has returned `Ok` or `NoSolution` (or the model's `protocolError` for an ill-typed answer) -/
theorem range_resolve_total (W : World P (Range V) V M) (hW : W.RangesWF) (root : P) (rv : V)
    (fr : FiniteRegistry W root) (debug : Bool) :
    ∃ N fuel0 : Nat, ∀ fuel, fuel0 ≤ fuel → ∀ as : List (Answer P (Range V) V M Pr E), N ≤ as.length →
      WellBehavedRun W debug fuel root rv as →
      (∃ sel, (Solver.after (Solver.start debug fuel root rv) as).2 = .solution sel) ∨
      (∃ t, (Solver.after (Solver.start debug fuel root rv) as).2 = .noSolution t) ∨
      (∃ m, (Solver.after (Solver.start debug fuel root rv) as).2 = .protocolError m) := by
  have : Nonempty V := ⟨rv⟩
  have hW' := World.setsValid_mapH W hW
  obtain ⟨N, fuel0, hN⟩ := resolve_total (Pr := Pr) (E := E) _ hW' root _
    (fr.finiteWorld W hW root rv) debug
  refine ⟨N, fuel0, ?_⟩
  intro fuel hfuel as hlen hwb
  have h := hN fuel hfuel (as.map (Answer.mapH Range.denseHom)) (by simpa using hlen)
    (WellBehavedRun.image W debug fuel root rv as hwb)
  rw [after_image] at h
  rcases h with ⟨sel', hs⟩ | ⟨t', ht⟩ | ⟨m, hm⟩
  · exact Or.inl (Request.mapH_solution _ _ _ hs)
  · exact Or.inr (Or.inl (Request.mapH_noSolution _ _ _ ht))
  · exact Or.inr (Or.inr ⟨m, Request.mapH_protocolError _ _ _ hm⟩)

end Pubgrub
