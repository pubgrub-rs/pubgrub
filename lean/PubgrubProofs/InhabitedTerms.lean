/-
Inhabited terms, and "every negative term of a stored incompatibility is over a set with a member" as a
consequence of the store invariant.  `CanonEmpty` is `CanonicalEmpty.eq_empty_of_no_member` as a plain
hypothesis; `Term.Inh` and `PartialSolution.NE` are `Term.Inhabited` and `PartialSolution.NonEmpty`
(NonEmpty.lean proves the equivalences).
-/
import PubgrubProofs.SatisfierTheory

set_option linter.unusedSectionVars false

namespace Pubgrub
open VersionSet

section
variable {P S V M Pr : Type} [DecidableEq P] [VersionSet S V] [DecidableEq S] [LawfulVersionSet S V]

/-- canonical emptiness as a plain hypothesis -/
def CanonEmpty (S V : Type) [VersionSet S V] [LawfulVersionSet S V] : Prop :=
  ∀ s : S, LawfulVersionSet.Valid V s → (∀ v : V, VersionSet.contains s v = false) → s = (empty : S)

/-- a term that some choice makes true -/
def Term.Inh : Term S → Prop
  | .pos s => ∃ v : V, VersionSet.contains s v = true
  | .neg _ => True

/-- a negative term is over a set with a member -/
def Term.NegInh : Term S → Prop
  | .pos _ => True
  | .neg s => ∃ v : V, VersionSet.contains s v = true

/-- every current and every accumulated term of the partial solution is inhabited -/
def PartialSolution.NE (ps : PartialSolution P S V Pr) : Prop :=
  ∀ p pa, (p, pa) ∈ ps.assignments →
    Term.Inh (V := V) pa.inter.term ∧ ∀ dd ∈ pa.dated, Term.Inh (V := V) dd.accumulated

namespace Term

theorem inh_of_eval {t : Term S} {c : Option V} (h : t.eval c = true) : t.Inh := by
  cases t with
  | neg s => trivial
  | pos s =>
    cases c with
    | none => simp [Term.eval] at h
    | some v => exact ⟨v, h⟩

theorem inh_exact (v : V) : (Term.exact v : Term S).Inh :=
  inh_of_eval ((eval_exact v (some v)).2 rfl)

theorem inh_inter_negate {t c : Term S} (ht : t.Valid) (hc : c.Valid) (h : ¬ t.Imp c) :
    (t.intersection c.negate).Inh := by
  unfold Term.Imp at h
  obtain ⟨x, hx⟩ := Classical.not_forall.1 h
  obtain ⟨h1, h2⟩ := Classical.not_imp.1 hx
  apply inh_of_eval (c := x)
  rw [eval_intersection t _ ht (valid_negate c hc), eval_negate, h1]
  cases hcx : c.eval x
  · rfl
  · exact absurd hcx h2

theorem inh_negate {t : Term S} (h : t.NegInh) : t.negate.Inh := by
  cases t with
  | pos s => trivial
  | neg s => exact h

theorem _root_.Pubgrub.CanonEmpty.member (ce : CanonEmpty S V) {s : S} (hv : LawfulVersionSet.Valid V s)
    (hne : s ≠ (VersionSet.empty : S)) : ∃ v : V, VersionSet.contains s v = true := by
  apply Classical.byContradiction
  intro hn
  apply hne
  apply ce s hv
  intro v
  cases hc : VersionSet.contains s v
  · rfl
  · exact absurd ⟨v, hc⟩ hn

theorem negInh_intersection {a b : Term S} (ha : a.Valid) (hb : b.Valid) (h1 : a.NegInh) (h2 : b.NegInh) :
    (a.intersection b).NegInh := by
  cases a with
  | pos r1 => cases b <;> trivial
  | neg r1 =>
    cases b with
    | pos r2 => trivial
    | neg r2 =>
      obtain ⟨v, hv⟩ := h1
      refine ⟨v, ?_⟩
      show VersionSet.contains (VersionSet.union r1 r2) v = true
      rw [LawfulVersionSet.contains_union r1 r2 v ha hb, hv]; rfl

theorem negInh_of_ne_any (ce : CanonEmpty S V) {t : Term S} (hv : t.Valid) (hne : t ≠ (Term.any : Term S)) :
    t.NegInh := by
  cases t with
  | pos s => trivial
  | neg s =>
    apply ce.member hv
    intro e
    apply hne
    rw [e]; rfl

end Term

namespace Incompat

/-- all negative terms of the incompatibility are over sets with a member -/
def NegInh (i : Incompat P S V M) : Prop := ∀ p t, (p, t) ∈ i.terms → Term.NegInh (V := V) t

theorem priorCause_negInh (ce : CanonEmpty S V) (ia ib : Incompat P S V M)
    (na : SmallMap.NoDupKeys ia.terms) (nb : SmallMap.NoDupKeys ib.terms)
    (sa : ia.SetsValid) (sb : ib.SetsValid) (ha : ia.NegInh) (hb : ib.NegInh) (a b : Nat) (pivot : P)
    (r : Incompat P S V M) (hr : priorCause a b ia ib pivot = .ok r) : r.NegInh := by
  obtain ⟨t1, t2, merged, hg1, hg2, hnm, hm, _, hterms⟩ := priorCause_spec ia ib na nb a b pivot r hr
  have v1 : t1.Valid := sa _ _ (SmallMap.mem_of_get hg1)
  have v2 : t2.Valid := sb _ _ (SmallMap.mem_of_get hg2)
  have hmerged : ∀ k t, (k, t) ∈ merged → Term.NegInh (V := V) t := by
    intro k t hkt
    have hg := SmallMap.get_of_mem hnm hkt
    rw [hm k] at hg
    split at hg
    · cases hg
    · cases hx : SmallMap.get ia.terms k <;> cases hy : SmallMap.get ib.terms k <;>
        rw [hx, hy] at hg <;> simp only [SmallMap.mergeOpt, Option.some.injEq, reduceCtorEq] at hg <;>
        subst hg
      · exact hb _ _ (SmallMap.mem_of_get hy)
      · exact ha _ _ (SmallMap.mem_of_get hx)
      · exact Term.negInh_intersection (sa _ _ (SmallMap.mem_of_get hx)) (sb _ _ (SmallMap.mem_of_get hy))
          (ha _ _ (SmallMap.mem_of_get hx)) (hb _ _ (SmallMap.mem_of_get hy))
  intro k t hkt
  rw [hterms] at hkt
  split at hkt
  · rename_i hne
    rw [SmallMap.mem_insert_iff _ hnm] at hkt
    rcases hkt with ⟨_, rfl⟩ | ⟨_, hkt⟩
    · exact Term.negInh_of_ne_any ce (Term.valid_union _ _ v1 v2) hne
    · exact hmerged k t hkt
  · exact hmerged k t hkt

end Incompat

theorem StoreInv.negInh (ce : CanonEmpty S V) {W : World P S V M} {root : P} {rv : V}
    {store : List (Incompat P S V M)} (h : StoreInv W root rv store) :
    ∀ (id : Nat) (i : Incompat P S V M), store[id]? = some i → i.NegInh := by
  intro id
  induction id using Nat.strong_induction_on with
  | _ id ih =>
    intro i hi
    have g := h id i hi
    have hk := g.kind
    unfold Incompat.KindTrue at hk
    split at hk
    · -- notRoot
      rename_i p v _
      obtain ⟨_, _, ht⟩ := hk
      intro q t hqt
      rw [ht, List.mem_singleton] at hqt
      injection hqt with _ e; subst e
      exact ⟨v, (LawfulVersionSet.contains_singleton (S := S) v v).2 rfl⟩
    · -- noVersions
      obtain ⟨_, ht⟩ := hk
      intro q t hqt
      rw [ht, List.mem_singleton] at hqt
      injection hqt with _ e; subst e
      trivial
    · -- fromDependencyOf
      rename_i p s q t _
      obtain ⟨_, _, hvt, ht⟩ := hk
      intro q' t' hqt
      rw [ht] at hqt
      unfold Incompat.fromDependency at hqt
      simp only at hqt
      split at hqt
      · rw [List.mem_singleton] at hqt
        injection hqt with _ e; subst e; trivial
      · split at hqt
        · rw [List.mem_singleton] at hqt
          injection hqt with _ e; subst e; trivial
        · rename_i hne
          simp only [List.mem_cons, List.not_mem_nil, or_false] at hqt
          rcases hqt with e | e
          · injection e with _ e; subst e; trivial
          · injection e with _ e; subst e
            exact ce.member hvt hne
    · -- custom
      obtain ⟨v, _, _, ht⟩ := hk
      intro q t hqt
      rw [ht, List.mem_singleton] at hqt
      injection hqt with _ e; subst e
      trivial
    · -- derivedFrom
      rename_i a b _
      obtain ⟨ha, hb, ia, ib, pivot, r, hia, hib, hr, ht⟩ := hk
      have ga := h a ia hia
      have gb := h b ib hib
      have := Incompat.priorCause_negInh ce ia ib ga.nodup gb.nodup ga.sets gb.sets
        (ih a ha ia hia) (ih b hb ib hib) a b pivot r hr
      intro q t hqt
      rw [ht] at hqt
      exact this q t hqt

end
end Pubgrub
