/-
`TrigAt`: the trigger left for the next unit propagation by the paths of `choose_version` /
`get_dependencies` that do not decide (`State.trigger_single`, PSAddIncompat.lean;
`State.trigger_declined`, PSDeclined.lean), as a predicate of the state.
-/
import PubgrubProofs.PSInvariant


namespace Pubgrub
open VersionSet

section PS
variable {P S V M Pr : Type} [DecidableEq P] [VersionSet S V] [DecidableEq S]
  [LawfulVersionSet S V]

/-- the next propagation for `p` will find a trigger -/
def TrigAt (st : State P S V M Pr) (p : P) : Prop :=
  ∃ ids id, SmallMap.get st.incompatibilities p = some ids ∧ id ∈ ids ∧ Trigger st p id

end PS
end Pubgrub
