/-
Where the fault that ends a run comes from: apart from unit propagation and the derivation tree built for
`NoSolution`, every call `Solver.step` makes is `Quiet`.
-/
import PubgrubProofs.StepSpec
import PubgrubProofs.Quiet

namespace Pubgrub
variable {P S V M Pr E : Type} [DecidableEq P] [VersionSet S V] [DecidableEq S] [DecidableEq V]
  [LE Pr] [DecidableLE Pr]

theorem Solver.StepTo.fault_origin {s : SolverState P S V M Pr} {a : Answer P S V M Pr E}
    {x : SolverState P S V M Pr × Request P S V M Pr E} {f : Fault}
    (hst : Solver.StepTo s a x) (hx : x.2 = .fault f) :
    (s.phase = .cancel ∧ (s.st.unitPropagation s.fuel s.next = .error f ∨
      ∃ st terminal, s.st.unitPropagation s.fuel s.next = .ok (st, some terminal) ∧
        st.buildDerivationTree terminal = .error f)) ∨
    ∃ (α : Type) (r : R α), Quiet r ∧ r = .error f := by
  induction hst
  case propagateFault hph hu => cases hx; exact .inl ⟨hph, .inl hu⟩
  case treeFault hph hu hb => cases hx; exact .inl ⟨hph, .inr ⟨_, _, hu, hb⟩⟩
  case toPrioritizeFault hb => cases hx; exact .inr ⟨_, _, PartialSolution.toPrioritize_quiet _, hb⟩
  case extractFault hb => cases hx; exact .inr ⟨_, _, PartialSolution.extractSolution_quiet _, hb⟩
  case pickFault hb => cases hx; exact .inr ⟨_, _, Incompat.unwrapPositive_quiet _, hb⟩
  case noVersionsFault hb => cases hx; exact .inr ⟨_, _, Incompat.noVersions_quiet _ _, hb⟩
  case noVersionsAddFault hb | unavailableFault hb =>
    cases hx; exact .inr ⟨_, _, State.addIncompatibility_quiet _ _, hb⟩
  case knownVersionFault hb => cases hx; exact .inr ⟨_, _, PartialSolution.addDecision_quiet _ _ _ _, hb⟩
  case depsFault hb =>
    cases hx; exact .inr ⟨_, _, State.addIncompatibilityFromDependencies_quiet _ _ _ _, hb⟩
  case addVersionFault hb => cases hx; exact .inr ⟨_, _, PartialSolution.addVersion_quiet _ _ _ _ _, hb⟩
  all_goals cases hx

end Pubgrub
