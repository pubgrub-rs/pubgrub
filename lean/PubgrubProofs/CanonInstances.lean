/-
Non-vacuity of the hypothesis `CanonicalEmpty` (used by C05 `no_panic` with debug assertions, by C12's
"the set has a member" and by the termination theorem): the two concrete version sets of the model have it —
`Range V` over a non-empty dense linear order without end points, and the bit set over `Fin n`.
(Over a discrete order `Range` does not have it: `1 < v < 2` over `Nat` is canonical, member-free and
not `empty`; see `Range.isDisjoint_iff_needs_dense`.)
-/
import PubgrubProofs.VSetInstances
import PubgrubProofs.NonEmpty

namespace Pubgrub
open VersionSet

namespace Range
variable {V : Type} [LinearOrder V] [DenselyOrdered V] [NoMinOrder V] [NoMaxOrder V] [Nonempty V]

instance canonicalEmpty : CanonicalEmpty (Range V) V where
  eq_empty_of_no_member := by
    intro s hs h
    by_contra hne
    obtain ⟨v, hv⟩ := exists_mem_of_ne_nil s hs hne
    have hc := (contains_iff_mem s v).2 hv
    have := h v
    change Range.contains s v = false at this
    rw [hc] at this
    cases this

end Range

namespace BitSet
variable {n : Nat}
attribute [local instance] instVersionSetBitSetFin lawful

theorem canonicalEmpty (n : Nat) : CanonicalEmpty (BitSet n) (Fin n) where
  eq_empty_of_no_member := by
    intro s hs h
    apply (lawfulRequired n).ext s _ hs (lawfulRequired n).valid_empty
    intro v
    rw [h v]
    exact ((lawfulRequired n).contains_empty v).symm

end BitSet

section OfRequired
variable {S V : Type} [DecidableEq S]

set_option warn.classDefReducibility false in
theorem canonicalEmpty_ofRequired (empty : S) (singleton : V → S) (complement : S → S)
    (intersection : S → S → S) (contains : S → V → Bool)
    (R : @LawfulRequired S V (VersionSet.ofRequired empty singleton complement intersection contains)) :
    @CanonicalEmpty S V (VersionSet.ofRequired empty singleton complement intersection contains)
      (lawful_ofRequired empty singleton complement intersection contains R) := by
  letI := VersionSet.ofRequired empty singleton complement intersection contains
  letI := lawful_ofRequired empty singleton complement intersection contains R
  refine ⟨?_⟩
  intro s hs h
  apply R.ext s _ hs R.valid_empty
  intro v
  rw [h v]
  exact (R.contains_empty v).symm

end OfRequired
end Pubgrub
