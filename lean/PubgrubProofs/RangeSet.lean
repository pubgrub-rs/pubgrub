/-
Membership laws of the Range operations (property C10, first half): each sweep is followed along its
own recursion, with the bound predicates read as comparisons of cuts (`BoundCut.lean`).
-/
import PubgrubProofs.RangePoints

namespace Pubgrub.Range
open Pubgrub Bound
variable {V : Type} [LinearOrder V]

theorem aboveStart_interStart (v : V) (a b : Bound V) :
    aboveStart v (interStart a b) ↔ aboveStart v a ∧ aboveStart v b := by
  simp only [aboveStart_iff, startCut_interStart]
  exact sup_le_iff

theorem valid_interStart {ls rs e : Bound V} (h1 : validSegment ls e = true)
    (h2 : validSegment rs e = true) : validSegment (interStart ls rs) e = true := by
  rw [validSegment_iff, startCut_interStart]
  exact max_lt (validSegment_iff.1 h1) (validSegment_iff.1 h2)

theorem gap_interStart_left {e ls : Bound V} (rs : Bound V)
    (h : endBeforeStartWithGap e ls = true) : endBeforeStartWithGap e (interStart ls rs) = true := by
  rw [gap_iff, startCut_interStart]
  exact (gap_iff.1 h).trans_le (le_max_left _ _)

theorem gap_interStart_right {e rs : Bound V} (ls : Bound V)
    (h : endBeforeStartWithGap e rs = true) : endBeforeStartWithGap e (interStart ls rs) = true := by
  rw [gap_iff, startCut_interStart]
  exact (gap_iff.1 h).trans_le (le_max_right _ _)

/-- the points common to a segment and a canonical list whose first end is not smaller: only the
first segment of the list matters -/
theorem seg_inter_head {ls le rs re : Bound V} {r : Range V} (hsm : leftEndIsSmaller le re = true)
    (hb : WF ((rs, re) :: r)) (v : V) :
    Seg.Mem v (ls, le) ∧ Range.Mem v ((rs, re) :: r) ↔
      (aboveStart v ls ∧ aboveStart v rs) ∧ belowEnd v le := by
  have hr : Range.Mem v r → _ := beyond_of_after (wf_after hb)
  have hm := belowEnd_mono hsm v
  simp only [mem_cons, Seg.Mem]
  grind

theorem mem_intersection (a b : Range V) (ha : WF a) (hb : WF b) (v : V) :
    Range.Mem v (intersection a b) ↔ Range.Mem v a ∧ Range.Mem v b := by
  fun_induction intersection a b with
  | case1 ls le l rs re r hsm hv ih =>
    rw [mem_cons, ih (wf_tail ha) hb, mem_cons v (ls, le) l, or_and_right, seg_inter_head hsm hb,
      Seg.Mem, aboveStart_interStart]
  | case2 ls le l rs re r hsm hv ih =>
    have hnv := not_valid (by simpa using hv) v
    rw [ih (wf_tail ha) hb, mem_cons v (ls, le) l, or_and_right, seg_inter_head hsm hb]
    exact (or_iff_right fun h => hnv ⟨h.1.2, h.2⟩).symm
  | case3 ls le l rs re r hsm hv ih =>
    have hsm' := leftEndIsSmaller_iff.2 (leftEndIsSmaller_eq_false_iff.1 (by simpa using hsm)).le
    rw [mem_cons, ih ha (wf_tail hb), mem_cons v (rs, re) r, and_or_left,
      and_comm (b := Seg.Mem v (rs, re)), seg_inter_head hsm' ha, Seg.Mem, aboveStart_interStart,
      and_comm (a := aboveStart v rs)]
  | case4 ls le l rs re r hsm hv ih =>
    have hsm' := leftEndIsSmaller_iff.2 (leftEndIsSmaller_eq_false_iff.1 (by simpa using hsm)).le
    have hnv := not_valid (by simpa using hv) v
    rw [ih ha (wf_tail hb), mem_cons v (rs, re) r, and_or_left, and_comm (b := Seg.Mem v (rs, re)),
      seg_inter_head hsm' ha]
    exact (or_iff_right fun h => hnv ⟨h.1.2, h.2⟩).symm
  | case5 => simp [mem_nil]
  | case6 => simp [mem_nil]

theorem after_inter {e : Bound V} (a b : Range V) (h : After e a ∨ After e b) :
    After e (intersection a b) := by
  have tl : ∀ {x : Seg V} {l : Range V}, After e (x :: l) → After e l :=
    fun h y hy => h y (List.mem_cons_of_mem _ hy)
  have hd : ∀ {ls le rs re : Bound V} {l r : Range V},
      After e ((ls, le) :: l) ∨ After e ((rs, re) :: r) →
        endBeforeStartWithGap e (interStart ls rs) = true := fun h =>
    h.elim (fun h => gap_interStart_left _ (h _ List.mem_cons_self))
      fun h => gap_interStart_right _ (h _ List.mem_cons_self)
  fun_induction intersection a b with
  | case1 ls le l rs re r hsm hv ih => exact List.forall_mem_cons.2 ⟨hd h, ih (h.imp_left tl)⟩
  | case2 ls le l rs re r hsm hv ih => exact ih (h.imp_left tl)
  | case3 ls le l rs re r hsm hv ih => exact List.forall_mem_cons.2 ⟨hd h, ih (h.imp_right tl)⟩
  | case4 ls le l rs re r hsm hv ih => exact ih (h.imp_right tl)
  | case5 => exact nofun
  | case6 => exact nofun

theorem wf_intersection (a b : Range V) (ha : WF a) (hb : WF b) : WF (intersection a b) := by
  fun_induction intersection a b with
  | case1 ls le l rs re r hsm hv ih =>
    exact (wf_cons ..).2 ⟨valid_interStart (wf_head_valid ha) hv,
      (after_inter _ _ (.inl (wf_after ha))).gapHead, ih (wf_tail ha) hb⟩
  | case2 ls le l rs re r hsm hv ih => exact ih (wf_tail ha) hb
  | case3 ls le l rs re r hsm hv ih =>
    exact (wf_cons ..).2 ⟨valid_interStart hv (wf_head_valid hb),
      (after_inter _ _ (.inr (wf_after hb))).gapHead, ih ha (wf_tail hb)⟩
  | case4 ls le l rs re r hsm hv ih => exact ih ha (wf_tail hb)
  | case5 => exact wf_nil
  | case6 => exact wf_nil


theorem above_flipB {e : Bound V} (he : e ≠ unb) (v : V) : aboveStart v (flipB e) ↔ ¬ belowEnd v e := by
  rw [aboveStart_iff, startCut_flipB he, belowEnd_iff, not_lt]

theorem below_flipB {s : Bound V} (hs : s ≠ unb) (v : V) : belowEnd v (flipB s) ↔ ¬ aboveStart v s := by
  rw [belowEnd_iff, endCut_flipB hs, aboveStart_iff, not_le]

theorem gap_ne_unb {e s : Bound V} (h : endBeforeStartWithGap e s = true) : e ≠ unb ∧ s ≠ unb := by
  rw [gap_iff] at h
  constructor <;> rintro rfl
  exacts [not_top_lt h, not_lt_bot h]

theorem valid_flip_of_gap {e s : Bound V} (h : endBeforeStartWithGap e s = true) :
    validSegment (flipB e) (flipB s) = true := by
  rw [validSegment_iff, startCut_flipB (gap_ne_unb h).1, endCut_flipB (gap_ne_unb h).2]
  exact gap_iff.1 h

theorem gap_flip_of_valid {s e : Bound V} (hs : s ≠ unb) (he : e ≠ unb)
    (h : validSegment s e = true) : endBeforeStartWithGap (flipB s) (flipB e) = true := by
  rw [gap_iff, startCut_flipB he, endCut_flipB hs]
  exact validSegment_iff.1 h

theorem gapHead_negateSegments {s e : Bound V} (t : Range V) (hs : s ≠ unb)
    (hv : validSegment s e = true) (hg : GapHead e t) :
    GapHead (flipB s) (negateSegments (flipB e) t) := by
  cases t with
  | nil =>
    cases e with
    | unb => exact gapHead_nil _
    | incl b => exact (gapHead_cons ..).2 (gap_flip_of_valid (e := incl b) hs nofun hv)
    | excl b => exact (gapHead_cons ..).2 (gap_flip_of_valid (e := excl b) hs nofun hv)
  | cons y t =>
    exact (gapHead_cons ..).2 (gap_flip_of_valid hs (gap_ne_unb ((gapHead_cons ..).1 hg)).1 hv)

theorem negateSegments_spec (e : Bound V) (t : Range V) (hg : GapHead e t) (ht : WF t) :
    WF (negateSegments (flipB e) t) ∧
      ∀ v, Range.Mem v (negateSegments (flipB e) t) ↔ ¬ belowEnd v e ∧ ¬ Range.Mem v t := by
  induction t generalizing e with
  | nil =>
    refine ⟨?_, fun v => ?_⟩
    · cases e <;> simp [negateSegments, flipB, wf_nil, wf_cons, validSegment, gapHead_nil]
    · cases e <;> simp [negateSegments, flipB, mem_nil, mem_cons, Seg.Mem, aboveStart, belowEnd]
  | cons y t ih =>
    obtain ⟨v1, v2⟩ := y
    rw [wf_cons] at ht
    obtain ⟨hval, hg', ht'⟩ := ht
    rw [gapHead_cons] at hg
    obtain ⟨he, hv1⟩ := gap_ne_unb hg
    obtain ⟨ihwf, ihmem⟩ := ih v2 hg' ht'
    simp only [negateSegments]
    refine ⟨?_, fun v => ?_⟩
    · rw [wf_cons]
      exact ⟨valid_flip_of_gap hg, gapHead_negateSegments t hv1 hval hg', ihwf⟩
    · have h1 := not_below_of_gap hg v
      have h2 := above_of_not_below hval v
      have h3 := tail_beyond hg' ht' v
      simp only [mem_cons, Seg.Mem, ihmem, above_flipB he, below_flipB hv1] at *
      grind

theorem complement_cons {s e : Bound V} {t : Range V} (hg : GapHead e t) :
    complement ((s, e) :: t) =
      if s = unb then negateSegments (flipB e) t else (unb, flipB s) :: negateSegments (flipB e) t := by
  cases e with
  | unb =>
    obtain rfl : t = [] := by
      cases t with
      | nil => rfl
      | cons x t => exact absurd rfl (gap_ne_unb ((gapHead_cons ..).1 hg)).1
    cases s <;> rfl
  | incl b => cases s <;> rfl
  | excl b => cases s <;> rfl

theorem complement_spec (a : Range V) (ha : WF a) :
    WF (complement a) ∧ ∀ v, Range.Mem v (complement a) ↔ ¬ Range.Mem v a := by
  cases a with
  | nil =>
    exact ⟨rfl, fun v => iff_of_true ⟨_, List.mem_singleton_self _, trivial, trivial⟩ (mem_nil v).1⟩
  | cons y t =>
    obtain ⟨s, e⟩ := y
    obtain ⟨hval, hg, ht⟩ := (wf_cons s e t).1 ha
    obtain ⟨hwf, hmem⟩ := negateSegments_spec e t hg ht
    rw [complement_cons hg]
    split_ifs with hs
    · subst hs
      refine ⟨hwf, fun v => ?_⟩
      rw [hmem, mem_cons, not_or]
      exact and_congr_left' (not_congr ⟨fun h => ⟨trivial, h⟩, (·.2)⟩)
    · refine ⟨(wf_cons ..).2 ⟨rfl, gapHead_negateSegments t hs hval hg, hwf⟩, fun v => ?_⟩
      have h1 := tail_beyond hg ht v
      have h2 := above_of_not_below hval v
      rw [mem_cons, mem_cons, hmem]
      simp only [Seg.Mem, below_flipB hs, show aboveStart v unb from trivial, true_and]
      grind


theorem belowEnd_unionEnd (v : V) (x y : Bound V) :
    belowEnd v (unionEnd x y) ↔ belowEnd v x ∨ belowEnd v y := by
  simp only [belowEnd_iff, endCut_unionEnd]
  exact lt_sup_iff

theorem valid_unionEnd {s e : Bound V} (e' : Bound V) (h : validSegment s e = true) :
    validSegment s (unionEnd e e') = true := by
  rw [validSegment_iff, endCut_unionEnd]
  exact (validSegment_iff.1 h).trans_le (le_max_left _ _)

/-- the first segment of `t` (if any) starts at or after `s` -/
def StartLEHead (s : Bound V) (t : Range V) : Prop :=
  ∀ x ∈ t.head?, leftStartIsSmaller s x.1 = true

theorem startLEHead_nil (s : Bound V) : StartLEHead s ([] : Range V) := by simp [StartLEHead]
theorem startLEHead_cons (s : Bound V) (x : Seg V) (t : Range V) :
    StartLEHead s (x :: t) ↔ leftStartIsSmaller s x.1 = true := by simp [StartLEHead]

theorem startLEHead_trans {a b : Bound V} {t : Range V} (h : leftStartIsSmaller a b = true)
    (ht : StartLEHead b t) : StartLEHead a t :=
  fun x hx => lss_trans h (ht x hx)

theorem startLEHead_tail {s : Seg V} {t : Range V} (h : WF (s :: t)) : StartLEHead s.1 t := by
  obtain ⟨s1, s2⟩ := s
  rw [wf_cons] at h
  exact fun x hx => lss_of_valid_gap h.1 (h.2.1 x hx)

theorem unionAccum_inv (acc : Option (Seg V)) (s : Seg V) (hs : validSegment s.1 s.2 = true)
    (hacc : ∀ a ∈ acc, validSegment a.1 a.2 = true ∧ leftStartIsSmaller a.1 s.1 = true) :
    validSegment (unionAccum acc s).2.1 (unionAccum acc s).2.2 = true ∧
      leftStartIsSmaller (unionAccum acc s).2.1 s.1 = true := by
  cases acc with
  | none => simpa [unionAccum, lss_refl] using hs
  | some a =>
    obtain ⟨hva, hle⟩ := hacc a rfl
    simp only [unionAccum]
    split
    · exact ⟨hs, lss_refl _⟩
    · exact ⟨valid_unionEnd _ hva, hle⟩

theorem union_step (acc : Option (Seg V)) (s : Seg V) (P : V → Prop) (G : Range V)
    (hacc : ∀ a ∈ acc, validSegment a.1 a.2 = true ∧ leftStartIsSmaller a.1 s.1 = true)
    (hG : WF G ∧ (∀ x ∈ G.head?, x.1 = (unionAccum acc s).2.1) ∧
      ∀ v, Range.Mem v G ↔ Seg.Mem v (unionAccum acc s).2 ∨ P v) :
    WF ((unionAccum acc s).1 ++ G) ∧
      (∀ a ∈ acc, ∀ x ∈ ((unionAccum acc s).1 ++ G).head?, x.1 = a.1) ∧
      ∀ v, Range.Mem v ((unionAccum acc s).1 ++ G) ↔
        (∃ a ∈ acc, Seg.Mem v a) ∨ Seg.Mem v s ∨ P v := by
  cases acc with
  | none =>
    simp only [unionAccum, List.nil_append] at *
    exact ⟨hG.1, by simp, fun v => by simp [hG.2.2]⟩
  | some a =>
    obtain ⟨hva, hle⟩ := hacc a rfl
    obtain ⟨a1, a2⟩ := a
    obtain ⟨s1, s2⟩ := s
    obtain ⟨hwf, hhead, hmem⟩ := hG
    simp only [unionAccum] at *
    by_cases hgap : endBeforeStartWithGap a2 s1 = true
    · simp only [if_pos hgap, List.cons_append, List.nil_append] at hhead hmem ⊢
      refine ⟨?_, by simp, fun v => ?_⟩
      · rw [wf_cons]
        refine ⟨hva, fun x hx => ?_, hwf⟩
        rw [hhead x hx]; exact hgap
      · simp [mem_cons, hmem]
    · simp only [if_neg hgap, List.nil_append] at hhead hmem ⊢
      refine ⟨hwf, by simpa using hhead, fun v => ?_⟩
      have h1 := above_of_no_gap (by simpa using hgap) v
      have h2 := aboveStart_mono hle v
      simp only [hmem, Seg.Mem, belowEnd_unionEnd, Option.mem_def, Option.some.injEq,
        exists_eq_left'] at *
      grind


/-- one turn of the loop: `s` is the next segment in start order, `l` and `r` what remains of the
operands, `G` the output of the rest of the loop, run from the new accumulator -/
theorem unionGo_step (acc : Option (Seg V)) (s : Seg V) (l r G : Range V)
    (hs : validSegment s.1 s.2 = true) (hl : StartLEHead s.1 l) (hr : StartLEHead s.1 r)
    (hacc : ∀ a ∈ acc, validSegment a.1 a.2 = true ∧ leftStartIsSmaller a.1 s.1 = true)
    (ih : (∀ a ∈ some (unionAccum acc s).2,
        validSegment a.1 a.2 = true ∧ StartLEHead a.1 l ∧ StartLEHead a.1 r) →
      WF G ∧ (∀ a ∈ some (unionAccum acc s).2, ∀ x ∈ G.head?, x.1 = a.1) ∧
        ∀ v, Range.Mem v G ↔
          (∃ a ∈ some (unionAccum acc s).2, Seg.Mem v a) ∨ Range.Mem v l ∨ Range.Mem v r) :
    WF ((unionAccum acc s).1 ++ G) ∧
      (∀ a ∈ acc, ∀ x ∈ ((unionAccum acc s).1 ++ G).head?, x.1 = a.1) ∧
      ∀ v, Range.Mem v ((unionAccum acc s).1 ++ G) ↔
        (∃ a ∈ acc, Seg.Mem v a) ∨ Seg.Mem v s ∨ Range.Mem v l ∨ Range.Mem v r := by
  obtain ⟨hv', hle'⟩ := unionAccum_inv acc s hs hacc
  have ih := ih (by
    rintro a ⟨⟩
    exact ⟨hv', startLEHead_trans hle' hl, startLEHead_trans hle' hr⟩)
  exact union_step acc s (fun v => Range.Mem v l ∨ Range.Mem v r) G hacc
    ⟨ih.1, ih.2.1 _ rfl, fun v => by
      rw [ih.2.2 v]; simp only [Option.mem_def, Option.some.injEq, exists_eq_left']⟩

theorem unionGo_spec (acc : Option (Seg V)) (l r : Range V) (hl : WF l) (hr : WF r)
    (hacc : ∀ a ∈ acc, validSegment a.1 a.2 = true ∧ StartLEHead a.1 l ∧ StartLEHead a.1 r) :
    WF (unionGo acc l r) ∧ (∀ a ∈ acc, ∀ x ∈ (unionGo acc l r).head?, x.1 = a.1) ∧
      ∀ v, Range.Mem v (unionGo acc l r) ↔
        (∃ a ∈ acc, Seg.Mem v a) ∨ Range.Mem v l ∨ Range.Mem v r := by
  fun_induction unionGo acc l r with
  | case1 acc l ls r rs hlt ih =>
    have := unionGo_step acc l ls (r :: rs) _ (wf_head_valid hl) (startLEHead_tail hl)
      ((startLEHead_cons _ _ _).2 hlt)
      (fun a ha => ⟨(hacc a ha).1, (startLEHead_cons _ _ _).1 (hacc a ha).2.1⟩) (ih (wf_tail hl) hr)
    refine ⟨this.1, this.2.1, fun v => ?_⟩
    rw [this.2.2 v, mem_cons v l ls, or_assoc]
  | case2 acc l ls r rs hlt ih =>
    have := unionGo_step acc r (l :: ls) rs _ (wf_head_valid hr)
      ((startLEHead_cons _ _ _).2 (lss_total (by simpa using hlt))) (startLEHead_tail hr)
      (fun a ha => ⟨(hacc a ha).1, (startLEHead_cons _ _ _).1 (hacc a ha).2.2⟩) (ih hl (wf_tail hr))
    refine ⟨this.1, this.2.1, fun v => ?_⟩
    rw [this.2.2 v, mem_cons v r rs, or_left_comm (a := Seg.Mem v r)]
  | case3 acc l ls ih =>
    have := unionGo_step acc l ls [] _ (wf_head_valid hl) (startLEHead_tail hl) (startLEHead_nil _)
      (fun a ha => ⟨(hacc a ha).1, (startLEHead_cons _ _ _).1 (hacc a ha).2.1⟩) (ih (wf_tail hl) hr)
    refine ⟨this.1, this.2.1, fun v => ?_⟩
    rw [this.2.2 v, mem_cons v l ls, or_assoc]
  | case4 acc r rs ih =>
    have := unionGo_step acc r [] rs _ (wf_head_valid hr) (startLEHead_nil _) (startLEHead_tail hr)
      (fun a ha => ⟨(hacc a ha).1, (startLEHead_cons _ _ _).1 (hacc a ha).2.2⟩) (ih hl (wf_tail hr))
    refine ⟨this.1, this.2.1, fun v => ?_⟩
    rw [this.2.2 v, mem_cons v r rs, or_left_comm (a := Seg.Mem v r)]
  | case5 a =>
    obtain ⟨a1, a2⟩ := a
    have := (hacc _ rfl).1
    simp [wf_cons, this, gapHead_nil, wf_nil, mem_cons, mem_nil]
  | case6 => simp [wf_nil, mem_nil]


theorem wf_cons_iff (s e : Bound V) (t : Range V) :
    WF ((s, e) :: t) ↔
      validSegment s e = true ∧ (∀ x ∈ t.head?, endBeforeStartWithGap e x.1 = true) ∧ WF t :=
  wf_cons s e t

theorem wf_empty : WF (empty : Range V) := wf_nil
theorem wf_full : WF (full : Range V) := by simp [full, WF, checkInvariants, validSegment]
theorem wf_singleton (v : V) : WF (singleton v) := by
  simp [singleton, WF, checkInvariants, validSegment]
theorem wf_higherThan (v : V) : WF (higherThan v) := by
  simp [higherThan, WF, checkInvariants, validSegment]
theorem wf_strictlyHigherThan (v : V) : WF (strictlyHigherThan v) := by
  simp [strictlyHigherThan, WF, checkInvariants, validSegment]
theorem wf_lowerThan (v : V) : WF (lowerThan v) := by
  simp [lowerThan, WF, checkInvariants, validSegment]
theorem wf_strictlyLowerThan (v : V) : WF (strictlyLowerThan v) := by
  simp [strictlyLowerThan, WF, checkInvariants, validSegment]
theorem wf_between (v1 v2 : V) (h : v1 < v2) : WF (between v1 v2) := by
  simp [between, WF, checkInvariants, validSegment, h]

theorem contains_empty (v : V) : contains (empty : Range V) v = false := by
  simp [empty, contains]
theorem contains_full (v : V) : contains (full : Range V) v = true := by
  simp [contains_iff_mem, full, mem_cons, mem_nil, Seg.Mem, aboveStart, belowEnd]
theorem contains_singleton (v w : V) : contains (singleton v) w = true ↔ w = v := by
  simp only [contains_iff_mem, singleton, mem_cons, mem_nil, Seg.Mem, aboveStart, belowEnd, or_false]
  constructor
  · rintro ⟨h1, h2⟩; order
  · rintro rfl; exact ⟨le_refl _, le_refl _⟩
theorem contains_higherThan (v w : V) : contains (higherThan v) w = true ↔ v ≤ w := by
  simp [contains_iff_mem, higherThan, mem_cons, mem_nil, Seg.Mem, aboveStart, belowEnd]
theorem contains_strictlyHigherThan (v w : V) : contains (strictlyHigherThan v) w = true ↔ v < w := by
  simp [contains_iff_mem, strictlyHigherThan, mem_cons, mem_nil, Seg.Mem, aboveStart, belowEnd]
theorem contains_lowerThan (v w : V) : contains (lowerThan v) w = true ↔ w ≤ v := by
  simp [contains_iff_mem, lowerThan, mem_cons, mem_nil, Seg.Mem, aboveStart, belowEnd]
theorem contains_strictlyLowerThan (v w : V) : contains (strictlyLowerThan v) w = true ↔ w < v := by
  simp [contains_iff_mem, strictlyLowerThan, mem_cons, mem_nil, Seg.Mem, aboveStart, belowEnd]
theorem contains_between (v1 v2 w : V) : contains (between v1 v2) w = true ↔ v1 ≤ w ∧ w < v2 := by
  simp [contains_iff_mem, between, mem_cons, mem_nil, Seg.Mem, aboveStart, belowEnd]

theorem contains_intersection (a b : Range V) (ha : WF a) (hb : WF b) (v : V) :
    contains (intersection a b) v = (contains a v && contains b v) := by
  rw [Bool.eq_iff_iff, Bool.and_eq_true]
  simp only [contains_iff_mem]
  exact mem_intersection a b ha hb v

theorem contains_union (a b : Range V) (ha : WF a) (hb : WF b) (v : V) :
    contains (union a b) v = (contains a v || contains b v) := by
  rw [Bool.eq_iff_iff, Bool.or_eq_true]
  simp only [contains_iff_mem, union]
  rw [(unionGo_spec none a b ha hb (by simp)).2.2 v]
  simp
theorem wf_union (a b : Range V) (ha : WF a) (hb : WF b) : WF (union a b) :=
  (unionGo_spec none a b ha hb (by simp)).1

theorem contains_complement (a : Range V) (ha : WF a) (v : V) :
    contains (complement a) v = !contains a v := by
  rw [Bool.eq_iff_iff, Bool.not_eq_true', ← Bool.not_eq_true]
  simp only [contains_iff_mem]
  exact (complement_spec a ha).2 v
theorem wf_complement (a : Range V) (ha : WF a) : WF (complement a) :=
  (complement_spec a ha).1

end Pubgrub.Range
