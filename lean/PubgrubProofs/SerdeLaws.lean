/-
C19 (model-level part): laws of the serde wire format modelled in `PubgrubModel/Serde.lean`.

* `decRange_encRange`: `Deserialize for Range` inverts `Serialize for Range` on every segment list.
  Note that `Deserialize` does not re-check the canonical form (sorted, disjoint, non-adjacent, valid
  segments): whatever list of bound pairs is on the wire becomes `Range { segments }`
  (`/repo/src/range.rs`, `impl Deserialize for Range`).  So the round trip is an identity on the
  segment list, and a hand-written non-canonical input is accepted as is (example at the end).
* `decRange_legacy*`: the legacy encoding `(start, Some(end))` / `(start, None)` decodes to
  `[start, end)` / `[start, ∞)`, provided the encoding of a version is not itself a valid encoding of a
  `Bound` (variant `B` of the untagged `EitherInterval` is tried first).  The last section shows that
  this proviso is necessary (`V = String`, version `"Unbounded"`).
* `decSemVer_encSemVer`: string form of `SemanticVersion`, relative to `SemVer.parse_display`
  (proved in `PubgrubProofs/SemVerLaws.lean`), taken here as the hypothesis `hrt`.
* `text_round_trip`: serialize, print as JSON text, parse, deserialize.  `Json.render` of the model is
  `String.ofList ∘ Json.renderC`; the theorem is stated on the character list and rests on
  `Json.parse_renderC` (JsonText.lean).
-/
import PubgrubModel.Serde
import PubgrubProofs.JsonText

namespace Pubgrub
namespace Serde
open Bound

variable {V : Type}

theorem decBound_encBound (encV : V → Json) (decV : Json → Option V)
    (h : ∀ v, decV (encV v) = some v) (b : Bound V) :
    decBound decV (encBound encV b) = some b := by
  cases b <;> simp [decBound, encBound, h]

theorem decInterval_enc (encV : V → Json) (decV : Json → Option V)
    (h : ∀ v, decV (encV v) = some v) (s e : Bound V) :
    decInterval decV (.arr [encBound encV s, encBound encV e]) = some (s, e) := by
  simp [decInterval, decBound_encBound encV decV h]

/-- Round trip for every segment list, canonical or not: `Deserialize for Range` does not re-check
the canonical form.  Variant `B` of `EitherInterval` is tried first and succeeds on encoded bounds,
so no hypothesis relating `encV` to bound encodings is needed in this direction. -/
theorem decRange_encRange (encV : V → Json) (decV : Json → Option V)
    (h : ∀ v, decV (encV v) = some v) (r : Range V) :
    decRange decV (encRange encV r) = some r := by
  unfold decRange encRange
  simp only
  induction r with
  | nil => simp
  | cons p t ih =>
    obtain ⟨s, e⟩ := p
    simp [decInterval_enc encV decV h, ih]

def NotBoundLike (decV : Json → Option V) (j : Json) : Prop := decBound decV j = none

def legacyEnc (encV : V → Json) : V × Option V → Json
  | (a, some b) => .arr [encV a, encV b]
  | (a, none) => .arr [encV a, .null]

def legacyDec : V × Option V → Seg V
  | (a, some b) => (incl a, excl b)
  | (a, none) => (incl a, unb)

theorem decBound_null (decV : Json → Option V) : decBound decV .null = none := by
  simp [decBound]

theorem decInterval_legacy_some (encV : V → Json) (decV : Json → Option V)
    (h : ∀ v, decV (encV v) = some v) (hnull : decV .null = none) (a b : V)
    (ha : NotBoundLike decV (encV a)) :
    decInterval decV (.arr [encV a, encV b]) = some (incl a, excl b) := by
  have hb : encV b ≠ .null := by
    intro hb
    have := h b
    rw [hb, hnull] at this
    cases this
  unfold NotBoundLike at ha
  simp only [decInterval, ha, h]

theorem decInterval_legacy_none (encV : V → Json) (decV : Json → Option V)
    (h : ∀ v, decV (encV v) = some v) (a : V) :
    decInterval decV (.arr [encV a, .null]) = some (incl a, unb) := by
  simp [decInterval, decBound_null, h]

theorem decInterval_legacyEnc (encV : V → Json) (decV : Json → Option V)
    (h : ∀ v, decV (encV v) = some v) (hnull : decV .null = none)
    (hnb : ∀ v, NotBoundLike decV (encV v)) (p : V × Option V) :
    decInterval decV (legacyEnc encV p) = some (legacyDec p) := by
  obtain ⟨a, _ | b⟩ := p
  · exact decInterval_legacy_none encV decV h a
  · exact decInterval_legacy_some encV decV h hnull a b (hnb a)

theorem decRange_legacy_some (encV : V → Json) (decV : Json → Option V)
    (h : ∀ v, decV (encV v) = some v) (hnull : decV .null = none) (a b : V)
    (ha : NotBoundLike decV (encV a)) :
    decRange decV (.arr [.arr [encV a, encV b]]) = some [(incl a, excl b)] := by
  simp [decRange, decInterval_legacy_some encV decV h hnull a b ha]

theorem decRange_legacy_none (encV : V → Json) (decV : Json → Option V)
    (h : ∀ v, decV (encV v) = some v) (a : V) :
    decRange decV (.arr [.arr [encV a, .null]]) = some [(incl a, unb)] := by
  simp [decRange, decInterval_legacy_none encV decV h a]

theorem decRange_legacy (encV : V → Json) (decV : Json → Option V)
    (h : ∀ v, decV (encV v) = some v) (hnull : decV .null = none)
    (hnb : ∀ v, NotBoundLike decV (encV v)) (pairs : List (V × Option V)) :
    decRange decV (.arr (pairs.map (legacyEnc encV))) = some (pairs.map legacyDec) := by
  unfold decRange
  simp only
  induction pairs with
  | nil => simp
  | cons p t ih => simp [decInterval_legacyEnc encV decV h hnull hnb, ih]

theorem decNat_encNat (n : Nat) : decNat (encNat n) = some n := rfl

theorem decNat_null : decNat .null = none := rfl

theorem notBoundLike_encNat (n : Nat) : NotBoundLike decNat (encNat n) := by
  simp [NotBoundLike, decBound, encNat]

theorem decBound_decNat_encNat (n : Nat) : decBound decNat (encNat n) = none :=
  notBoundLike_encNat n

theorem notBoundLike_str (decV : Json → Option V) (s : String) (hs : s ≠ "Unbounded") :
    NotBoundLike decV (.str s) := by
  unfold NotBoundLike decBound
  split <;> simp_all

theorem decRange_encRange_nat (r : Range Nat) : decRange decNat (encRange encNat r) = some r :=
  decRange_encRange encNat decNat decNat_encNat r

theorem decRange_legacy_nat (pairs : List (Nat × Option Nat)) :
    decRange decNat (.arr (pairs.map (legacyEnc encNat))) = some (pairs.map legacyDec) :=
  decRange_legacy encNat decNat decNat_encNat decNat_null notBoundLike_encNat pairs

theorem decSemVer_encSemVer (v : SemVer) (hrt : SemVer.parse v.display = .ok v) :
    decSemVer (encSemVer v) = some v := by
  simp [decSemVer, encSemVer, hrt]

/-! ### through the JSON text (JsonText.lean) -/

theorem clean_encBound (encV : V → Json) (hcl : ∀ v, Json.Clean (encV v)) (b : Bound V) :
    Json.Clean (encBound encV b) := by
  cases b <;> simp [encBound, Json.Clean, Json.CleanFields, hcl]

theorem cleanItems_encRange (encV : V → Json) (hcl : ∀ v, Json.Clean (encV v)) (r : Range V) :
    Json.CleanItems (r.map fun (s, e) => .arr [encBound encV s, encBound encV e]) := by
  induction r with
  | nil => simp [Json.CleanItems]
  | cons p t ih =>
    obtain ⟨s, e⟩ := p
    simp [Json.CleanItems, Json.Clean, clean_encBound encV hcl, ih]

theorem clean_encRange (encV : V → Json) (hcl : ∀ v, Json.Clean (encV v)) (r : Range V) :
    Json.Clean (encRange encV r) := by
  simp only [encRange, Json.Clean]
  exact cleanItems_encRange encV hcl r

theorem text_round_trip (encV : V → Json) (decV : Json → Option V)
    (h : ∀ v, decV (encV v) = some v) (hcl : ∀ v, Json.Clean (encV v)) (r : Range V) :
    (Json.parse (String.ofList (Json.renderC (encRange encV r)))).bind (decRange decV) = some r := by
  rw [Json.parse_renderC _ (clean_encRange encV hcl r)]
  exact decRange_encRange encV decV h r

theorem text_round_trip_nat (r : Range Nat) :
    (Json.parse (String.ofList (Json.renderC (encRange encNat r)))).bind (decRange decNat) = some r :=
  text_round_trip encNat decNat decNat_encNat (fun _ => by simp [encNat, Json.Clean]) r

/-! ### non-vacuity -/

-- #eval Json.render (encRange encNat [(incl 1, excl 3), (excl 5, unb)])
-- "[[{\"Included\":1},{\"Excluded\":3}],[{\"Excluded\":5},\"Unbounded\"]]"
#guard Json.render (encRange encNat [(incl 1, excl 3), (excl 5, unb)]) ==
  "[[{\"Included\":1},{\"Excluded\":3}],[{\"Excluded\":5},\"Unbounded\"]]"
-- `Json.render` is `String.ofList ∘ Json.renderC`
#guard String.ofList (Json.renderC (encRange encNat [(incl 1, excl 3), (excl 5, unb)])) ==
  Json.render (encRange encNat [(incl 1, excl 3), (excl 5, unb)])
#guard String.ofList (Json.renderC (encRange encSemVer [(incl ⟨1, 2, 3⟩, excl ⟨2, 0, 0⟩), (unb, unb)])) ==
  Json.render (encRange encSemVer [(incl ⟨1, 2, 3⟩, excl ⟨2, 0, 0⟩), (unb, unb)])
-- executable end-to-end check through the text, new and legacy format
#guard (Json.parse "[[{\"Included\":1},{\"Excluded\":3}],[{\"Excluded\":5},\"Unbounded\"]]").bind
  (decRange decNat) == some [(incl 1, excl 3), (excl 5, unb)]
#guard (Json.parse "[[1,3],[5,null]]").bind (decRange decNat) == some [(incl 1, excl 3), (incl 5, unb)]
#guard (Json.parse "[[\"1.2.3\",\"2.0.0\"]]").bind (decRange decSemVer)
  == some [(incl ⟨1, 2, 3⟩, excl ⟨2, 0, 0⟩)]

example : decRange decNat (.arr [.arr [.num 1, .num 3], .arr [.num 5, .null]])
    = some [(incl 1, excl 3), (incl 5, unb)] := by decide

example : decRange decNat (.arr ([(1, some 3), (5, none)].map (legacyEnc encNat)))
    = some [(incl 1, excl 3), (incl 5, unb)] := decRange_legacy_nat _

example : decRange decNat (encRange encNat [(incl 1, excl 3), (excl 5, unb)])
    = some [(incl 1, excl 3), (excl 5, unb)] := decRange_encRange_nat _

/-- a non-canonical segment list (an empty segment, then an overlapping, unsorted one) is accepted
as is by `Deserialize` -/
example : decRange decNat (encRange encNat [(incl 3, excl 1), (unb, incl 7), (excl 0, unb)])
    = some [(incl 3, excl 1), (unb, incl 7), (excl 0, unb)] := decRange_encRange_nat _

/-- mixed new and legacy intervals in one sequence are accepted (`EitherInterval` is per item) -/
example : decRange decNat (.arr [.arr [.obj [("Included", .num 1)], .str "Unbounded"], .arr [.num 5, .null]])
    = some [(incl 1, unb), (incl 5, unb)] := by
  simp [decRange, decInterval, decBound, decNat]

example : SemVer.parse (SemVer.display ⟨1, 22, 333⟩) = .ok ⟨1, 22, 333⟩ := rfl

example : decSemVer (encSemVer ⟨1, 22, 333⟩) = some ⟨1, 22, 333⟩ :=
  decSemVer_encSemVer _ rfl

/-! ### the proviso `NotBoundLike` of the legacy theorems is necessary

With versions serialized as plain strings, the legacy pair `("Unbounded", Some("Unbounded"))` is read
by variant `B` as `(Unbounded, Unbounded)`: the full range, not `"Unbounded" <= v < "Unbounded"`. -/

def encStr (s : String) : Json := .str s
def decStr : Json → Option String
  | .str s => some s
  | _ => none

theorem decStr_encStr (s : String) : decStr (encStr s) = some s := rfl

example : decRange decStr (.arr [legacyEnc encStr ("Unbounded", some "Unbounded")])
    = some [(unb, unb)] := by
  simp [decRange, decInterval, decBound, legacyEnc, encStr]

/-- all other strings are fine -/
theorem decRange_legacy_str (pairs : List (String × Option String))
    (hp : ∀ p ∈ pairs, p.1 ≠ "Unbounded") :
    decRange decStr (.arr (pairs.map (legacyEnc encStr))) = some (pairs.map legacyDec) := by
  unfold decRange
  simp only
  induction pairs with
  | nil => simp
  | cons p t ih =>
    have h1 : decInterval decStr (legacyEnc encStr p) = some (legacyDec p) := by
      obtain ⟨a, _ | b⟩ := p
      · exact decInterval_legacy_none encStr decStr decStr_encStr a
      · exact decInterval_legacy_some encStr decStr decStr_encStr rfl a b
          (notBoundLike_str decStr a (hp (a, some b) (by simp)))
    have h2 := ih fun p hp' => hp p (by simp [hp'])
    simp [h1, h2]

end Serde
end Pubgrub
