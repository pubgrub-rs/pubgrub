/-
Conflict resolution and unit propagation keep every term of the partial solution inhabited.
-/
import PubgrubProofs.NonEmptyOps
import PubgrubProofs.LoopRules

namespace Pubgrub
open VersionSet

section
variable {P S V M Pr : Type} [DecidableEq P] [VersionSet S V] [DecidableEq S] [LawfulVersionSet S V]

/-- after the backtrack of conflict resolution, what is left of the package does not satisfy its term
of the returned incompatibility -/
def AfterConflictNE (st : State P S V M Pr) (pkg : P) (rc : Nat) : Prop :=
  ∃ inc t, st.store[rc]? = some inc ∧ inc.get pkg = some t ∧
    ∀ pa, st.ps.getPA pkg = some pa → ¬ pa.inter.term.Imp t

namespace State

theorem derivation_ne (ce : CanonEmpty S V) (W : World P S V M) (root : P) (rv : V) {st : State P S V M Pr}
    (hs : SInv W root rv st) {id : Nat} {inc : Incompat P S V M} (hinc : st.store[id]? = some inc)
    {p : P} {t : Term S} (hget : inc.get p = some t)
    (hnimp : ∀ pa, st.ps.getPA p = some pa → ¬ pa.inter.term.Imp t) (hne : st.ps.NE)
    {ps' : PartialSolution P S V Pr} (hps : st.ps.addDerivation p id st.store = .ok ps') : ps'.NE := by
  have gi := hs.store id inc hinc
  have hpt : (p, t) ∈ inc.terms := SmallMap.mem_of_get hget
  have htv : t.Valid := gi.sets p t hpt
  apply PartialSolution.addDerivation_ne hne hps
  intro inc' t' hinc' ht'
  rw [hinc] at hinc'; injection hinc' with hinc'; subst hinc'
  rw [hget] at ht'; injection ht' with ht'; subst ht'
  constructor
  · intro pa hpa
    exact Term.inh_inter_negate (hs.ps _ (SmallMap.mem_of_get hpa)).inter htv (hnimp pa hpa)
  · intro _
    exact Term.inh_negate ((hs.store.negInh ce id inc hinc) p t hpt)

theorem afterConflictNE_of_almost (W : World P S V M) (root : P) (rv : V) {st : State P S V M Pr}
    (hs : SInv W root rv st) {id : Nat} {inc : Incompat P S V M} (hinc : st.store[id]? = some inc)
    {p : P} (hrel : st.ps.relation inc = .almostSatisfied p) : AfterConflictNE st p id := by
  have gi := hs.store id inc hinc
  obtain ⟨_, t, hpt, hself⟩ := Incompat.relationGo_almost _ p inc.terms hrel
  refine ⟨inc, t, hinc, SmallMap.get_of_mem gi.nodup hpt, ?_⟩
  intro pa hpa
  have hov : pa.inter.term.Valid := (hs.ps _ (SmallMap.mem_of_get hpa)).inter
  have hterm : st.ps.termIntersectionForPackage p = some pa.inter.term := by
    simp only [PartialSolution.termIntersectionForPackage, hpa, Option.map_some]
  rcases hself with hn | ⟨o, ho, hinc'⟩
  · rw [hterm] at hn; cases hn
  · rw [hterm] at ho; injection ho with ho; subst ho
    exact ((Term.relationWith_inconclusive_iff t _ (gi.sets p t hpt) hov).1 hinc').1

theorem almost_ne (ce : CanonEmpty S V) (W : World P S V M) (root : P) (rv : V) {st : State P S V M Pr}
    (hs : SInv W root rv st) {id : Nat} {inc : Incompat P S V M} (hinc : st.store[id]? = some inc)
    {p : P} (hrel : st.ps.relation inc = .almostSatisfied p) (hne : st.ps.NE)
    {ps' : PartialSolution P S V Pr} (hps : st.ps.addDerivation p id st.store = .ok ps') : ps'.NE := by
  obtain ⟨inc', t, hinc', hget, hnimp⟩ := afterConflictNE_of_almost W root rv hs hinc hrel
  exact derivation_ne ce W root rv hs hinc' hget hnimp hne hps

/-- Conflict resolution keeps the terms inhabited: a resolution step does not touch the partial
solution, and after the backjump the package returned does not satisfy its term of the returned
incompatibility any more, because the satisfier was the first assignment to satisfy it. -/
theorem resolutionCarries_ne (W : World P S V M) (root : P) (rv : V) :
    ResolutionCarries W root rv (fun (ps : PartialSolution P S V Pr) _ => ps.NE) AfterConflictNE where
  resolve := fun _ _ _ hne _ _ _ _ _ _ _ => hne
  backjump := by
    intro st st1 cur changed inc pkg prev hs hp ht hne hinc hss hpost hst1
    obtain ⟨hbt, hstore⟩ := (backtrack_safe hp cur changed prev).of_ok hst1
    have hw := hp.wf
    have gi := hs.store cur inc hinc
    obtain ⟨t, pa, hget, hpa, hfirst⟩ := PartialSolution.satisfierSearch_first hw.wf gi.nodup hss
    obtain ⟨_, _, ⟨pa2, hpa2, hlt⟩, _⟩ := hpost
    simp only at hpa2 hlt
    rw [hpa] at hpa2; injection hpa2 with hpa2; subst hpa2
    have htv : t.Valid := gi.sets _ _ (SmallMap.mem_of_get hget)
    exact ⟨hbt.ne hw hne, inc, t, hstore _ _ hinc, hget, hbt.not_imp hw hs.ps htv hpa hlt hfirst⟩

theorem carries_ne (ce : CanonEmpty S V) (W : World P S V M) (root : P) (rv : V) :
    Carries W root rv (fun (ps : PartialSolution P S V Pr) _ => ps.NE) AfterConflictNE where
  toResolutionCarries := resolutionCarries_ne W root rv
  almost := fun hs hinc hrel => afterConflictNE_of_almost W root rv hs hinc hrel
  derive := fun hs _ _ hne ⟨_, _, hinc, hget, hnimp⟩ hps => derivation_ne ce W root rv hs hinc hget hnimp hne hps

theorem conflictResolution_ne (W : World P S V M) (root : P) (rv : V) :
    ∀ (fuel : Nat) (st : State P S V M Pr) (cur : Nat) (changed : Bool),
    SInv W root rv st → PInv st → TInv root rv st →
    (∃ inc, st.store[cur]? = some inc ∧ st.ps.Satisfies inc) → st.ps.NE →
    Safe (conflictResolution fuel st cur changed)
      (fun x => ∀ pkg rc, x.2 = .ok (pkg, rc) → x.1.ps.NE ∧ AfterConflictNE x.1 pkg rc) :=
  fun fuel st cur changed hs hp ht hex hne =>
    (conflictResolution_carries (resolutionCarries_ne W root rv) fuel st cur changed hs hp ht hex hne).mono
      fun _ _ h pkg rc e => ⟨h.1, h.2 pkg rc e⟩

end State
end
end Pubgrub
