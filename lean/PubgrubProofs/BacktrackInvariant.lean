/-
The invariant `TInv` after a backtrack, and what is then known of the incompatibility that conflict
resolution returns (`AfterConflict`).
-/
import PubgrubProofs.Quiet
import PubgrubProofs.SatisfierInvariant


namespace Pubgrub
open VersionSet

section
variable {P S V M Pr : Type} [DecidableEq P] [VersionSet S V] [DecidableEq S] [LawfulVersionSet S V]

/-- what a backtrack does to the partial solution -/
structure BtStep (ps ps' : PartialSolution P S V Pr) (dl : Nat) : Prop where
  asg : ps'.assignments = ps.assignments.filterMap (PartialSolution.btG dl)
  level : ps'.currentDecisionLevel = dl
  next : ps'.nextGlobalIndex = ps.nextGlobalIndex

namespace BtStep
variable {ps ps' : PartialSolution P S V Pr} {dl : Nat}

theorem mem (h : BtStep ps ps' dl) {q : P} {qa' : PackageAssignments S V} (hq : (q, qa') ∈ ps'.assignments) :
    ∃ qa, (q, qa) ∈ ps.assignments ∧ PartialSolution.btG dl (q, qa) = some (q, qa') := by
  rw [h.asg, List.mem_filterMap] at hq
  obtain ⟨⟨q0, qa⟩, hm, hg⟩ := hq
  have := PartialSolution.btG_key dl _ _ hg
  simp only at this
  subst this
  exact ⟨qa, hm, hg⟩

theorem getPA_eq (h : BtStep ps ps' dl) (hw : ps.WF) (q : P) :
    ps'.getPA q = (ps.getPA q).bind (fun qa => (PartialSolution.btG dl (q, qa)).map Prod.snd) := by
  unfold PartialSolution.getPA
  rw [h.asg]
  exact SmallMap.get_filterMap _ (PartialSolution.btG_key dl) _ hw.keys q

theorem getPA_some (h : BtStep ps ps' dl) (hw : ps.WF) {q : P} {qa qa' : PackageAssignments S V}
    (hq : ps.getPA q = some qa) (hg : PartialSolution.btG dl (q, qa) = some (q, qa')) :
    ps'.getPA q = some qa' := by
  rw [h.getPA_eq hw, hq]; simp [hg]

theorem getPA_inv (h : BtStep ps ps' dl) (hw : ps.WF) {q : P} {qa' : PackageAssignments S V}
    (hq : ps'.getPA q = some qa') :
    ∃ qa, ps.getPA q = some qa ∧ PartialSolution.btG dl (q, qa) = some (q, qa') := by
  rw [h.getPA_eq hw] at hq
  cases hg : ps.getPA q with
  | none => rw [hg] at hq; cases hq
  | some qa =>
    rw [hg] at hq
    simp only [Option.bind_some, Option.map_eq_some_iff] at hq
    obtain ⟨y, hy, e⟩ := hq
    have := PartialSolution.btG_key dl _ _ hy
    obtain ⟨y1, y2⟩ := y
    simp only at this e
    subst this; subst e
    exact ⟨qa, rfl, hy⟩

end BtStep

theorem PartialSolution.backtrack_step {ps : PartialSolution P S V Pr} (h : ps.WF') (dl : Nat) :
    Safe (ps.backtrack dl) (fun ps' => BtStep ps ps' dl) :=
  (PartialSolution.backtrack_safe h dl).mono (fun ps' _ e => by subst e; exact ⟨rfl, rfl, rfl⟩)

theorem tinv_backtrack {root : P} {rv : V} {st st' : State P S V M Pr} (hp : PInv st) (ht : TInv root rv st)
    {ps' : PartialSolution P S V Pr} {dl : Nat} (hbt : BtStep st.ps ps' dl) (h1 : 1 ≤ dl) (hw' : ps'.WF')
    (e1 : st'.ps = ps') (e2 : ∀ (i : Nat) (inc : Incompat P S V M), st.store[i]? = some inc → st'.store[i]? = some inc) :
    TInv root rv st' := by
  have hw := hp.wf
  subst e1
  refine ⟨?_, ?_, ?_, ?_⟩
  · intro q1 qa1 q2 qa2 hq1 hq2 a ha b hb
    obtain ⟨pa1, hm1, hg1⟩ := hbt.mem hq1
    obtain ⟨pa2, hm2, hg2⟩ := hbt.mem hq2
    exact ht.gmono q1 pa1 q2 pa2 hm1 hm2 a (PartialSolution.btG_events (hw.wfx _ hm1) hg1 a ha) b
      (PartialSolution.btG_events (hw.wfx _ hm2) hg2 b hb)
  · intro kv hkv
    obtain ⟨q, qa'⟩ := kv
    obtain ⟨qa, hm, hg⟩ := hbt.mem hkv
    exact List.Pairwise.sublist (PartialSolution.btG_dated (hw.wfx _ hm) hg) (ht.shrink _ hm)
  · intro q qa' hq dd hdd
    obtain ⟨qa, hm, hg⟩ := hbt.mem hq
    obtain ⟨i, _, hwf, hwx⟩ := hw.entry_of_mem hm
    have hdd0 : dd ∈ qa.dated := (PartialSolution.btG_dated hwx hg).subset hdd
    have hlvl : dd.decisionLevel ≤ dl := PartialSolution.btG_levels hwf hwx hg dd hdd
    obtain ⟨inc0, g1, g2, g3⟩ := ht.cause q qa hm dd hdd0
    refine ⟨inc0, e2 _ _ g1, g2, ?_⟩
    intro r tr hr hrq
    obtain ⟨par, t1, k1, k2, k3⟩ := g3 r tr hr hrq
    have hparm := SmallMap.mem_of_get k1
    obtain ⟨j, _, hwfr, hwxr⟩ := hw.entry_of_mem hparm
    obtain ⟨par', k4, k5⟩ := PartialSolution.btG_termBefore (p := r) (dl := dl) hwfr hwxr (by
      intro e he hlt
      have := (ht.gmono r par q qa hparm hm e he _ (PackageAssignments.mem_events_dated hdd0)).1 hlt
      simp only at this
      omega) k2
    exact ⟨par', t1, hbt.getPA_some hw.wf k1 k4, k5, k3⟩
  · have hr := ht.rootinv
    refine ⟨?_, ?_, ?_, ?_⟩
    · intro h0; rw [hbt.level] at h0; omega
    · intro h
      have := hw'.wf.level_le
      rw [hbt.level, h] at this
      simp at this; omega
    · intro q qa' hq dd hdd h0
      obtain ⟨qa, hm, hg⟩ := hbt.mem hq
      exact hr.dated0 q qa hm dd ((PartialSolution.btG_dated (hw.wfx _ hm) hg).subset hdd) h0
    · intro q qa' hq g v t hinter hh
      obtain ⟨qa, hm, hg⟩ := hbt.mem hq
      have := PartialSolution.btG_decided (hw.wfx _ hm) hg hinter
      simp only at this
      subst this
      exact hr.first q qa' hm g v t hinter hh

/-- what is known, after the backtrack, of the incompatibility that conflict resolution returns -/
structure AfterConflict (st : State P S V M Pr) (pkg : P) (rc : Nat) : Prop where
  stored : ∃ inc, st.store[rc]? = some inc ∧ (inc.get pkg).isSome = true ∧
    ∀ r tr, (r, tr) ∈ inc.terms → r ≠ pkg → ∃ par, st.ps.getPA r = some par ∧ par.inter.term.Imp tr
  undecided : ∀ pa, st.ps.getPA pkg = some pa → ∃ t, pa.inter = .derivations t
  level : 1 ≤ st.ps.currentDecisionLevel

theorem afterConflict_backtrack {st st' : State P S V M Pr} (hp : PInv st) (hsh : ∀ kv ∈ st.ps.assignments, kv.2.Shrink)
    {ps' : PartialSolution P S V Pr} {prev : Nat} (hbt : BtStep st.ps ps' prev)
    {inc : Incompat P S V M} {cur : Nat} (hinc : st.store[cur]? = some inc) {sp : P}
    (hpost : SearchPost st.ps inc (sp, .differentDecisionLevels prev))
    (e1 : st'.ps = ps') (e2 : ∀ (i : Nat) (inc : Incompat P S V M), st.store[i]? = some inc → st'.store[i]? = some inc) :
    AfterConflict st' sp cur := by
  have hw := hp.wf
  subst e1
  obtain ⟨hget, h1, ⟨pa, hpa, hlt⟩, hoth⟩ := hpost
  simp only at hget h1 hpa hlt hoth
  refine ⟨⟨inc, e2 _ _ hinc, hget, ?_⟩, ?_, by rw [hbt.level]; exact h1⟩
  · intro r tr hr hrs
    obtain ⟨par, k1, k2⟩ := hoth r tr hr hrs
    have hparm := SmallMap.mem_of_get k1
    obtain ⟨j, _, hwfr, hwxr⟩ := hw.entry_of_mem hparm
    obtain ⟨par', k3, k4⟩ := PartialSolution.btG_survive (p := r) hwfr hwxr (hsh _ hparm) k2
    exact ⟨par', hbt.getPA_some hw.wf k1 k3, k4⟩
  · intro pa' hpa'
    obtain ⟨pa0, k1, k2⟩ := hbt.getPA_inv hw.wf hpa'
    rw [hpa] at k1; injection k1 with k1; subst k1
    rcases (PartialSolution.btG_eq_some (hw.wfx _ (SmallMap.mem_of_get hpa)) k2).2 with ⟨k3, _⟩ | ⟨_, _, last, _, k3⟩
    · simp only at k3; omega
    · simp only at k3; rw [k3]; exact ⟨_, rfl⟩

namespace State

theorem backtrack_safe {st : State P S V M Pr} (hp : PInv st) (cur : Nat) (changed : Bool) (dl : Nat) :
    Safe (st.backtrack cur changed dl) (fun st' => BtStep st.ps st'.ps dl ∧
      ∀ (i : Nat) (inc : Incompat P S V M), st.store[i]? = some inc → st'.store[i]? = some inc) := by
  unfold State.backtrack
  refine Safe.bind (PartialSolution.backtrack_step hp.wf dl) ?_
  intro ps' _ hbt
  dsimp only
  split
  · refine Safe.intro ?_ ?_
    · intro st' hst'
      obtain ⟨e1, _, _, inc, _, hc⟩ := mergeIncompatibility_spec hst'
      refine ⟨by rw [e1]; exact hbt, ?_⟩
      intro i inc' hi
      rcases hc with ⟨e3, _⟩ | ⟨_, _, _, _, _, e3, _⟩
      · rw [e3]; exact hi
      · rw [e3]; simp only
        rw [List.getElem?_append_left (List.getElem?_eq_some_iff.1 hi).1]; exact hi
    · intro s hs
      exact (mergeIncompatibility_quiet _ _).safe0.of_panic hs
  · exact Safe.ok ⟨hbt, fun i inc hi => hi⟩

end State
end

end Pubgrub
