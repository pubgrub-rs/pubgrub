/-
Invariant rules for conflict resolution and unit propagation.  A property `I` of the partial solution
and the store is carried through these loops as soon as their four elementary moves keep it: a
resolution step, the final backjump, and the two derivations.  The inductions follow
`conflictResolution_safe`, `propagateIncompats_safe` and `unitPropagationLoop_safe` (ConflictResolution),
which supply `SInv`, `PInv` and `TInv` at every intermediate state.
-/
import PubgrubProofs.SatisfierTheory

namespace Pubgrub
open VersionSet

section
variable {P S V M Pr : Type} [DecidableEq P] [VersionSet S V] [DecidableEq S] [LawfulVersionSet S V]

/-- `I` is kept by the moves of conflict resolution; after the backjump `J st pkg rc` holds of the
package and the clause that conflict resolution returns -/
structure ResolutionCarries (W : World P S V M) (root : P) (rv : V)
    (I : PartialSolution P S V Pr → List (Incompat P S V M) → Prop)
    (J : State P S V M Pr → P → Nat → Prop) : Prop where
  /-- the store grows by the prior cause of a satisfied clause that is not terminal and the cause of
  its satisfier -/
  resolve : ∀ {st : State P S V M Pr} {cur c : Nat} {inc causeInc prior : Incompat P S V M} {pkg : P},
    SInv W root rv st → PInv st → TInv root rv st → I st.ps st.store →
    st.store[cur]? = some inc → st.store[c]? = some causeInc → st.ps.Satisfies inc →
    inc.isTerminal root rv = false → (inc.get pkg).isSome = true → (causeInc.get pkg).isSome = true →
    Incompat.priorCause cur c inc causeInc pkg = .ok prior → I st.ps (st.store ++ [prior])
  /-- the backjump to the level found by the satisfier search -/
  backjump : ∀ {st st1 : State P S V M Pr} {cur : Nat} {changed : Bool} {inc : Incompat P S V M} {pkg : P}
    {prev : Nat}, SInv W root rv st → PInv st → TInv root rv st → I st.ps st.store →
    st.store[cur]? = some inc →
    st.ps.satisfierSearch inc st.store = .ok (pkg, .differentDecisionLevels prev) →
    SearchPost st.ps inc (pkg, .differentDecisionLevels prev) →
    st.backtrack cur changed prev = .ok st1 → I st1.ps st1.store ∧ J st1 pkg cur

/-- `I` is kept by the moves of unit propagation as well: `J st p id` is what has to be known of the
state before the derivation of `p` from the clause `id` -/
structure Carries (W : World P S V M) (root : P) (rv : V)
    (I : PartialSolution P S V Pr → List (Incompat P S V M) → Prop)
    (J : State P S V M Pr → P → Nat → Prop) : Prop extends ResolutionCarries W root rv I J where
  almost : ∀ {st : State P S V M Pr} {id : Nat} {inc : Incompat P S V M} {p : P},
    SInv W root rv st → st.store[id]? = some inc → st.ps.relation inc = .almostSatisfied p → J st p id
  derive : ∀ {st : State P S V M Pr} {p : P} {id : Nat} {ps' : PartialSolution P S V Pr},
    SInv W root rv st → PInv st → TInv root rv st → I st.ps st.store → J st p id →
    st.ps.addDerivation p id st.store = .ok ps' → I ps' st.store

namespace State
variable {W : World P S V M} {root : P} {rv : V}
  {I : PartialSolution P S V Pr → List (Incompat P S V M) → Prop} {J : State P S V M Pr → P → Nat → Prop}

theorem derivation_after_conflict {st : State P S V M Pr} {pkg : P} {rc : Nat}
    (hs : SInv W root rv st) (hp : PInv st) (ht : TInv root rv st) (hac : AfterConflict st pkg rc) :
    ∃ inc t ps', st.store[rc]? = some inc ∧ inc.get pkg = some t ∧
      st.ps.addDerivation pkg rc st.store = .ok ps' ∧ ∀ (buffer : List P) (lvl : Nat),
        let st' : State P S V M Pr :=
          { st with buffer := buffer, ps := ps', contradicted := SmallMap.insert st.contradicted rc lvl }
        SInv W root rv st' ∧ PInv st' ∧ TInv root rv st' := by
  obtain ⟨inc, hinc, hget, hoth⟩ := hac.stored
  obtain ⟨ps', hps⟩ := PartialSolution.addDerivation_ok hinc hget hac.undecided
  obtain ⟨inc', t0, t', pa', hinc', ht0, hnone, hstep⟩ :=
    PartialSolution.addDerivation_step W root rv hs.store hp.wf.wf hps
  rw [hinc] at hinc'; injection hinc' with hinc'; subst hinc'
  refine ⟨inc, t0, ps', hinc, ht0, hps, fun buffer lvl => ⟨⟨hs.store, hs.root, hs.rv,
    PartialSolution.addDerivation_termsValid W root rv hs.store hs.ps hps⟩,
    hp.derive (List.getElem?_eq_some_iff.1 hinc).1 hps _ _, ?_⟩⟩
  refine tinv_deriv W root rv hs hp ht hstep hinc ht0 hnone hoth ?_ rfl rfl
  intro h0
  exact absurd h0 (Nat.ne_of_gt hac.level)

theorem conflictResolution_carries (h : ResolutionCarries W root rv I J) :
    ∀ (fuel : Nat) (st : State P S V M Pr) (cur : Nat) (changed : Bool),
    SInv W root rv st → PInv st → TInv root rv st →
    (∃ inc, st.store[cur]? = some inc ∧ st.ps.Satisfies inc) → I st.ps st.store →
    Safe (conflictResolution fuel st cur changed)
      (fun x => I x.1.ps x.1.store ∧ ∀ pkg rc, x.2 = .ok (pkg, rc) → J x.1 pkg rc) := by
  intro fuel
  induction fuel with
  | zero => intro st cur changed _ _ _ _ _; unfold conflictResolution; exact Safe.fuel
  | succ fuel ih =>
    intro st cur changed hs hp ht ⟨inc, hinc, hsat⟩ hi
    have gi := hs.store cur inc hinc
    unfold conflictResolution
    refine Safe.bind_ok (storeGet_some hinc) ?_
    have hterm : inc.isTerminal st.rootPackage st.rootVersion = inc.isTerminal root rv := by
      rw [hs.root, hs.rv]
    rw [hterm]
    split
    · exact Safe.ok ⟨hi, fun pkg rc h => by cases h⟩
    rename_i hnt
    have hnt' : inc.isTerminal root rv = false := by
      cases h : inc.isTerminal root rv with
      | true => exact absurd h hnt
      | false => rfl
    have hlvl : st.ps.currentDecisionLevel ≠ 0 := by
      intro h0
      rw [terminal_of_level0 W root rv hs ht hinc hsat h0] at hnt'; cases hnt'
    refine Safe.bind (PartialSolution.satisfierSearch_safe (TInv.searchCtx hs hp ht) gi.nodup gi.sets hsat hnt') ?_
    intro ⟨pkg, search⟩ hss hpost
    dsimp only
    cases search with
    | differentDecisionLevels prev =>
      dsimp only
      refine Safe.bind (backtrack_safe hp cur changed prev) ?_
      intro st1 hst1 _
      obtain ⟨hi1, hj1⟩ := h.backjump hs hp ht hi hinc hss hpost hst1
      refine Safe.ok ⟨hi1, ?_⟩
      intro pkg' rc' e
      injection e with e; injection e with e1 e2; subst e1; subst e2
      exact hj1
    | sameDecisionLevels c =>
      dsimp only
      obtain ⟨causeInc, prior, hcause, hgetp, hcget, hprior, hs2, hp2, ht2, hlast, hsat2⟩ :=
        resolution_step hs hp ht hinc hsat hlvl hpost
      refine Safe.bind_ok (storeGet_some hcause) (Safe.bind_ok hprior ?_)
      exact ih _ _ _ hs2 hp2 ht2 ⟨prior, hlast, hsat2⟩
        (h.resolve hs hp ht hi hinc hcause hsat hnt' hgetp hcget hprior)

theorem propagateIncompats_carries (h : Carries W root rv I J) :
    ∀ (ids : List Nat) (st : State P S V M Pr), SInv W root rv st → PInv st → TInv root rv st →
    I st.ps st.store → Safe (propagateIncompats st ids) (fun x => I x.1.ps x.1.store) := by
  intro ids
  induction ids with
  | nil =>
    intro st hs hp ht hi
    unfold propagateIncompats
    exact Safe.ok hi
  | cons id rest ih =>
    intro st hs hp ht hi
    unfold propagateIncompats
    split
    · exact ih st hs hp ht hi
    split
    · rename_i e he
      exact Safe.error_of_eq he (Safe.storeGet (fun _ _ => trivial))
    rename_i inc hinc
    have hinc' := storeGet_ok hinc
    have hid := storeGet_lt hinc
    split
    · exact Safe.ok hi
    · rename_i p hrel
      obtain ⟨⟨ps', hps⟩, hnext⟩ := almost_derivation W root rv hs hp ht hinc' hrel
      rw [hps]
      dsimp only
      exact ih _ ⟨hs.store, hs.root, hs.rv, PartialSolution.addDerivation_termsValid W root rv hs.store hs.ps hps⟩
        (hp.derive hid hps _ _) (hnext ps' hps _ rfl rfl)
        (h.derive (st := st) hs hp ht hi (h.almost hs hinc' hrel) hps)
    · exact ih _ ⟨hs.store, hs.root, hs.rv, hs.ps⟩ (hp.cacheInsert hid _) (ht.congr rfl rfl) hi
    · exact ih st hs hp ht hi

theorem unitPropagationLoop_carries (h : Carries W root rv I J) :
    ∀ (fuel : Nat) (st : State P S V M Pr), SInv W root rv st → PInv st → TInv root rv st →
    I st.ps st.store → Safe (unitPropagationLoop fuel st) (fun x => I x.1.ps x.1.store) := by
  intro fuel
  induction fuel with
  | zero => intro st _ _ _ _; unfold unitPropagationLoop; exact Safe.fuel
  | succ fuel ih =>
    intro st hs hp ht hi
    unfold unitPropagationLoop
    split
    · exact Safe.ok hi
    dsimp only
    split
    · exact Safe.panic (by not_listed)
    rename_i ids hids
    have hs0 : SInv W root rv ({ st with buffer := st.buffer.dropLast } : State P S V M Pr) :=
      ⟨hs.store, hs.root, hs.rv, hs.ps⟩
    have hp0 : PInv ({ st with buffer := st.buffer.dropLast } : State P S V M Pr) := ⟨hp.wf, hp.cache⟩
    have ht0 : TInv root rv ({ st with buffer := st.buffer.dropLast } : State P S V M Pr) := ht.congr rfl rfl
    have hprop := propagateIncompats_safe W root rv ids.reverse _ hs0 hp0 ht0
    have hpropi := propagateIncompats_carries h ids.reverse
      ({ st with buffer := st.buffer.dropLast } : State P S V M Pr) hs0 hp0 ht0 hi
    split
    · rename_i e he
      exact Safe.error_of_eq he hprop.weaken
    · rename_i st1 he
      exact ih st1 (propagateIncompats_inv W root rv _ _ he hs0)
        (propagateIncompats_pinv (o := none) _ _ he hp0).1 (hprop.of_ok he).1 (hpropi.of_ok he)
    · rename_i st1 cid he
      have hs1 := propagateIncompats_inv W root rv _ _ he hs0
      have hp1 := (propagateIncompats_pinv (o := none) _ _ he hp0).1
      obtain ⟨ht1, hsat⟩ := hprop.of_ok he
      obtain ⟨inc, hinc, hrel⟩ := hsat cid rfl
      have hsat1 : ∃ inc, st1.store[cid]? = some inc ∧ st1.ps.Satisfies inc :=
        ⟨inc, hinc, PartialSolution.satisfies_of_relation W root rv hs1 hinc hrel⟩
      have hcr := conflictResolution_safe W root rv fuel st1 cid false hs1 hp1 ht1 hsat1
      have hcri := conflictResolution_carries h.toResolutionCarries fuel st1 cid false hs1 hp1 ht1 hsat1
        (hpropi.of_ok he)
      split
      · rename_i e he2
        exact Safe.error_of_eq he2 hcr.weaken
      · rename_i st2 terminal he2
        exact Safe.ok (hcri.of_ok he2).1
      · rename_i st2 pkg rc he2
        obtain ⟨hs2, _⟩ := conflictResolution_inv W root rv _ _ _ _ he2 hs1
        obtain ⟨hp2, _⟩ := conflictResolution_pinv _ _ _ _ he2 hp1
        obtain ⟨ht2, hac⟩ := hcr.of_ok he2 pkg rc rfl
        obtain ⟨hi2, hj2⟩ := hcri.of_ok he2
        obtain ⟨_, _, ps', _, _, hps, hnext⟩ := derivation_after_conflict hs2 hp2 ht2 hac
        rw [hps]
        dsimp only
        obtain ⟨hs3, hp3, ht3⟩ := hnext [pkg] ps'.currentDecisionLevel
        exact ih _ hs3 hp3 ht3 (h.derive (st := st2) hs2 hp2 ht2 hi2 (hj2 pkg rc rfl) hps)

theorem unitPropagation_carries (h : Carries W root rv I J) (fuel : Nat) (st : State P S V M Pr) (p : P)
    (hs : SInv W root rv st) (hp : PInv st) (ht : TInv root rv st) (hi : I st.ps st.store) :
    Safe (unitPropagation fuel st p) (fun x => I x.1.ps x.1.store) := by
  unfold unitPropagation
  exact unitPropagationLoop_carries h fuel _ ⟨hs.store, hs.root, hs.rv, hs.ps⟩ ⟨hp.wf, hp.cache⟩
    (ht.congr rfl rfl) hi

end State
end
end Pubgrub
