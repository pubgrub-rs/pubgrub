/-
What `RangeQuery.lean` rests on.  `locations`, the cursor shared by `contains_many` and `simplify`, returns
for every version of an ascending sequence a correct location in a canonical range (`Loc`,
`locations_spec`).  `simplify` is then read on the located segments instead of their indices: `grp` is
`groupAdj` followed by `keepSegments`, and its output is canonical and agrees with the range on the listed
versions as long as the pending output segment satisfies `Pend`.
-/
import PubgrubProofs.RangePoints

namespace Pubgrub.Range.Query
open Pubgrub Bound
variable {V : Type} [LinearOrder V]

theorem contains_eq_false_iff (r : Range V) (v : V) : contains r v = false ↔ ¬ Range.Mem v r := by
  rw [← Bool.not_eq_true, contains_iff_mem]

theorem aboveStart_mono {u v : V} {s : Bound V} (h : u ≤ v) (hu : aboveStart u s) : aboveStart v s := by
  cases s
  · exact le_trans hu h
  · exact lt_of_lt_of_le hu h
  · trivial

theorem belowEnd_mono {u v : V} {e : Bound V} (h : u ≤ v) (hv : belowEnd v e) : belowEnd u e := by
  cases e
  · exact le_trans h hv
  · exact lt_of_le_of_lt h hv
  · trivial

theorem valid_of_mem {v : V} {s e : Bound V} (hs : aboveStart v s) (he : belowEnd v e) :
    validSegment s e = true :=
  by_contra fun h => not_valid (Bool.eq_false_iff.2 h) v ⟨hs, he⟩

theorem gap_of_between {w : V} {e s : Bound V} (he : ¬ belowEnd w e) (hs : ¬ aboveStart w s) :
    endBeforeStartWithGap e s = true :=
  by_contra fun h => hs (above_of_no_gap (Bool.eq_false_iff.2 h) w he)

/-- what a location says about a version: `some j` = the version is in segment `j`,
`none` = the version is in no segment -/
def Loc (r : Range V) (v : V) : Option Nat → Prop
  | some j => ∃ sg, r[j]? = some sg ∧ Seg.Mem v sg
  | none => ¬ Range.Mem v r

theorem loc_isSome {r : Range V} {v : V} {o : Option Nat} (h : Loc r v o) :
    o.isSome = contains r v := by
  cases o with
  | none => exact ((contains_eq_false_iff r v).2 h).symm
  | some j =>
    obtain ⟨sg, hj, hm⟩ := h
    exact ((contains_iff_mem r v).2 ⟨sg, List.mem_of_getElem? hj, hm⟩).symm

/-- the cursor loop is correct: with `pre` the segments already passed (none of which contains a
remaining version), `rest` canonical and the versions ascending, every output is a correct location -/
theorem locations_spec (pre rest : List (Seg V)) (i : Nat) (vs : List V)
    (hi : i = pre.length) (hw : WF rest) (hs : vs.Pairwise (· ≤ ·))
    (hp : ∀ v ∈ vs, ¬ Range.Mem v pre) :
    List.Forall₂ (Loc (pre ++ rest)) vs (locations rest i vs) := by
  have mem_append : ∀ {v : V} {a b : Range V}, Range.Mem v (a ++ b) → Range.Mem v a ∨ Range.Mem v b := by
    rintro v a b ⟨sg, hm, hmem⟩
    exact (List.mem_append.1 hm).imp (⟨sg, ·, hmem⟩) (⟨sg, ·, hmem⟩)
  fun_induction locations rest i vs generalizing pre with
  | case1 => exact .nil
  | case2 i v vs ih =>
    refine .cons ?_ (ih pre hi hw hs.of_cons fun w hw' => hp w (List.mem_cons_of_mem _ hw'))
    rw [List.append_nil]
    exact hp v List.mem_cons_self
  | case3 seg rest i v vs hlt ih =>
    refine .cons ?_ (ih pre hi hw hs.of_cons fun w hw' => hp w (List.mem_cons_of_mem _ hw'))
    have hna := withinBounds_spec v seg
    rw [hlt] at hna
    intro hm
    rcases mem_append hm with hm | hm
    · exact hp v List.mem_cons_self hm
    · rcases (mem_cons v seg rest).1 hm with hm | hm
      · exact hna hm.1
      · exact hna (above_head hw ((mem_cons ..).2 (.inr hm)))
  | case4 seg rest i v vs heq ih =>
    refine .cons ?_ (ih pre hi hw hs.of_cons fun w hw' => hp w (List.mem_cons_of_mem _ hw'))
    have hm := withinBounds_spec v seg
    rw [heq] at hm
    exact ⟨seg, by rw [hi, List.getElem?_append_right (Nat.le_refl _), Nat.sub_self]; rfl, hm⟩
  | case5 seg rest i v vs hgt ih =>
    have hg := withinBounds_spec v seg
    rw [hgt] at hg
    have := ih (pre ++ [seg]) (by rw [hi, List.length_append]; rfl) (wf_tail hw) hs (by
      intro w hw' hm
      rcases mem_append hm with hm | ⟨sg, hm, hmem⟩
      · exact hp w hw' hm
      · obtain rfl := List.mem_singleton.1 hm
        rcases List.mem_cons.1 hw' with rfl | hw''
        · exact hg.2 hmem.2
        · exact hg.2 (belowEnd_mono (List.rel_of_pairwise_cons hs hw'') hmem.2))
    rwa [List.append_assoc] at this

theorem locations_spec0 (r : Range V) (hr : WF r) (vs : List V) (hs : vs.Pairwise (· ≤ ·)) :
    List.Forall₂ (Loc r) vs (locations r 0 vs) :=
  locations_spec [] r 0 vs rfl hr hs fun _ _ h => (mem_nil _).1 h

theorem map_eq_of_forall₂ {α β γ : Type} {R : α → β → Prop} {f : β → γ} {g : α → γ}
    {l₁ : List α} {l₂ : List β} (h : List.Forall₂ R l₁ l₂) (hfg : ∀ a b, R a b → f b = g a) :
    l₂.map f = l₁.map g := by
  induction h with
  | nil => rfl
  | cons hab _ ih => rw [List.map_cons, List.map_cons, hfg _ _ hab, ih]

/-- segment lookup with the default of `keepSegments` -/
def lk (r : Range V) (i : Nat) : Seg V :=
  match r[i]? with
  | some sg => sg
  | none => (unb, unb)

/-- `groupAdj` followed by `keepSegments`, on the located segments instead of their indices -/
def grp : Option (Seg V) → List (Option (Seg V)) → List (Seg V)
  | st, [] => match st with
    | some (s, _) => [(s, unb)]
    | none => []
  | st, some sg :: t => grp (some ((match st with | some (s, _) => s | none => sg.1), sg.2)) t
  | some p, none :: t => p :: grp none t
  | none, none :: t => grp none t

/-- `groupAdjacentLocations` followed by `keepSegments` -/
def grpTop : List (Option (Seg V)) → List (Seg V)
  | [] => []
  | h :: t => grp (h.map fun sg => (unb, sg.2)) t

def stSeg (r : Range V) (p : Option Nat × Option Nat) : Seg V :=
  ((match p.1 with | none => unb | some s => (lk r s).1),
   (match p.2 with | none => unb | some e => (lk r e).2))

omit [LinearOrder V] in
theorem keepSegments_eq_map (r : Range V) (kept : List (Option Nat × Option Nat)) :
    keepSegments r kept = kept.map (stSeg r) := by
  have fst : ∀ i, (lk r i).1 = match r[i]? with | some sg => sg.1 | none => unb := by
    intro i; unfold lk; split <;> rfl
  have snd : ∀ i, (lk r i).2 = match r[i]? with | some sg => sg.2 | none => unb := by
    intro i; unfold lk; split <;> rfl
  unfold keepSegments
  apply List.map_congr_left
  rintro ⟨s, e⟩ -
  cases s <;> cases e <;> simp only [stSeg, fst, snd] <;> rfl
omit [LinearOrder V] in
theorem keepSegments_groupAdj (r : Range V) (st : Option (Option Nat × Option Nat))
    (L : List (Option Nat)) :
    keepSegments r (groupAdj st L) = grp (st.map (stSeg r)) (L.map (Option.map (lk r))) := by
  rw [keepSegments_eq_map]
  induction L generalizing st with
  | nil =>
    cases st with
    | none => simp [groupAdj, grp]
    | some p => obtain ⟨s, e⟩ := p; simp [groupAdj, grp, stSeg]
  | cons h t ih =>
    cases h with
    | none =>
      cases st with
      | none => simpa [groupAdj, grp] using ih none
      | some p => simpa [groupAdj, grp] using ih none
    | some j =>
      cases st with
      | none => simp only [groupAdj, List.map_cons, Option.map_some, Option.map_none, grp]; exact ih _
      | some p =>
        obtain ⟨s, e⟩ := p
        simp only [groupAdj, List.map_cons, Option.map_some, grp]; exact ih _

omit [LinearOrder V] in
theorem keepSegments_groupAdjacentLocations (r : Range V) (L : List (Option Nat)) :
    keepSegments r (groupAdjacentLocations L) = grpTop (L.map (Option.map (lk r))) := by
  cases L with
  | nil => simp [groupAdjacentLocations, grpTop, keepSegments]
  | cons h t =>
    simp only [groupAdjacentLocations, keepSegments_groupAdj, List.map_cons, grpTop]
    cases h <;> simp [stSeg]

/-- located-segment version of `Loc` -/
def LocS (r : Range V) (v : V) : Option (Seg V) → Prop
  | some sg => sg ∈ r ∧ Seg.Mem v sg
  | none => ¬ Range.Mem v r

theorem locS_of_loc {r : Range V} {v : V} {o : Option Nat} (h : Loc r v o) :
    LocS r v (o.map (lk r)) := by
  cases o with
  | none => exact h
  | some j =>
    obtain ⟨sg, hj, hm⟩ := h
    simp only [Option.map_some, LocS, lk, hj]
    exact ⟨List.mem_of_getElem? hj, hm⟩

theorem forall₂_locS {r : Range V} {vs : List V} {L : List (Option Nat)}
    (h : List.Forall₂ (Loc r) vs L) : List.Forall₂ (LocS r) vs (L.map (Option.map (lk r))) := by
  induction h with
  | nil => exact .nil
  | cons hab _ ih => exact .cons (locS_of_loc hab) ih

/-- invariant of a pending output segment `(S, E)` with respect to the remaining versions -/
def Pend (r : Range V) (vs : List V) (p : Seg V) : Prop :=
  validSegment p.1 p.2 = true ∧ (∀ v ∈ vs, aboveStart v p.1) ∧
    (∀ w ∈ vs, ¬ Range.Mem w r → ¬ belowEnd w p.2)

theorem pend_new {r : Range V} {v : V} {vs : List V} {sg : Seg V} {S : Bound V}
    (hsg : sg ∈ r) (hm : Seg.Mem v sg) (hS : aboveStart v S) (hle : ∀ w ∈ vs, v ≤ w) :
    Pend r vs (S, sg.2) :=
  ⟨valid_of_mem hS hm.2, fun w hw => aboveStart_mono (hle w hw) hS,
    fun w hw hn hb => hn ⟨sg, hsg, aboveStart_mono (hle w hw) hm.1, hb⟩⟩

theorem pend_step {r : Range V} {v : V} {vs : List V} {sg : Seg V} (st : Option (Seg V))
    (hsg : sg ∈ r) (hm : Seg.Mem v sg) (hle : ∀ w ∈ vs, v ≤ w)
    (hst : ∀ p, st = some p → Pend r (v :: vs) p) :
    let S := match (generalizing := false) st with | some (s, _) => s | none => sg.1
    aboveStart v S ∧ Pend r vs (S, sg.2) := by
  cases st with
  | none => exact ⟨hm.1, pend_new hsg hm hm.1 hle⟩
  | some p =>
    have hS := (hst p rfl).2.1 v List.mem_cons_self
    exact ⟨hS, pend_new hsg hm hS hle⟩

theorem grp_some_head {r : Range V} {vs : List V} {os : List (Option (Seg V))}
    (h : List.Forall₂ (LocS r) vs os) (S E : Bound V) :
    ∃ E' tl, grp (some (S, E)) os = (S, E') :: tl ∧
      ∀ x, belowEnd x E → (∀ v ∈ vs, x ≤ v) → belowEnd x E' := by
  induction h generalizing E with
  | nil => exact ⟨_, _, rfl, fun _ _ _ => trivial⟩
  | @cons v o vs os hvo _ ih =>
    cases o with
    | none => exact ⟨_, _, rfl, fun _ hE _ => hE⟩
    | some sg =>
      obtain ⟨E', tl, he, hE'⟩ := ih sg.2
      exact ⟨E', tl, he, fun x _ hle => hE' x
        (belowEnd_mono (hle v List.mem_cons_self) hvo.2.2) fun w hw => hle w (List.mem_cons_of_mem _ hw)⟩

theorem grp_none_head {r : Range V} {vs : List V} {os : List (Option (Seg V))}
    (h : List.Forall₂ (LocS r) vs os) (w : V) (hn : ¬ Range.Mem w r)
    (hle : ∀ v ∈ vs, w ≤ v) (seg : Seg V) (hh : seg ∈ (grp none os).head?) :
    ¬ aboveStart w seg.1 := by
  induction h with
  | nil => cases hh
  | @cons v o vs os hvo hrest ih =>
    cases o with
    | none => exact ih (fun u hu => hle u (List.mem_cons_of_mem _ hu)) hh
    | some sg =>
      obtain ⟨E', tl, he, -⟩ := grp_some_head hrest sg.1 sg.2
      simp only [grp, he, List.head?_cons, Option.mem_def, Option.some.injEq] at hh
      subst hh
      exact fun ha => hn ⟨sg, hvo.1, ha, belowEnd_mono (hle v List.mem_cons_self) hvo.2.2⟩

theorem wf_grp {r : Range V} {vs : List V} {os : List (Option (Seg V))}
    (h : List.Forall₂ (LocS r) vs os) (hs : vs.Pairwise (· ≤ ·)) (st : Option (Seg V))
    (hst : ∀ p, st = some p → Pend r vs p) : WF (grp st os) := by
  induction h generalizing st with
  | nil =>
    cases st with
    | none => exact wf_nil
    | some p => exact (wf_cons p.1 unb []).2 ⟨by cases p.1 <;> rfl, gapHead_nil _, wf_nil⟩
  | @cons v o vs os hvo hrest ih =>
    have hle : ∀ u ∈ vs, v ≤ u := fun u hu => List.rel_of_pairwise_cons hs hu
    cases o with
    | none =>
      have hw := ih hs.of_cons none nofun
      cases st with
      | none => exact hw
      | some p =>
        refine (wf_cons p.1 p.2 _).2 ⟨(hst p rfl).1, fun seg hh => ?_, hw⟩
        exact gap_of_between ((hst p rfl).2.2 v List.mem_cons_self hvo)
          (grp_none_head hrest v hvo hle seg hh)
    | some sg =>
      exact ih hs.of_cons _ (by rintro p ⟨⟩; exact (pend_step st hvo.1 hvo.2 hle hst).2)

/-- with nothing pending, a version outside the range and below all remaining versions is in no
output segment: it is below the first start of a canonical list -/
theorem grp_none_not_mem {r : Range V} {vs : List V} {os : List (Option (Seg V))}
    (h : List.Forall₂ (LocS r) vs os) (hs : vs.Pairwise (· ≤ ·)) (w : V) (hn : ¬ Range.Mem w r)
    (hle : ∀ v ∈ vs, w ≤ v) : ¬ Range.Mem w (grp none os) := fun hm => by
  have hw := wf_grp h hs none nofun
  cases hg : grp none os with
  | nil => rw [hg] at hm; exact (mem_nil w).1 hm
  | cons seg tl =>
    rw [hg] at hm hw
    exact grp_none_head h w hn hle seg (by rw [hg]; rfl) (above_head hw hm)

theorem grp_agrees {r : Range V} {vs : List V} {os : List (Option (Seg V))}
    (h : List.Forall₂ (LocS r) vs os) (hs : vs.Pairwise (· ≤ ·)) (st : Option (Seg V))
    (hst : ∀ p, st = some p → Pend r vs p) (x : V) (hx : x ∈ vs) :
    Range.Mem x (grp st os) ↔ Range.Mem x r := by
  induction h generalizing st with
  | nil => cases hx
  | @cons v o vs os hvo hrest ih =>
    have hle : ∀ u ∈ vs, v ≤ u := fun u hu => List.rel_of_pairwise_cons hs hu
    cases o with
    | none =>
      have hnone : Range.Mem x (grp none os) ↔ Range.Mem x r := by
        rcases List.mem_cons.1 hx with rfl | hx
        · exact iff_of_false (grp_none_not_mem hrest hs.of_cons x hvo hle) hvo
        · exact ih hs.of_cons none nofun hx
      cases st with
      | none => exact hnone
      | some p =>
        -- the pending segment is closed; it holds no listed version outside the range
        rw [show grp (some p) (none :: os) = p :: grp none os from rfl, mem_cons, hnone]
        exact or_iff_right_of_imp fun hm => by_contra fun hn => (hst p rfl).2.2 x hx hn hm.2
    | some sg =>
      obtain ⟨hS, hP⟩ := pend_step st hvo.1 hvo.2 hle hst
      rcases List.mem_cons.1 hx with rfl | hx
      · obtain ⟨E', tl, he, hE⟩ := grp_some_head hrest _ sg.2
        refine iff_of_true ?_ ⟨sg, hvo.1, hvo.2⟩
        show Range.Mem x (grp (some (_, sg.2)) os)
        rw [he]
        exact (mem_cons ..).2 (.inl ⟨hS, hE x hvo.2.2 hle⟩)
      · exact ih hs.of_cons _ (by rintro p ⟨⟩; exact hP) hx

omit [LinearOrder V] in
theorem grpTop_cons (o : Option (Seg V)) (os : List (Option (Seg V))) :
    grpTop (o :: os) = grp (o.map fun sg => (unb, sg.2)) (o :: os) := by
  cases o <;> rfl

theorem pend_top {r : Range V} {v : V} {vs : List V} {o : Option (Seg V)} (hvo : LocS r v o)
    (hs : (v :: vs).Pairwise (· ≤ ·)) (p : Seg V)
    (hp : (o.map fun sg => ((unb : Bound V), sg.2)) = some p) :
    Pend r (v :: vs) p := by
  cases o with
  | none => cases hp
  | some sg =>
    cases hp
    exact pend_new hvo.1 hvo.2 trivial
      (List.forall_mem_cons.2 ⟨le_rfl, fun u hu => List.rel_of_pairwise_cons hs hu⟩)

theorem grpTop_agrees {r : Range V} {vs : List V} {os : List (Option (Seg V))}
    (h : List.Forall₂ (LocS r) vs os) (hs : vs.Pairwise (· ≤ ·)) (x : V) (hx : x ∈ vs) :
    Range.Mem x (grpTop os) ↔ Range.Mem x r := by
  cases h with
  | nil => cases hx
  | cons hvo hrest =>
    rw [grpTop_cons]
    exact grp_agrees (.cons hvo hrest) hs _ (pend_top hvo hs) x hx

theorem wf_grpTop {r : Range V} {vs : List V} {os : List (Option (Seg V))}
    (h : List.Forall₂ (LocS r) vs os) (hs : vs.Pairwise (· ≤ ·)) : WF (grpTop os) := by
  cases h with
  | nil => exact wf_nil
  | cons hvo hrest =>
    rw [grpTop_cons]
    exact wf_grp (.cons hvo hrest) hs _ (pend_top hvo hs)

theorem groupAdj_locations_length (rest : List (Seg V)) (i : Nat) (vs : List V)
    (hs : vs.Pairwise (· ≤ ·)) :
    (groupAdj none (locations rest i vs)).length ≤ rest.length ∧
    (∀ p, (groupAdj (some p) (locations rest i vs)).length ≤ rest.length + 1) ∧
    (∀ p seg rest', rest = seg :: rest' → (∀ v ∈ vs, Bound.aboveStart v seg.1) →
      (groupAdj (some p) (locations rest i vs)).length ≤ rest.length) := by
  fun_induction locations rest i vs with
  | case1 rest i =>
    refine ⟨Nat.zero_le _, fun p => Nat.le_add_left _ _, fun p seg rest' h _ => ?_⟩
    subst h; exact Nat.le_add_left _ _
  | case2 i v vs ih =>
    have ih1 := (ih hs.of_cons).1
    exact ⟨ih1, fun p => Nat.succ_le_succ ih1, nofun⟩
  | case3 seg rest i v vs hlt ih =>
    have ih1 := (ih hs.of_cons).1
    refine ⟨ih1, fun p => Nat.succ_le_succ ih1, fun p seg' rest' h ha => ?_⟩
    cases h
    have hna := withinBounds_spec v seg
    rw [hlt] at hna
    exact absurd (ha v List.mem_cons_self) hna
  | case4 seg rest i v vs heq ih =>
    -- the located version opens or extends a group whose start all later versions are above
    obtain ⟨-, ih2, ih3⟩ := ih hs.of_cons
    have hv := withinBounds_spec v seg
    rw [heq] at hv
    exact ⟨ih3 _ seg rest rfl fun w hw => aboveStart_mono (List.rel_of_pairwise_cons hs hw) hv.1,
      fun p => ih2 _,
      fun p seg' rest' h ha => ih3 _ seg' rest' h fun w hw => ha w (List.mem_cons_of_mem _ hw)⟩
  | case5 seg rest i v vs hgt ih =>
    obtain ⟨ih1, ih2, -⟩ := ih hs
    exact ⟨Nat.le_succ_of_le ih1, fun p => Nat.le_succ_of_le (ih2 p), fun p _ _ _ _ => ih2 p⟩

theorem groupAdjacentLocations_locations_length (rest : List (Seg V)) (i : Nat) (vs : List V)
    (hs : vs.Pairwise (· ≤ ·)) :
    (groupAdjacentLocations (locations rest i vs)).length ≤ rest.length := by
  fun_induction locations rest i vs with
  | case1 rest i => exact Nat.zero_le _
  | case2 i v vs ih => exact (groupAdj_locations_length [] i vs hs.of_cons).1
  | case3 seg rest i v vs hlt ih => exact (groupAdj_locations_length (seg :: rest) i vs hs.of_cons).1
  | case4 seg rest i v vs heq ih =>
    have hv := withinBounds_spec v seg
    rw [heq] at hv
    exact (groupAdj_locations_length _ i vs hs.of_cons).2.2 _ seg rest rfl
      fun w hw => aboveStart_mono (List.rel_of_pairwise_cons hs hw) hv.1
  | case5 seg rest i v vs hgt ih => exact Nat.le_succ_of_le (ih hs)

theorem groupAdj_all_none (L : List (Option Nat)) (h : ∀ o ∈ L, o = none) :
    groupAdj none L = [] := by
  induction L with
  | nil => rfl
  | cons o t ih =>
    obtain rfl := h o List.mem_cons_self
    simpa [groupAdj] using ih fun o ho => h o (List.mem_cons_of_mem _ ho)

theorem groupAdjacentLocations_all_none (L : List (Option Nat)) (h : ∀ o ∈ L, o = none) :
    groupAdjacentLocations L = [] := by
  cases L with
  | nil => rfl
  | cons o t =>
    obtain rfl := h o List.mem_cons_self
    simpa [groupAdjacentLocations] using
      groupAdj_all_none t fun o ho => h o (List.mem_cons_of_mem _ ho)

theorem all_none_of_forall₂ {r : Range V} {vs : List V} {L : List (Option Nat)}
    (h : List.Forall₂ (Loc r) vs L) (hn : ∀ v ∈ vs, contains r v = false) : ∀ o ∈ L, o = none := by
  induction h with
  | nil => simp
  | @cons v o vs L hvo _ ih =>
    intro o' ho'
    rcases List.mem_cons.1 ho' with rfl | ho'
    · have := loc_isSome hvo
      rw [hn v List.mem_cons_self] at this
      simpa using this
    · exact ih (fun w hw => hn w (List.mem_cons_of_mem _ hw)) o' ho'

end Pubgrub.Range.Query
