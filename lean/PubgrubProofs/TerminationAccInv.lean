/-
The invariant `AccInv`: the accumulated term of a derivation contains every choice of the package's
previous term that the cause's term for the package excludes (it is the previous term intersected with the
negation of that term).  It is what makes the resolvent of conflict resolution satisfied by strictly
earlier assignments.
-/
import PubgrubProofs.SatisfierTheory

set_option linter.unusedSectionVars false

namespace Pubgrub
open VersionSet

section
variable {P S V M Pr : Type} [DecidableEq P] [VersionSet S V] [DecidableEq S] [LawfulVersionSet S V]

/-- what one derivation of package `p` (entry `pa`) satisfies -/
def AccAt (store : List (Incompat P S V M)) (p : P) (pa : PackageAssignments S V) (dd : DatedDerivation S) :
    Prop :=
  ∃ inc c, store[dd.cause]? = some inc ∧ inc.get p = some c ∧
    ∀ x : Option V, (∀ t, pa.termBefore dd.globalIndex = some t → t.eval x = true) → c.eval x = false →
      dd.accumulated.eval x = true

def State.AccInv (st : State P S V M Pr) : Prop :=
  ∀ p pa, (p, pa) ∈ st.ps.assignments → ∀ dd ∈ pa.dated, AccAt st.store p pa dd

theorem AccAt.store_mono {store store' : List (Incompat P S V M)} {p : P} {pa : PackageAssignments S V}
    {dd : DatedDerivation S} (h : AccAt store p pa dd)
    (hs : ∀ (i : Nat) (inc : Incompat P S V M), store[i]? = some inc → store'[i]? = some inc) :
    AccAt store' p pa dd := by
  obtain ⟨inc, c, h1, h2, h3⟩ := h
  exact ⟨inc, c, hs _ _ h1, h2, h3⟩

theorem AccAt.congr {store : List (Incompat P S V M)} {p : P} {pa pa' : PackageAssignments S V}
    {dd : DatedDerivation S} (h : AccAt store p pa dd)
    (e : pa'.termBefore dd.globalIndex = pa.termBefore dd.globalIndex) : AccAt store p pa' dd := by
  obtain ⟨inc, c, h1, h2, h3⟩ := h
  refine ⟨inc, c, h1, h2, ?_⟩
  intro x hx
  rw [e] at hx
  exact h3 x hx

theorem State.AccInv.storeExt {st st' : State P S V M Pr} (h : st.AccInv)
    (e1 : st'.ps.assignments = st.ps.assignments)
    (e2 : ∀ (i : Nat) (inc : Incompat P S V M), st.store[i]? = some inc → st'.store[i]? = some inc) :
    st'.AccInv := by
  intro p pa hm dd hdd
  rw [e1] at hm
  exact (h p pa hm dd hdd).store_mono e2

theorem State.AccInv.derive {W : World P S V M} {root : P} {rv : V} {st : State P S V M Pr} (h : st.AccInv)
    (hs : SInv W root rv st) (hw : st.ps.WF')
    {q : P} {id : Nat} {ps : PartialSolution P S V Pr} (hps : st.ps.addDerivation q id st.store = .ok ps)
    {st' : State P S V M Pr} (e1 : st'.ps = ps) (e2 : st'.store = st.store) : st'.AccInv := by
  obtain ⟨inc, t, t', pa', hinc, ht, hnone, hstep⟩ :=
    PartialSolution.addDerivation_step W root rv hs.store hw.wf hps
  have htv : t.Valid := Incompat.get_valid W root rv hs.store hinc ht
  intro k ka hkv dd hdd
  rw [e1] at hkv
  rw [e2]
  rcases hstep.mem k ka hkv with hold | ⟨rfl, rfl⟩
  · exact h k ka hold dd hdd
  · rcases hstep.mem_dated hdd with ⟨pa, hpa, hdd'⟩ | rfl
    · have hm := SmallMap.mem_of_get hpa
      obtain ⟨i, _, hwf, _⟩ := hw.entry_of_mem hm
      exact (h k pa hm dd hdd').congr
        (hstep.before pa _ hpa (Nat.le_of_lt (hwf.indices_lt dd hdd')))
    · refine ⟨inc, t, hinc, ht, ?_⟩
      simp only
      intro x hx hcx
      cases hpa : st.ps.getPA k with
      | none => rw [hnone hpa, Term.eval_negate, hcx]; rfl
      | some pa =>
        have hm := SmallMap.mem_of_get hpa
        obtain ⟨i, _, hwf, _⟩ := hw.entry_of_mem hm
        have hb := hstep.before pa st.ps.nextGlobalIndex hpa (Nat.le_refl _)
        rw [PackageAssignments.termBefore_current hwf (Nat.le_refl _)] at hb
        rw [hstep.term_of_some hw.wf hps hinc ht hpa,
          Term.eval_intersection _ _ (hs.ps _ hm).inter (Term.valid_negate _ htv), Term.eval_negate, hx _ hb, hcx]
        rfl

theorem State.AccInv.decide {st : State P S V M Pr} (h : st.AccInv) (hw : st.ps.WF)
    {ps' : PartialSolution P S V Pr} {debug : Bool} {p : P} {v : V}
    (hr : PartialSolution.addDecision debug st.ps p v = .ok ps') (hw' : ps'.WF)
    {t : Term S} {pa : PackageAssignments S V} (hpa : st.ps.getPA p = some pa)
    (ht : pa.inter = .derivations t)
    {st' : State P S V M Pr} (e1 : st'.ps = ps') (e2 : st'.store = st.store) : st'.AccInv := by
  have hstep := PartialSolution.addDecision_step hw hr hw' hpa ht
  have hm := SmallMap.mem_of_get hpa
  obtain ⟨i, hi⟩ := List.getElem?_of_mem hm
  have hwf := hw.entries i p pa hi
  intro k ka hkv dd hdd
  rw [e1] at hkv
  rw [e2]
  rcases hstep.mem k ka hkv with hold | ⟨rfl, rfl⟩
  · exact h k ka hold dd hdd
  · have hdd' : dd ∈ pa.dated := hdd
    exact (h k pa hm dd hdd').congr
      (PackageAssignments.termBefore_decide ht _ _ v (Nat.le_of_lt (hwf.indices_lt dd hdd')))

theorem PackageAssignments.cut_termBefore {pa : PackageAssignments S V} {dl0 n i : Nat} (hw : pa.WFAt dl0 n i)
    (dl : Nat) (last : DatedDerivation S) {dd : DatedDerivation S}
    (hdd : dd ∈ PartialSolution.popWhileAbove dl pa.dated) :
    (pa.cut dl last).termBefore dd.globalIndex = pa.termBefore dd.globalIndex := by
  obtain ⟨suf, hsuf, _⟩ := PartialSolution.popWhileAbove_split dl pa.dated
  have hddm : dd ∈ pa.dated := (PartialSolution.popWhileAbove_sublist dl pa.dated).subset hdd
  have hfilter : (PartialSolution.popWhileAbove dl pa.dated).filter
        (fun d => Decidable.decide (d.globalIndex < dd.globalIndex)) =
      pa.dated.filter (fun d => Decidable.decide (d.globalIndex < dd.globalIndex)) := by
    conv => rhs; rw [hsuf]
    rw [List.filter_append]
    have : suf.filter (fun d => Decidable.decide (d.globalIndex < dd.globalIndex)) = [] := by
      rw [List.filter_eq_nil_iff]
      intro d hd
      simp only [decide_eq_true_eq]
      have hidx := hw.indices
      rw [hsuf, List.map_append, List.pairwise_append] at hidx
      have := hidx.2.2 dd.globalIndex (List.mem_map.2 ⟨dd, hdd, rfl⟩) d.globalIndex (List.mem_map.2 ⟨d, hd, rfl⟩)
      omega
    rw [this, List.append_nil]
  unfold PackageAssignments.termBefore PackageAssignments.cut
  simp only
  rw [hfilter]
  split
  · rename_i gd v t' hinter
    rcases hw.inter_cases with ⟨g', v', h1, _, _, h4, _⟩ | ⟨t'', l, f', h1, _⟩
    · rw [hinter] at h1; injection h1 with e1 _ _; subst e1
      have := h4 dd hddm
      rw [if_neg (by omega)]
    · rw [hinter] at h1; cases h1
  · rfl

theorem State.AccInv.backtrack {st : State P S V M Pr} (h : st.AccInv) (hw : st.ps.WF')
    {ps' : PartialSolution P S V Pr} {dl : Nat} (hbt : BtStep st.ps ps' dl)
    {st' : State P S V M Pr} (e1 : st'.ps = ps')
    (e2 : ∀ (i : Nat) (inc : Incompat P S V M), st.store[i]? = some inc → st'.store[i]? = some inc) :
    st'.AccInv := by
  intro k ka hkv dd hdd
  rw [e1] at hkv
  obtain ⟨qa, hm, hg⟩ := hbt.mem hkv
  obtain ⟨i, _, hwf, hwx⟩ := hw.entry_of_mem hm
  rcases (PartialSolution.btG_eq_some hwx hg).2 with ⟨_, e⟩ | ⟨_, _, last, hl, e⟩
  · simp only at e; subst e
    exact (h k ka hm dd hdd).store_mono e2
  · simp only at e; subst e
    have hdd' : dd ∈ PartialSolution.popWhileAbove dl qa.dated := hdd
    have hddm : dd ∈ qa.dated := (PartialSolution.popWhileAbove_sublist dl qa.dated).subset hdd'
    exact ((h k qa hm dd hddm).store_mono e2).congr (PackageAssignments.cut_termBefore hwf dl last hdd')

end
end Pubgrub
