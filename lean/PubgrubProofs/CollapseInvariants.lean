/-
The two invariants behind `noSolution_collapse_no_panic`, on top of the run-level invariants, and their
preservation by the functions of the partial solution and by the growth of the store.

* `StoreCK` (store level): every stored `noVersions root s` clause has `rv ∈ s`; the two causes
  of every stored `derivedFrom a b` clause exist and are not a `noVersions` clause beside a `notRoot`
  clause.
* `PartialSolution.RW` (partial solution): every accumulated term of the root package is included in
  `{rv}`.
-/
import PubgrubProofs.TreeLink
import PubgrubProofs.CollapseSound
import PubgrubProofs.SatisfierTheory
import PubgrubProofs.NonEmpty

set_option linter.unusedSectionVars false

namespace Pubgrub
open VersionSet

section
variable {P S V M Pr : Type} [DecidableEq P] [VersionSet S V] [DecidableEq S] [LawfulVersionSet S V]

def Kind.isNoVersionsK : Kind P S V M → Bool
  | .noVersions _ _ => true
  | _ => false

def Kind.isNotRootK : Kind P S V M → Bool
  | .notRoot _ _ => true
  | _ => false

/-- the pair of cause kinds on which `collapse_no_versions` panics -/
def Kind.BadPair (k1 k2 : Kind P S V M) : Prop :=
  (k1.isNoVersionsK = true ∧ k2.isNotRootK = true) ∨ (k1.isNotRootK = true ∧ k2.isNoVersionsK = true)

/-- a `noVersions` clause about the root contains the requested version; a derived clause does not
have a `noVersions` and a `notRoot` cause -/
def Incompat.CK (root : P) (rv : V) (store : List (Incompat P S V M)) (i : Incompat P S V M) : Prop :=
  match i.kind with
  | .noVersions p s => p = root → contains s rv = true
  | .derivedFrom a b =>
      ∃ ia ib, store[a]? = some ia ∧ store[b]? = some ib ∧ ¬ Kind.BadPair ia.kind ib.kind
  | _ => True

def StoreCK (root : P) (rv : V) (store : List (Incompat P S V M)) : Prop :=
  ∀ (id : Nat) (i : Incompat P S V M), store[id]? = some i → i.CK root rv store

/-- every accumulated term of the root package is included in `{rv}` -/
def PartialSolution.RW (root : P) (rv : V) (ps : PartialSolution P S V Pr) : Prop :=
  ∀ p pa, (p, pa) ∈ ps.assignments → p = root →
    ∀ dd ∈ pa.dated, dd.accumulated.Imp (Term.exact rv : Term S)

theorem Incompat.CK.append {root : P} {rv : V} {store : List (Incompat P S V M)}
    (extra : List (Incompat P S V M)) {i : Incompat P S V M} (h : i.CK root rv store) :
    i.CK root rv (store ++ extra) := by
  unfold Incompat.CK at h ⊢
  cases hk : i.kind with
  | derivedFrom a b =>
    rw [hk] at h
    simp only at h ⊢
    obtain ⟨ia, ib, ha, hb, hn⟩ := h
    refine ⟨ia, ib, ?_, ?_, hn⟩
    · rw [List.getElem?_append_left (List.getElem?_eq_some_iff.1 ha).1]; exact ha
    · rw [List.getElem?_append_left (List.getElem?_eq_some_iff.1 hb).1]; exact hb
  | _ => rw [hk] at h; exact h

theorem storeCK_append {root : P} {rv : V} {store extra : List (Incompat P S V M)}
    (h : StoreCK root rv store) (hx : ∀ i ∈ extra, i.CK root rv (store ++ extra)) :
    StoreCK root rv (store ++ extra) := by
  intro id i hi
  by_cases hlt : id < store.length
  · rw [List.getElem?_append_left hlt] at hi
    exact (h id i hi).append extra
  · rw [List.getElem?_append_right (Nat.le_of_not_lt hlt)] at hi
    exact hx i (List.mem_of_getElem? hi)

theorem storeCK_push {root : P} {rv : V} {store : List (Incompat P S V M)} {i : Incompat P S V M}
    (h : StoreCK root rv store) (hi : i.CK root rv store) : StoreCK root rv (store ++ [i]) := by
  apply storeCK_append h
  intro j hj
  rw [List.mem_singleton] at hj
  subst hj
  exact hi.append _

theorem Incompat.ck_of_kind {root : P} {rv : V} {store : List (Incompat P S V M)} {i : Incompat P S V M}
    (h1 : ∀ p s, i.kind ≠ .noVersions p s) (h2 : ∀ a b, i.kind ≠ .derivedFrom a b) :
    i.CK root rv store := by
  unfold Incompat.CK
  cases hk : i.kind with
  | noVersions p s => exact absurd hk (h1 p s)
  | derivedFrom a b => exact absurd hk (h2 a b)
  | _ => trivial

theorem Incompat.ck_fromDependency {root : P} {rv : V} {store : List (Incompat P S V M)}
    (p : P) (s : S) (d : P × S) : (Incompat.fromDependency (M := M) p s d).CK root rv store :=
  Incompat.ck_of_kind (fun _ _ h => by simp [Incompat.fromDependency] at h)
    (fun _ _ h => by simp [Incompat.fromDependency] at h)

theorem Incompat.ck_customVersion {root : P} {rv : V} {store : List (Incompat P S V M)}
    (p : P) (v : V) (m : M) : (Incompat.customVersion (S := S) p v m).CK root rv store :=
  Incompat.ck_of_kind (fun _ _ h => by simp [Incompat.customVersion] at h)
    (fun _ _ h => by simp [Incompat.customVersion] at h)

theorem storeCK_init (root : P) (rv : V) :
    StoreCK root rv [(Incompat.notRoot root rv : Incompat P S V M)] := by
  intro id i hi
  cases id with
  | zero =>
    simp at hi; subst hi
    exact Incompat.ck_of_kind (fun _ _ h => by simp [Incompat.notRoot] at h)
      (fun _ _ h => by simp [Incompat.notRoot] at h)
  | succ k => simp at hi

theorem Incompat.mergeDependents_ck {root : P} {rv : V} {store : List (Incompat P S V M)}
    {a b r : Incompat P S V M} (h : a.mergeDependents b = .ok (some r)) : r.CK root rv store := by
  unfold Incompat.mergeDependents at h
  split at h
  · split at h
    · cases h
    dsimp only at h
    split at h
    · cases h
    simp only [bind, Except.bind, pure, Except.pure] at h
    split at h
    · cases h
    split at h
    · cases h
    split at h
    · cases h
    split at h
    · cases h
    split at h
    · injection h with h; injection h with h; subst h
      exact Incompat.ck_fromDependency _ _ _
    · split at h
      · cases h
      injection h with h; injection h with h; subst h
      exact Incompat.ck_fromDependency _ _ _
  · cases h

namespace State

theorem mergeIncompatibility_ck {root : P} {rv : V} {st st' : State P S V M Pr} {id : Nat}
    (hr : mergeIncompatibility st id = .ok st') (h : StoreCK root rv st.store) :
    StoreCK root rv st'.store := by
  obtain ⟨_, _, _, inc, _, hc⟩ := mergeIncompatibility_spec hr
  rcases hc with ⟨e, _⟩ | ⟨past, pastInc, merged, _, hm, e, _⟩
  · rw [e]; exact h
  · rw [e]; exact storeCK_push h (Incompat.mergeDependents_ck hm)

theorem addIncompatibility_ck {root : P} {rv : V} {st st' : State P S V M Pr} {inc : Incompat P S V M}
    (hr : addIncompatibility st inc = .ok st') (h : StoreCK root rv st.store)
    (g : inc.CK root rv st.store) : StoreCK root rv st'.store := by
  unfold addIncompatibility at hr
  exact mergeIncompatibility_ck hr (storeCK_push h g)

theorem addIncompatibilityFromDependencies_ck {root : P} {rv : V}
    {st st' : State P S V M Pr} {p : P} {v : V} {deps : List (P × S)} {start stop : Nat}
    (hr : addIncompatibilityFromDependencies st p v deps = .ok (st', start, stop))
    (h : StoreCK root rv st.store) : StoreCK root rv st'.store := by
  obtain ⟨h1, -, -⟩ := addIncompatibilityFromDependencies_spec hr
  refine foldlM_ok_inv (fun st => StoreCK root rv st.store) h1 ?_
    fun _ _ _ _ hb hm => mergeIncompatibility_ck hm hb
  apply storeCK_append h
  intro i hi
  rw [List.mem_map] at hi
  obtain ⟨d, _, rfl⟩ := hi
  exact Incompat.ck_fromDependency _ _ _

theorem backtrack_ck {root : P} {rv : V} {st st' : State P S V M Pr} {incompat : Nat} {changed : Bool}
    {dl : Nat} (hr : st.backtrack incompat changed dl = .ok st') (h : StoreCK root rv st.store) :
    StoreCK root rv st'.store := by
  obtain ⟨ps, -, ⟨-, hr⟩ | rfl⟩ := backtrack_spec hr
  · exact mergeIncompatibility_ck hr h
  · exact h

end State

namespace PartialSolution

theorem rw_empty (root : P) (rv : V) : (PartialSolution.empty : PartialSolution P S V Pr).RW root rv := by
  intro p pa h; simp [PartialSolution.empty] at h

theorem RW.congr {root : P} {rv : V} {ps ps' : PartialSolution P S V Pr} (h : ps.RW root rv)
    (e : ps'.assignments = ps.assignments) : ps'.RW root rv := by
  intro p pa hm
  rw [e] at hm
  exact h p pa hm

theorem addDecision_rw {root : P} {rv : V} {ps ps' : PartialSolution P S V Pr} {debug : Bool} {p : P}
    {v : V} (h : ps.RW root rv) (hr : addDecision debug ps p v = .ok ps') : ps'.RW root rv :=
  addDecision_forall h (fun pa hpa => h p pa hpa) hr

theorem addVersion_rw {root : P} {rv : V} {ps ps' : PartialSolution P S V Pr} {debug : Bool} {p : P}
    {v : V} {news : List (Incompat P S V M)}
    (h : ps.RW root rv) (hr : addVersion debug ps p v news = .ok ps') : ps'.RW root rv :=
  addVersion_forall h (fun pa hpa => h p pa hpa) hr

end PartialSolution

theorem BtStep.rw {root : P} {rv : V} {ps ps' : PartialSolution P S V Pr} {dl : Nat}
    (hbt : BtStep ps ps' dl) (hw : ps.WF') (h : ps.RW root rv) : ps'.RW root rv := by
  intro q qa' hq hroot
  obtain ⟨qa, hm, hg⟩ := hbt.mem hq
  have hold := h q qa hm hroot
  rcases (PartialSolution.btG_eq_some (hw.wfx _ hm) hg).2 with ⟨_, e⟩ | ⟨_, _, last, hl, e⟩
  · simp only at e; subst e; exact hold
  · simp only at e; subst e
    exact fun dd hdd => hold dd (PartialSolution.mem_popWhileAbove dl _ dd hdd)

end
end Pubgrub
