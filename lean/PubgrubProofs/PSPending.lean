/-
The package in flight is settled by the next propagation when a triggering incompatibility is
indexed under it.
-/
import PubgrubProofs.PSPropagation

set_option linter.unusedSectionVars false

namespace Pubgrub
open VersionSet

theorem SmallMap.get_set_same_key {K T : Type} [DecidableEq K] {m : SmallMap K T} (hn : SmallMap.NoDupKeys m)
    {i : Nat} {k : K} {v v' : T} (h : m[i]? = some (k, v)) (k' : K) :
    SmallMap.get (m.set i (k, v')) k' = if k' = k then some v' else SmallMap.get m k' := by
  have hkeys := SmallMap.map_fst_set_same (v' := v') h
  have hn' : SmallMap.NoDupKeys (m.set i (k, v')) := by unfold SmallMap.NoDupKeys; rw [hkeys]; exact hn
  have hlt := (List.getElem?_eq_some_iff.1 h).1
  by_cases hk : k' = k
  · subst hk
    rw [if_pos rfl]
    exact SmallMap.get_of_getElem hn' (i := i) (by simp [hlt])
  · rw [if_neg hk]
    cases hg : SmallMap.get m k' with
    | none =>
      apply SmallMap.get_none_of_not_mem_keys
      rw [hkeys]
      exact SmallMap.not_mem_keys_of_get_none hg
    | some w =>
      obtain ⟨j, hj⟩ := List.getElem?_of_mem (SmallMap.mem_of_get hg)
      have hji : i ≠ j := by
        intro e; subst e; rw [h] at hj; injection hj with hj; injection hj with hj; exact hk hj.symm
      exact SmallMap.get_of_getElem hn' (i := j) (by simp [hji, hj])

section PS
variable {P S V M Pr : Type} [DecidableEq P] [VersionSet S V] [DecidableEq S]
  [LawfulVersionSet S V]

namespace PartialSolution

theorem addDerivation_getPA_ne {ps ps' : PartialSolution P S V Pr} {q : P} {cause : Nat}
    {store : List (Incompat P S V M)} (h : ps.WF)
    (hr : ps.addDerivation q cause store = .ok ps') {q' : P} (hne : q' ≠ q) :
    ps'.getPA q' = ps.getPA q' := by
  obtain ⟨inc, t, _, _, hcase⟩ := addDerivation_spec hr
  rcases hcase with ⟨idx, pa, t0, hidx, hpa, ht0, rfl⟩ | ⟨hpa, rfl⟩
  · have hget := getElem_of_indexOf_getPA hidx hpa
    show SmallMap.get (ps.assignments.set idx _) q' = _
    rw [SmallMap.get_set_same_key h.keys hget, if_neg hne]; rfl
  · show SmallMap.get (ps.assignments ++ _) q' = SmallMap.get ps.assignments q'
    cases hg : SmallMap.get ps.assignments q' with
    | some w => exact SmallMap.get_append_left hg
    | none =>
      rw [SmallMap.get_append_none hg]
      simp [SmallMap.get, hne]

theorem addDerivation_term_self {ps ps' : PartialSolution P S V Pr} {q : P} {cause : Nat}
    {store : List (Incompat P S V M)} (h : ps.WF)
    (hr : ps.addDerivation q cause store = .ok ps') {o : Term S}
    (ho : ps.termIntersectionForPackage q = some o) :
    ∃ inc t, store[cause]? = some inc ∧ inc.get q = some t ∧
      ps'.termIntersectionForPackage q = some (o.intersection t.negate) := by
  obtain ⟨inc, t, hinc, ht, hcase⟩ := addDerivation_spec hr
  refine ⟨inc, t, hinc, ht, ?_⟩
  simp only [termIntersectionForPackage, Option.map_eq_some_iff] at ho
  obtain ⟨pa0, hpa0, hterm⟩ := ho
  rcases hcase with ⟨idx, pa, t0, hidx, hpa, ht0, rfl⟩ | ⟨hpa, rfl⟩
  · rw [hpa] at hpa0; injection hpa0 with hpa0; subst hpa0
    rw [ht0] at hterm; simp only [AssignInter.term] at hterm; subst hterm
    have hget := getElem_of_indexOf_getPA hidx hpa
    simp only [termIntersectionForPackage, getPA]
    rw [SmallMap.get_set_same_key h.keys hget, if_pos rfl]
    rfl
  · rw [hpa] at hpa0; cases hpa0

end PartialSolution

theorem Term.relationWith_satisfied_iff_subset (t o : Term S) :
    t.relationWith o = .satisfied ↔ o.subsetOf t = true := by
  unfold Term.relationWith
  cases o.subsetOf t <;> cases t.isDisjoint o <;> simp

theorem Term.relationWith_satisfied_inter (t o x : Term S) (ht : t.Valid) (ho : o.Valid) (hx : x.Valid)
    (h : t.relationWith o = .satisfied) : t.relationWith (o.intersection x) = .satisfied := by
  rw [Term.relationWith_satisfied_iff_subset] at h ⊢
  have hv := Term.valid_intersection o x ho hx
  refine Term.subsetOf_trans _ o t hv ho ht ?_ h
  rw [Term.subsetOf_iff _ _ hv ho]
  intro c hc
  rw [Term.eval_intersection o x ho hx] at hc
  cases h1 : o.eval c
  · rw [h1] at hc; cases hc
  · rfl

theorem Incompat.relationGo_trigger (terms : P → Option (Term S)) (p : P) :
    ∀ (l : List (P × Term S)) (rel : Relation P), SmallMap.NoDupKeys l →
      (∀ q t, (q, t) ∈ l → q ≠ p → ∃ o, terms q = some o ∧ t.relationWith o = .satisfied) →
      (∀ t, (p, t) ∈ l → ∃ cur, terms p = some cur ∧ t.relationWith cur ≠ .contradicted) →
      (rel = .satisfied →
        Incompat.relationGo terms rel l = .satisfied ∨ Incompat.relationGo terms rel l = .almostSatisfied p) ∧
      (rel = .almostSatisfied p → p ∉ l.map Prod.fst →
        Incompat.relationGo terms rel l = .almostSatisfied p) := by
  intro l
  induction l with
  | nil =>
    intro rel _ _ _
    exact ⟨fun h => Or.inl (by simp [Incompat.relationGo, h]), fun h _ => by simp [Incompat.relationGo, h]⟩
  | cons x rest ih =>
    intro rel hn hoth hp
    obtain ⟨q, t⟩ := x
    rw [SmallMap.nodup_cons] at hn
    have hoth' : ∀ q t, (q, t) ∈ rest → q ≠ p → ∃ o, terms q = some o ∧ t.relationWith o = .satisfied :=
      fun q t hm => hoth q t (List.mem_cons_of_mem _ hm)
    have hp' : ∀ t, (p, t) ∈ rest → ∃ cur, terms p = some cur ∧ t.relationWith cur ≠ .contradicted :=
      fun t hm => hp t (List.mem_cons_of_mem _ hm)
    have ih1 := ih rel hn.2 hoth' hp'
    by_cases hq : q = p
    · subst hq
      obtain ⟨cur, hcur, hrel⟩ := hp t List.mem_cons_self
      have hpn : q ∉ rest.map Prod.fst := by
        intro hm; rw [List.mem_map] at hm
        obtain ⟨⟨a, b⟩, hab, rfl⟩ := hm
        exact hn.1 b hab
      constructor
      · intro hrel0
        unfold Incompat.relationGo
        rw [hcur]
        simp only [Option.map_some]
        cases hr : t.relationWith cur with
        | satisfied => simp only; exact ih1.1 hrel0
        | contradicted => exact absurd hr hrel
        | inconclusive =>
          simp only [hrel0, if_true]
          exact Or.inr ((ih (.almostSatisfied q) hn.2 hoth' hp').2 rfl hpn)
      · intro _ hnot
        exact absurd (List.mem_cons_self) hnot
    · obtain ⟨o, ho, hrel⟩ := hoth q t List.mem_cons_self hq
      constructor
      · intro hrel0
        unfold Incompat.relationGo
        rw [ho]
        simp only [Option.map_some, hrel]
        exact ih1.1 hrel0
      · intro hrel0 hnot
        unfold Incompat.relationGo
        rw [ho]
        simp only [Option.map_some, hrel]
        exact ih1.2 hrel0 (fun hm => hnot (List.mem_cons_of_mem _ hm))

/-- the incompatibility `id` will, when examined by the propagation loop for `p`, be found
satisfied (a conflict) or almost satisfied by `p` -/
def Trigger (st : State P S V M Pr) (p : P) (id : Nat) : Prop :=
  SmallMap.get st.contradicted id = none ∧
  ∃ inc, st.store[id]? = some inc ∧
    (∀ q t, (q, t) ∈ inc.terms → q ≠ p →
      ∃ o, st.ps.termIntersectionForPackage q = some o ∧ t.relationWith o = .satisfied) ∧
    ∃ tp cur, inc.get p = some tp ∧ st.ps.termIntersectionForPackage p = some cur ∧
      tp.relationWith cur ≠ .contradicted

/-- the package is undecided with a positive term -/
def PartialSolution.InflightPos (ps : PartialSolution P S V Pr) (p : P) : Prop :=
  ∃ pa s, ps.getPA p = some pa ∧ pa.inter = .derivations (.pos s)

/-- the package in flight will be settled by the next propagation -/
def Pending (st : State P S V M Pr) (p : P) : Prop :=
  st.ps.POK p ∨ (st.ps.InflightPos p ∧ ∃ ids, SmallMap.get st.incompatibilities p = some ids ∧
    ∃ id ∈ ids, Trigger st p id)

theorem Trigger.relation (W : World P S V M) (root : P) (rv : V) {st : State P S V M Pr} {p : P} {id : Nat}
    (hs : StoreInv W root rv st.store) (h : Trigger st p id) {inc : Incompat P S V M}
    (hinc : st.store[id]? = some inc) :
    st.ps.relation inc = .satisfied ∨ st.ps.relation inc = .almostSatisfied p := by
  obtain ⟨_, inc', hinc', hoth, tp, cur, htp, hcur, hrel⟩ := h
  rw [hinc] at hinc'; injection hinc' with hinc'; subst hinc'
  have hn := (hs id inc hinc).nodup
  refine (Incompat.relationGo_trigger (fun q => st.ps.termIntersectionForPackage q) p inc.terms .satisfied hn
    hoth ?_).1 rfl
  intro t ht
  have := SmallMap.get_of_mem hn ht
  unfold Incompat.get at htp
  rw [htp] at this; injection this with this; subst this
  exact ⟨cur, hcur, hrel⟩

theorem Trigger.step (W : World P S V M) (root : P) (rv : V) {st : State P S V M Pr} {p q : P} {id id' : Nat}
    (hs : SInv W root rv st) (hw : st.ps.WF) (h : Trigger st p id) (hne : q ≠ p) (hid : id' ≠ id)
    {ps : PartialSolution P S V Pr} (hps : st.ps.addDerivation q id' st.store = .ok ps)
    (buffer : List P) (lvl : Nat) :
    Trigger { st with buffer := buffer, ps := ps,
                      contradicted := SmallMap.insert st.contradicted id' lvl } p id := by
  obtain ⟨hc, inc, hinc, hoth, tp, cur, htp, hcur, hrel⟩ := h
  have hg := hs.store id inc hinc
  refine ⟨?_, inc, hinc, ?_, tp, cur, htp, ?_, hrel⟩
  · show SmallMap.get (SmallMap.insert st.contradicted id' lvl) id = none
    rw [SmallMap.get_insert, if_neg (fun e => hid e.symm)]; exact hc
  · intro q' t hm hq'
    obtain ⟨o, ho, hrel'⟩ := hoth q' t hm hq'
    by_cases hqq : q' = q
    · subst hqq
      obtain ⟨inc2, t2, hinc2, ht2, hnew⟩ := PartialSolution.addDerivation_term_self hw hps ho
      refine ⟨_, hnew, ?_⟩
      exact Term.relationWith_satisfied_inter t o t2.negate (hg.sets q' t hm)
        (PartialSolution.termIntersection_valid hs.ps ho)
        (Term.valid_negate _ (Incompat.get_valid W root rv hs.store hinc2 ht2)) hrel'
    · refine ⟨o, ?_, hrel'⟩
      show ps.termIntersectionForPackage q' = some o
      unfold PartialSolution.termIntersectionForPackage at ho ⊢
      rw [PartialSolution.addDerivation_getPA_ne hw hps hqq]; exact ho
  · show ps.termIntersectionForPackage p = some cur
    unfold PartialSolution.termIntersectionForPackage at hcur ⊢
    rw [PartialSolution.addDerivation_getPA_ne hw hps (fun e => hne e.symm)]; exact hcur

theorem Trigger.cache {st : State P S V M Pr} {p : P} {id id' : Nat}
    (h : Trigger st p id) (hid : id' ≠ id) (lvl : Nat) :
    Trigger { st with contradicted := SmallMap.insert st.contradicted id' lvl } p id := by
  obtain ⟨hc, rest⟩ := h
  refine ⟨?_, rest⟩
  show SmallMap.get (SmallMap.insert st.contradicted id' lvl) id = none
  rw [SmallMap.get_insert, if_neg (fun e => hid e.symm)]; exact hc

namespace State

theorem propagateIncompats_settle (W : World P S V M) (root : P) (rv : V) (p : P) :
    ∀ (ids : List Nat) (st : State P S V M Pr) {st' : State P S V M Pr} {r : Option Nat},
    propagateIncompats st ids = .ok (st', r) → SInv W root rv st → PInv st → st.ps.QInv (some p) →
    (st.ps.POK p ∨ (st.ps.InflightPos p ∧ ∃ id ∈ ids, Trigger st p id)) → r = none →
    st'.ps.QInv none := by
  intro ids
  induction ids with
  | nil =>
    intro st st' r hr hs h hq hpend _
    simp only [propagateIncompats] at hr
    injection hr with hr; injection hr with h1 h2; subst h1
    rcases hpend with hpok | ⟨_, id, hid, _⟩
    · exact (PartialSolution.qInv_none_iff _ p).2 ⟨hq, hpok⟩
    · cases hid
  | cons id rest ih =>
    intro st st' r hr hs h hq hpend hrn
    rcases hpend with hpok | ⟨hpos, id0, hid0, htr⟩
    · exact (propagateIncompats_pinv (o := none) _ _ hr h).2 ((PartialSolution.qInv_none_iff _ p).2 ⟨hq, hpok⟩)
    unfold propagateIncompats at hr
    split at hr
    · rename_i hck
      have hne : id0 ≠ id := by
        intro e; subst e
        unfold SmallMap.containsKey at hck
        rw [htr.1] at hck; cases hck
      have hmem : id0 ∈ rest := by
        rcases List.mem_cons.1 hid0 with e | e
        · exact absurd e hne
        · exact e
      exact ih _ hr hs h hq (Or.inr ⟨hpos, id0, hmem, htr⟩) hrn
    split at hr
    · cases hr
    rename_i inc hinc
    have hlt := storeGet_lt hinc
    have hinc' := storeGet_ok hinc
    -- if the head is the trigger, the relation is `satisfied` or `almostSatisfied p`
    have hrel : id = id0 → st.ps.relation inc = .satisfied ∨ st.ps.relation inc = .almostSatisfied p := by
      intro e; subst e; exact Trigger.relation W root rv hs.store htr hinc'
    have hmem : id ≠ id0 → id0 ∈ rest := by
      intro hne
      rcases List.mem_cons.1 hid0 with e | e
      · exact absurd e.symm hne
      · exact e
    split at hr
    · injection hr with hr; injection hr with h1 h2; subst h2; cases hrn
    · rename_i q hq'
      split at hr
      · cases hr
      rename_i ps hps
      have hs1 : SInv W root rv ({ st with
          buffer := if st.buffer.contains q then st.buffer else st.buffer ++ [q], ps := ps,
          contradicted := SmallMap.insert st.contradicted id ps.currentDecisionLevel } : State P S V M Pr) :=
        ⟨hs.store, hs.root, hs.rv, PartialSolution.addDerivation_termsValid W root rv hs.store hs.ps hps⟩
      have h1 := h.derive hlt hps (if st.buffer.contains q then st.buffer else st.buffer ++ [q])
        ps.currentDecisionLevel
      have hq1 := PartialSolution.addDerivation_qInv h.wf hq hps
      by_cases hqp : q = p
      · subst hqp
        exact ih _ hr hs1 h1 hq1 (Or.inl (PartialSolution.addDerivation_pok h.wf.wf hps)) hrn
      · have hne : id ≠ id0 := by
          intro e
          rcases hrel e with e' | e'
          · rw [hq'] at e'; cases e'
          · rw [hq'] at e'; injection e' with e'; exact hqp e'
        refine ih _ hr hs1 h1 hq1 (Or.inr ⟨?_, id0, hmem hne, Trigger.step W root rv hs h.wf.wf htr hqp hne hps _ _⟩) hrn
        obtain ⟨pa, s, hpa, hpas⟩ := hpos
        refine ⟨pa, s, ?_, hpas⟩
        show ps.getPA p = some pa
        rw [PartialSolution.addDerivation_getPA_ne h.wf.wf hps (fun e => hqp e.symm)]; exact hpa
    · rename_i q hq'
      have hne : id ≠ id0 := by
        intro e
        rcases hrel e with e' | e'
        · rw [hq'] at e'; cases e'
        · rw [hq'] at e'; cases e'
      exact ih _ hr ⟨hs.store, hs.root, hs.rv, hs.ps⟩ (h.cacheInsert hlt _) hq
        (Or.inr ⟨hpos, id0, hmem hne, htr.cache hne _⟩) hrn
    · rename_i hq'
      have hne : id ≠ id0 := by
        intro e
        rcases hrel e with e' | e'
        · rw [hq'] at e'; cases e'
        · rw [hq'] at e'; cases e'
      exact ih _ hr hs h hq (Or.inr ⟨hpos, id0, hmem hne, htr⟩) hrn

theorem unitPropagation_settle (W : World P S V M) (root : P) (rv : V) {fuel : Nat}
    {st st' : State P S V M Pr} {p : P} {r : Option Nat}
    (hr : unitPropagation fuel st p = .ok (st', r)) (hs : SInv W root rv st) (h : PInv st)
    (hq : st.ps.QInv (some p)) (hpend : Pending st p) :
    PInv st' ∧ (r = none → st'.ps.QInv none) := by
  unfold unitPropagation at hr
  have h0 : PInv ({ st with buffer := [p] } : State P S V M Pr) := ⟨h.wf, h.cache⟩
  refine ⟨(unitPropagationLoop_pinv _ _ hr h0).1, ?_⟩
  intro hrn
  cases fuel with
  | zero => simp [unitPropagationLoop] at hr
  | succ fuel =>
    unfold unitPropagationLoop at hr
    simp only [List.getLast?_singleton, List.dropLast_singleton] at hr
    have h1 : PInv ({ st with buffer := [] } : State P S V M Pr) := ⟨h.wf, h.cache⟩
    have hs1 : SInv W root rv ({ st with buffer := [] } : State P S V M Pr) := ⟨hs.store, hs.root, hs.rv, hs.ps⟩
    split at hr
    · cases hr
    rename_i ids hids
    split at hr
    · cases hr
    · rename_i st1 hp
      have hq1 : st1.ps.QInv none := by
        refine propagateIncompats_settle W root rv p _ _ hp hs1 h1 hq ?_ rfl
        rcases hpend with hpok | ⟨hpos, ids', hids', id, hid, htr⟩
        · exact Or.inl hpok
        · rw [hids] at hids'; injection hids' with hids'; subst hids'
          exact Or.inr ⟨hpos, id, List.mem_reverse.2 hid, htr⟩
      have h2 := (propagateIncompats_pinv (o := none) _ _ hp h1).1
      exact (unitPropagationLoop_pinv _ _ hr h2).2 hrn hq1
    · rename_i st1 conflictId hp
      have h2 := (propagateIncompats_pinv (o := none) _ _ hp h1).1
      split at hr
      · cases hr
      · injection hr with hr; injection hr with e1 e2; subst e2; cases hrn
      · rename_i st2 packageAlmost rootCause hc
        obtain ⟨h3, hq3⟩ := conflictResolution_pinv _ _ _ _ hc h2
        split at hr
        · cases hr
        rename_i ps hps
        have h4 : PInv ({ st2 with
            buffer := [packageAlmost], ps := ps,
            contradicted := SmallMap.insert st2.contradicted rootCause ps.currentDecisionLevel } :
            State P S V M Pr) := by
          obtain ⟨inc, t, hi, _⟩ := PartialSolution.addDerivation_spec hps
          exact h3.derive (List.getElem?_eq_some_iff.1 hi).1 hps _ _
        exact (unitPropagationLoop_pinv _ _ hr h4).2 hrn
          (PartialSolution.addDerivation_qInv h3.wf (hq3 _ rfl) hps)

end State
end PS
end Pubgrub
