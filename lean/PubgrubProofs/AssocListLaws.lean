/-
`SmallMap` (PubgrubModel/SmallMap.lean) as a finite map: what `get` sees after `insert` and `remove`, and
how the list of keys changes.  Shared by the solver's incompatibilities (terms keyed by package), the
offline provider (keyed by `(package, version)`) and the exact container model `SmallMapX`.
-/
import PubgrubModel.SmallMap

namespace Pubgrub
namespace SmallMap
variable {K T : Type} [DecidableEq K]

theorem get_cons (a : K) (b : T) (m : SmallMap K T) (k : K) :
    get ((a, b) :: m) k = if k = a then some b else get m k := rfl

theorem insert_cons (a : K) (b : T) (m : SmallMap K T) (k : K) (v : T) :
    insert ((a, b) :: m) k v = if k = a then (a, v) :: m else (a, b) :: insert m k v := rfl

theorem remove_cons (a : K) (b : T) (m : SmallMap K T) (k : K) :
    remove ((a, b) :: m) k = if k = a then m else (a, b) :: remove m k := rfl

theorem mem_of_get {m : SmallMap K T} {k : K} {v : T} (h : get m k = some v) : (k, v) ∈ m := by
  induction m with
  | nil => cases h
  | cons x m ih =>
    obtain ⟨a, b⟩ := x
    rw [get_cons] at h
    split at h
    · next e => cases h; exact e ▸ List.mem_cons_self ..
    · exact List.mem_cons_of_mem _ (ih h)

theorem get_eq_none_iff (m : SmallMap K T) (k : K) : get m k = none ↔ ∀ v, (k, v) ∉ m := by
  induction m with
  | nil => exact ⟨fun _ _ => List.not_mem_nil, fun _ => rfl⟩
  | cons x m ih =>
    obtain ⟨a, b⟩ := x
    rw [get_cons]
    by_cases h : k = a
    · subst h
      rw [if_pos rfl]
      exact ⟨nofun, fun hn => absurd (List.mem_cons_self ..) (hn b)⟩
    · rw [if_neg h, ih]
      simp only [List.mem_cons, Prod.mk.injEq, h, false_and, false_or]

theorem get_insert (m : SmallMap K T) (k k' : K) (v : T) :
    get (insert m k v) k' = if k' = k then some v else get m k' := by
  induction m with
  | nil => rfl
  | cons x m ih =>
    obtain ⟨a, b⟩ := x
    rw [insert_cons, get_cons]
    by_cases h : k = a
    · subst h
      rw [if_pos rfl, get_cons]
      by_cases h' : k' = k
      · rw [if_pos h', if_pos h']
      · rw [if_neg h', if_neg h', if_neg h']
    · rw [if_neg h, get_cons, ih]
      by_cases h' : k' = a
      · rw [if_pos h', if_neg fun e => h (e.symm.trans h'), if_pos h']
      · rw [if_neg h', if_neg h']

theorem get_remove_ne (m : SmallMap K T) (k k' : K) (hk : k' ≠ k) :
    get (remove m k) k' = get m k' := by
  induction m with
  | nil => rfl
  | cons x m ih =>
    obtain ⟨a, b⟩ := x
    rw [remove_cons, get_cons]
    by_cases h : k = a
    · rw [if_pos h, if_neg (h ▸ hk)]
    · rw [if_neg h, get_cons, ih]

end SmallMap

namespace AssocList
open SmallMap
variable {K T : Type} [DecidableEq K]

theorem get_none_of_not_mem (m : SmallMap K T) (k : K) (h : k ∉ m.map Prod.fst) : get m k = none :=
  (get_eq_none_iff m k).2 fun v hv => h (List.mem_map.mpr ⟨(k, v), hv, rfl⟩)

theorem get_eq_some_iff_mem (m : SmallMap K T) (h : (m.map Prod.fst).Nodup) (k : K) (v : T) :
    get m k = some v ↔ (k, v) ∈ m := by
  induction m with
  | nil => exact ⟨nofun, nofun⟩
  | cons x m ih =>
    obtain ⟨a, b⟩ := x
    rw [List.map_cons, List.nodup_cons] at h
    rw [get_cons, List.mem_cons, Prod.mk.injEq]
    by_cases hk : k = a
    · subst hk
      have hn : (k, v) ∉ m := fun hm => h.1 (List.mem_map.mpr ⟨(k, v), hm, rfl⟩)
      rw [if_pos rfl, Option.some.injEq, eq_comm]
      exact ⟨fun e => .inl ⟨rfl, e⟩, fun e => e.elim (·.2) (absurd · hn)⟩
    · rw [if_neg hk, ih h.2]
      exact ⟨.inr, fun e => e.elim (absurd ·.1 hk) id⟩

theorem get_perm (m m' : SmallMap K T) (hp : m.Perm m') (h : (m.map Prod.fst).Nodup) (k : K) :
    get m k = get m' k := by
  have h' : (m'.map Prod.fst).Nodup := (hp.map Prod.fst).nodup_iff.mp h
  apply Option.ext
  intro v
  rw [get_eq_some_iff_mem m h, get_eq_some_iff_mem m' h', hp.mem_iff]

theorem keys_insert (m : SmallMap K T) (k : K) (v : T) :
    (insert m k v).map Prod.fst =
      if k ∈ m.map Prod.fst then m.map Prod.fst else m.map Prod.fst ++ [k] := by
  induction m with
  | nil => rfl
  | cons x m ih =>
    obtain ⟨a, b⟩ := x
    rw [insert_cons, List.map_cons]
    by_cases h : k = a
    · rw [if_pos h, if_pos (List.mem_cons.2 (.inl h))]
      rfl
    · rw [if_neg h, List.map_cons, ih]
      by_cases hm : k ∈ m.map Prod.fst
      · rw [if_pos hm, if_pos (List.mem_cons_of_mem _ hm)]
      · rw [if_neg hm, if_neg fun e => (List.mem_cons.1 e).elim h hm]
        rfl

theorem mem_keys_insert (m : SmallMap K T) (k : K) (v : T) (k' : K) :
    k' ∈ (insert m k v).map Prod.fst ↔ k' ∈ m.map Prod.fst ∨ k' = k := by
  rw [keys_insert]
  split
  · next h => exact ⟨.inl, fun e => e.elim id (· ▸ h)⟩
  · rw [List.mem_append, List.mem_singleton]

theorem nodup_keys_insert (m : SmallMap K T) (k : K) (v : T) (h : (m.map Prod.fst).Nodup) :
    ((insert m k v).map Prod.fst).Nodup := by
  rw [keys_insert]
  split
  · exact h
  · next hk =>
    rw [List.nodup_append]
    refine ⟨h, List.pairwise_singleton _ k, fun a ha b hb => ?_⟩
    rw [List.mem_singleton.1 hb]
    exact fun e => hk (e ▸ ha)

theorem keys_remove_sublist (m : SmallMap K T) (k : K) :
    ((remove m k).map Prod.fst).Sublist (m.map Prod.fst) := by
  induction m with
  | nil => exact .slnil
  | cons x m ih =>
    obtain ⟨a, b⟩ := x
    rw [remove_cons]
    split
    · exact List.sublist_cons_self _ _
    · exact ih.cons_cons _

theorem nodup_keys_remove (m : SmallMap K T) (h : (m.map Prod.fst).Nodup) (k : K) :
    ((remove m k).map Prod.fst).Nodup :=
  (keys_remove_sublist m k).nodup h

theorem get_remove (m : SmallMap K T) (h : (m.map Prod.fst).Nodup) (k k' : K) :
    get (remove m k) k' = if k' = k then none else get m k' := by
  by_cases hk : k' = k
  · subst hk
    rw [if_pos rfl]
    induction m with
    | nil => rfl
    | cons x m ih =>
      obtain ⟨a, b⟩ := x
      rw [List.map_cons, List.nodup_cons] at h
      rw [remove_cons]
      by_cases e : k' = a
      · rw [if_pos e, get_none_of_not_mem m k' (e ▸ h.1)]
      · rw [if_neg e, get_cons, if_neg e, ih h.2]
  · rw [if_neg hk, get_remove_ne m k k' hk]

variable {α : Type}

theorem get_foldl_insert (f : α → K) (g : α → T) (l : List α) (m0 : SmallMap K T) (q : K) :
    get (l.foldl (fun m a => insert m (f a) (g a)) m0) q =
      ((l.reverse.find? (fun a => f a = q)).map g).or (get m0 q) := by
  induction l generalizing m0 with
  | nil => rfl
  | cons x l ih =>
    rw [List.foldl_cons, ih, List.reverse_cons, List.find?_append, get_insert]
    cases List.find? (fun a => decide (f a = q)) l.reverse with
    | some y => rfl
    | none =>
      rw [Option.none_or, List.find?_singleton, Option.map_none, Option.none_or]
      by_cases hx : f x = q
      · rw [if_pos hx.symm, if_pos (decide_eq_true hx)]
        rfl
      · rw [if_neg fun e => hx e.symm, if_neg (by rwa [decide_eq_true_eq])]
        rfl

theorem mem_keys_foldl_insert (f : α → K) (g : α → T) (l : List α) (m0 : SmallMap K T) (k : K) :
    k ∈ (l.foldl (fun m a => insert m (f a) (g a)) m0).map Prod.fst ↔
      k ∈ m0.map Prod.fst ∨ ∃ a ∈ l, f a = k := by
  induction l generalizing m0 with
  | nil => exact ⟨.inl, fun e => e.elim id fun ⟨_, h, _⟩ => nomatch h⟩
  | cons x l ih =>
    rw [List.foldl_cons, ih, mem_keys_insert, or_assoc, @eq_comm _ k]
    simp only [List.mem_cons, or_and_right, exists_or, exists_eq_left]

theorem nodup_keys_foldl_insert (f : α → K) (g : α → T) (l : List α) (m0 : SmallMap K T)
    (h : (m0.map Prod.fst).Nodup) :
    ((l.foldl (fun m a => insert m (f a) (g a)) m0).map Prod.fst).Nodup := by
  induction l generalizing m0 with
  | nil => exact h
  | cons x l ih => exact ih _ (nodup_keys_insert _ _ _ h)

end AssocList
end Pubgrub
