/-
What the operations of the partial solution do to the measure: a derivation and a decision decrease it,
and so does a backtrack followed by a derivation.
-/
import PubgrubProofs.SatisfierTheory
import PubgrubProofs.TerminationMeasure

set_option linter.unusedSectionVars false

namespace Pubgrub
open VersionSet

section
variable {P S V M Pr : Type} [DecidableEq P] [VersionSet S V] [DecidableEq S] [LawfulVersionSet S V]
variable {W : World P S V M} {root : P} {rv : V} (fw : FiniteWorld W root rv)

theorem rank_congr {ps ps' : PartialSolution P S V Pr} (h1 : ps'.assignments = ps.assignments)
    (h2 : ps'.currentDecisionLevel = ps.currentDecisionLevel) : rank fw ps' = rank fw ps := by
  unfold rank
  apply Tm.numeral_congr
  intro i _
  unfold digit comp PartialSolution.termsAt PartialSolution.getPA
  rw [h1, h2]

/-- pigeonhole: the packages with assignments are distinct packages of the finite world -/
theorem assignments_length_le {ps : PartialSolution P S V Pr} (hw : ps.WF)
    (hk : ∀ kv ∈ ps.assignments, kv.1 ∈ fw.pkgs) : ps.assignments.length ≤ fw.pkgs.length :=
  List.length_map (as := ps.assignments) Prod.fst ▸
    Tm.nodup_subset_length_le _ _ hw.keys (fun x hx => by
      obtain ⟨kv, hkv, rfl⟩ := List.mem_map.1 hx
      exact hk kv hkv)

/-- the live levels are among the digits -/
theorem level_lt_Dim {ps : PartialSolution P S V Pr} (hw : ps.WF)
    (hk : ∀ kv ∈ ps.assignments, kv.1 ∈ fw.pkgs) : ps.currentDecisionLevel + 2 ≤ Dim fw := by
  have h1 := hw.level_le
  have h2 := assignments_length_le fw hw hk
  unfold Dim
  omega

theorem comp_addDerivation {ps ps' : PartialSolution P S V Pr} {p : P} {id : Nat}
    {store : List (Incompat P S V M)} (h : ps.WF') (hv : ps.TermsValid)
    (hr : ps.addDerivation p id store = .ok ps') {inc : Incompat P S V M} (hinc : store[id]? = some inc)
    {c : Term S} (hget : inc.get p = some c) (hcv : c.Valid) (hcok : OKT fw p c)
    (hpok : ∀ t, ps.terms p = some t → OKT fw p t)
    (hmeet : ∀ t, ps.terms p = some t → ∃ x : Option V, t.eval x = true ∧ c.eval x = true) :
    ps'.currentDecisionLevel = ps.currentDecisionLevel ∧
    (∀ i, i < ps.currentDecisionLevel → comp fw ps' i = comp fw ps i) ∧
    comp fw ps' ps.currentDecisionLevel < comp fw ps ps.currentDecisionLevel := by
  have h' := PartialSolution.addDerivation_wf' h hr
  have hlev := PartialSolution.addDerivation_level hr
  refine ⟨hlev, ?_, ?_⟩
  · intro i hi
    apply comp_congr
    intro q
    rw [PartialSolution.termsAt_addDerivation_lt h hr hi]
  · have e1 : ps'.termsAt ps.currentDecisionLevel = ps'.terms :=
      PartialSolution.termsAt_top h'.wf (by rw [hlev])
    have e2 : ps.termsAt ps.currentDecisionLevel = ps.terms :=
      PartialSolution.termsAt_top h.wf (Nat.le_refl _)
    apply comp_lt_of fw hcok.1 (p := p)
    · intro q hq
      rw [e1, e2]
      exact PartialSolution.terms_addDerivation_ne h hr hq
    · rw [e1, e2]
      cases ho : ps.terms p with
      | some o =>
        obtain ⟨inc', t, hinc', ht, hnew⟩ := PartialSolution.addDerivation_term_self h.wf hr ho
        rw [hinc] at hinc'; injection hinc' with hinc'; subst hinc'
        rw [hget] at ht; injection ht with ht; subst ht
        have hnew' : ps'.terms p = some (o.intersection c.negate) := hnew
        rw [hnew']
        simp only [Tm.osize]
        have hov : o.Valid := PartialSolution.termIntersection_valid hv ho
        have hnv : c.negate.Valid := Term.valid_negate c hcv
        obtain ⟨x, hx1, hx2⟩ := hmeet o ho
        refine tsize_lt fw ((hpok o ho).intersection fw (hcok.negate fw)) (hpok o ho)
          (Term.valid_intersection _ _ hov hnv) hov (Term.inter_imp_left hov hnv) (o := x) hx1 ?_
        rw [Term.eval_intersection _ _ hov hnv, Term.eval_negate, hx1, hx2]
        rfl
      | none =>
        obtain ⟨inc', t, o', hinc', ht, hnew, _, _⟩ := PartialSolution.terms_addDerivation_self h hv hr
        rw [hnew]
        exact Tm.osize_some_lt_none _ _

theorem rank_addDerivation {ps ps' : PartialSolution P S V Pr} {p : P} {id : Nat}
    {store : List (Incompat P S V M)} (h : ps.WF') (hv : ps.TermsValid)
    (hr : ps.addDerivation p id store = .ok ps') {inc : Incompat P S V M} (hinc : store[id]? = some inc)
    {c : Term S} (hget : inc.get p = some c) (hcv : c.Valid) (hcok : OKT fw p c)
    (hpok : ∀ t, ps.terms p = some t → OKT fw p t)
    (hmeet : ∀ t, ps.terms p = some t → ∃ x : Option V, t.eval x = true ∧ c.eval x = true)
    (hdl : ps.currentDecisionLevel < Dim fw) : rank fw ps' < rank fw ps := by
  obtain ⟨hlev, hlow, hcur⟩ := comp_addDerivation fw h hv hr hinc hget hcv hcok hpok hmeet
  apply rank_lt_of fw hdl
  · intro i hi
    unfold digit
    rw [hlev, hlow i hi]
  · unfold digit
    rw [hlev, if_pos (Nat.le_refl _), if_pos (Nat.le_refl _)]
    exact hcur

theorem rank_addDecision {ps ps' : PartialSolution P S V Pr} {debug : Bool} {p : P} {v : V}
    (h : ps.WF) (hr : PartialSolution.addDecision debug ps p v = .ok ps') (hw' : ps'.WF)
    {t : Term S} {pa : PackageAssignments S V} (hpa : ps.getPA p = some pa)
    (ht : pa.inter = .derivations t) (hdl : ps.currentDecisionLevel + 1 < Dim fw) :
    rank fw ps' < rank fw ps := by
  have hlev := PartialSolution.addDecision_level h hr hpa ht
  apply rank_lt_of fw hdl
  · intro i hi
    unfold digit
    rw [hlev, if_pos (by omega), if_pos (by omega)]
    apply comp_congr
    intro q
    rw [PartialSolution.termsAt_addDecision_le h hr hw' hpa ht (by omega)]
  · unfold digit
    rw [hlev, if_pos (Nat.le_refl _), if_neg (by omega)]
    exact comp_lt_Bnd fw ps' _

theorem BtStep.termsAt {ps ps' : PartialSolution P S V Pr} {l l' : Nat} (hbt : BtStep ps ps' l')
    (h : ps.WF') (hl : l ≤ l') : ps'.termsAt l = ps.termsAt l := by
  funext q
  unfold PartialSolution.termsAt
  rw [hbt.getPA_eq h.wf q]
  cases hpa : ps.getPA q with
  | none => rfl
  | some pa =>
    simp only [Option.bind_some]
    obtain ⟨i, _, hi⟩ := PartialSolution.getElem_of_getPA hpa
    exact PartialSolution.termAt_btG (h.wf.entries i q pa hi) (h.wfx _ (List.mem_of_getElem? hi)) q hl

theorem rank_backtrack_derive {ps psb ps' : PartialSolution P S V Pr} {L : Nat} (h : ps.WF')
    (hbt : BtStep ps psb L) (hL : L ≤ ps.currentDecisionLevel) (hdl : L < Dim fw)
    (hlev : ps'.currentDecisionLevel = psb.currentDecisionLevel)
    (hlow : ∀ i, i < psb.currentDecisionLevel → comp fw ps' i = comp fw psb i)
    (hcur : comp fw ps' psb.currentDecisionLevel < comp fw psb psb.currentDecisionLevel) :
    rank fw ps' < rank fw ps := by
  have hbl := hbt.level
  rw [hbl] at hlev hlow hcur
  have hsame : ∀ i, i ≤ L → comp fw psb i = comp fw ps i := by
    intro i hi
    apply comp_congr
    intro q
    rw [BtStep.termsAt hbt h hi]
  apply rank_lt_of fw hdl
  · intro i hi
    unfold digit
    rw [hlev, if_pos (by omega), if_pos (by omega), hlow i hi, hsame i (by omega)]
  · unfold digit
    rw [hlev, if_pos (Nat.le_refl _), if_pos hL, ← hsame L (Nat.le_refl _)]
    exact hcur

end
end Pubgrub
