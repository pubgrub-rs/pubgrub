/-
Property C05, termination clause: for a well-behaved provider over a finite registry `resolve` returns
after a bounded number of provider calls (and the model's internal loops need only bounded fuel).
Definitions: PubgrubProofs/TermDefs.lean (`GeneratedSet`, `FiniteWorld`, `WellBehavedRun`).
The argument, by module:
* TerminationNumeral, TerminationMeasure, TerminationRank: the measure `rank` (a base-`(B+1)` numeral of the
  sizes of the terms restricted to each decision level); a derivation, a decision, and a backtrack followed
  by a derivation decrease it;
* TerminationKInv, TerminationAccInv: the invariants `KInv` (all terms are over generated sets) and `AccInv`
  (an accumulated term is the previous term intersected with the negation of the cause's term);
* TerminationSatBefore, TerminationResolvent, TerminationConflict: conflict resolution moves the satisfier
  strictly earlier, hence needs at most `nextGlobalIndex + 1` iterations; NoOutOfFuel: the fuel-free
  functions never return `outOfFuel`;
* TerminationPropagate, TerminationLoop, TerminationTrigger: the potential `2·rank + |buffer|` of the
  propagation loop, and the trigger left by the non-deciding paths of a cycle;
* TerminationStep: the run-level invariant with the budget of remaining provider calls.
Bounds proved: `N = (2·|pkgs| + 12)·(B+1)^D + |pkgs| + 6`, `fuel0 = 3·(B+1)^D + 3`, where
`B = Σ_p (|tests p| + 2) + 1` and `D = |pkgs| + 2` (`pkgs` with multiplicity).
At the end, non-vacuity: every dependency-closed world over the bit set is a `FiniteWorld`, and
`resolve_terminates` applied to a concrete registry.
-/
import PubgrubProofs.TermDefs
import PubgrubProofs.NoPanic
import PubgrubProofs.CanonInstances
import PubgrubProofs.TerminationStep

set_option linter.unusedSectionVars false

namespace Pubgrub
open VersionSet

variable {P S V M Pr E : Type} [DecidableEq P] [VersionSet S V] [DecidableEq S] [DecidableEq V]
  [LE Pr] [DecidableLE Pr] [LawfulVersionSet S V] [CanonicalEmpty S V]

/-- the answers given while the run has not returned are consistent with the world and well-behaved -/
def GoodRunFrom (W : World P S V M) (x : SolverState P S V M Pr × Request P S V M Pr E)
    (as : List (Answer P S V M Pr E)) : Prop :=
  ∀ (k : Nat) (a : Answer P S V M Pr E), as[k]? = some a →
    (Solver.after x (as.take k)).2.isFinal = false →
      AnswerOK W (Solver.after x (as.take k)).2 a ∧ AnswerWellBehaved (Solver.after x (as.take k)).2 a

theorem goodRunFrom_of_wellBehavedRun {W : World P S V M} {debug : Bool} {fuel : Nat} {root : P} {rv : V}
    {as : List (Answer P S V M Pr E)} (h : WellBehavedRun W debug fuel root rv as) :
    GoodRunFrom W (Solver.start debug fuel root rv) as := by
  intro k a hk hfin
  obtain ⟨r, hr, hok⟩ := h k a hk
  rw [Solver.trace_eq, Solver.traceFrom_getElem?_eq_some] at hr
  obtain ⟨_, hr⟩ := hr
  subst hr
  exact hok hfin

theorem GoodRunFrom.head {W : World P S V M} {x : SolverState P S V M Pr × Request P S V M Pr E}
    {a : Answer P S V M Pr E} {as : List (Answer P S V M Pr E)} (h : GoodRunFrom W x (a :: as))
    (hfin : x.2.isFinal = false) : AnswerOK W x.2 a ∧ AnswerWellBehaved x.2 a := by
  have := h 0 a rfl
  simp only [List.take_zero, Solver.after_nil] at this
  exact this hfin

theorem GoodRunFrom.tail {W : World P S V M} {x : SolverState P S V M Pr × Request P S V M Pr E}
    {a : Answer P S V M Pr E} {as : List (Answer P S V M Pr E)} (h : GoodRunFrom W x (a :: as)) :
    GoodRunFrom W (Solver.step x.1 a) as := by
  intro k b hk hfin
  have := h (k + 1) b (by simpa using hk)
  simp only [List.take_succ_cons, Solver.after_cons] at this
  exact this hfin

theorem done_after_cons (x : SolverState P S V M Pr × Request P S V M Pr E) (hx : x.1.phase = .finished)
    (a : Answer P S V M Pr E) (as : List (Answer P S V M Pr E)) :
    ∃ m, (Solver.after x (a :: as)).2 = .protocolError m := by
  induction as generalizing x a with
  | nil =>
    rw [Solver.after_cons, Solver.after_nil, Solver.step_finished x.1 a hx]
    exact ⟨_, rfl⟩
  | cons b bs ih =>
    rw [Solver.after_cons]
    have : (Solver.step x.1 a).1.phase = .finished := by
      rw [Solver.step_finished x.1 a hx]; exact hx
    exact ih _ this b

section
variable {W : World P S V M} {root : P} {rv : V} (fw : FiniteWorld W root rv)

theorem rinvM_start (debug : Bool) (fuel : Nat) (hf : 3 * Cmax fw + 3 ≤ fuel) :
    RInvM fw (Solver.start (Pr := Pr) (E := E) (M := M) debug fuel root rv)
      (Kc2 fw * Cmax fw + fw.pkgs.length + 6) := by
  have hrb : rank fw (PartialSolution.empty : PartialSolution P S V Pr) ≤ Cmax fw :=
    Nat.le_of_succ_le (rank_bound fw _)
  refine rinvM_live fw ⟨fun kv hkv => absurd hkv List.not_mem_nil, fun inc hinc => ?_⟩
    (fun p pa hm => absurd hm List.not_mem_nil) ?_ hf rfl trivial (Or.inr ?_)
  · obtain rfl := List.mem_singleton.1 hinc
    exact oki_notRoot fw
  · exact (Nat.zero_add _).symm ▸ hrb
  · exact Nat.add_le_add_right (Nat.add_le_add_right (kc2_mono fw hrb) _) _

/-- a run that starts with a budget of `n` answers has returned after `n` good answers, and never
by running out of fuel -/
theorem run_rinvM (hW : W.SetsValid) (debug : Bool) (fuel : Nat) :
    ∀ (as : List (Answer P S V M Pr E)) (x : SolverState P S V M Pr × Request P S V M Pr E) (n : Nat),
    Reachable W debug fuel root rv x → RInvM fw x n → GoodRunFrom W x as →
    (Solver.after x as).2 ≠ .fault .outOfFuel ∧ (n ≤ as.length → (Solver.after x as).2.isFinal = true) := by
  intro as
  induction as with
  | nil =>
    intro x n hreach h _
    rw [Solver.after_nil]
    refine ⟨h.nofuel, fun hn => ?_⟩
    obtain rfl : n = 0 := Nat.le_zero.1 hn
    exact h.budget.final fw (reachable_coherent W debug fuel root rv x hreach)
  | cons a as ih =>
    intro x n hreach h hgood
    obtain ⟨s, req⟩ := x
    cases hfin : req.isFinal with
    | true =>
      have hco := reachable_coherent W debug fuel root rv _ hreach
      have hph : s.phase = .finished := Solver.coherent_final hco hfin
      obtain ⟨m, hm⟩ := done_after_cons (s, req) hph a as
      rw [hm]
      exact ⟨(by intro e; cases e), fun _ => rfl⟩
    | false =>
      obtain ⟨hok, _⟩ := hgood.head hfin
      have hreach' : Reachable W debug fuel root rv (Solver.step s a) := Reachable.step hreach hok
      rw [Solver.after_cons]
      cases n with
      | zero =>
        have := h.budget.final fw (reachable_coherent W debug fuel root rv _ hreach)
        rw [hfin] at this
        cases this
      | succ m =>
        have hstep := rinvM_step fw CanonicalEmpty.canonEmpty hW s req a m
          (reachable_rinv W hW debug fuel root rv _ hreach)
          (reachable_rinv' W hW debug fuel root rv _ hreach)
          (reachable_rinvT W hW debug fuel root rv _ hreach)
          (reachable_rinvN W hW debug fuel root rv _ hreach) h hok
        obtain ⟨h1, h2⟩ := ih (Solver.step s a) m hreach' hstep hgood.tail
        exact ⟨h1, fun hn => h2 (Nat.le_of_succ_le_succ hn)⟩

end

theorem run_reachableWB (W : World P S V M) (debug : Bool) (fuel : Nat) (root : P) (rv : V) :
    ∀ (as : List (Answer P S V M Pr E)) (x : SolverState P S V M Pr × Request P S V M Pr E),
    ReachableWB W debug fuel root rv x → GoodRunFrom W x as →
    ReachableWB W debug fuel root rv (Solver.after x as) ∨ ∃ m, (Solver.after x as).2 = .protocolError m := by
  intro as
  induction as with
  | nil => intro x hx _; rw [Solver.after_nil]; exact Or.inl hx
  | cons a as ih =>
    intro x hx hgood
    obtain ⟨s, req⟩ := x
    cases hfin : req.isFinal with
    | true =>
      have hco := reachable_coherent W debug fuel root rv _ (c04_reachable_of_wb W debug fuel root rv _ hx)
      exact Or.inr (done_after_cons (s, req) (Solver.coherent_final hco hfin) a as)
    | false =>
      obtain ⟨hok, hwb⟩ := hgood.head hfin
      rw [Solver.after_cons]
      exact ih _ (ReachableWB.step hx hok hwb) hgood.tail

/-- C05 (termination): there are bounds `N` (provider calls) and `fuel0` (internal loop iterations) such
that every well-behaved run of at least `N` answers with fuel at least `fuel0` has returned, and not by
running out of fuel -/
theorem resolve_terminates (W : World P S V M) (hW : W.SetsValid) (root : P) (rv : V)
    (fw : FiniteWorld W root rv) (debug : Bool) :
    ∃ N fuel0 : Nat, ∀ fuel, fuel0 ≤ fuel → ∀ as : List (Answer P S V M Pr E), N ≤ as.length →
      WellBehavedRun W debug fuel root rv as →
      (Solver.after (Solver.start debug fuel root rv) as).2.isFinal = true ∧
      (Solver.after (Solver.start debug fuel root rv) as).2 ≠ .fault .outOfFuel := by
  refine ⟨Kc2 fw * Cmax fw + fw.pkgs.length + 6, 3 * Cmax fw + 3, ?_⟩
  intro fuel hfuel as hlen hrun
  obtain ⟨h1, h2⟩ := run_rinvM fw hW debug fuel as _ _ Reachable.start (rinvM_start fw debug fuel hfuel)
    (goodRunFrom_of_wellBehavedRun hrun)
  exact ⟨h2 hlen, h1⟩

/-- with the outcome theorem of NoPanic: a long enough well-behaved run has returned `Ok` or
`NoSolution` (or the model's `protocolError` for an ill-typed answer, which a Rust provider cannot
give) -/
theorem resolve_total (W : World P S V M) (hW : W.SetsValid) (root : P) (rv : V)
    (fw : FiniteWorld W root rv) (debug : Bool) :
    ∃ N fuel0 : Nat, ∀ fuel, fuel0 ≤ fuel → ∀ as : List (Answer P S V M Pr E), N ≤ as.length →
      WellBehavedRun W debug fuel root rv as →
      (∃ sel, (Solver.after (Solver.start debug fuel root rv) as).2 = .solution sel) ∨
      (∃ t, (Solver.after (Solver.start debug fuel root rv) as).2 = .noSolution t) ∨
      (∃ m, (Solver.after (Solver.start debug fuel root rv) as).2 = .protocolError m) := by
  obtain ⟨N, fuel0, h⟩ := resolve_terminates (Pr := Pr) (E := E) W hW root rv fw debug
  refine ⟨N, fuel0, ?_⟩
  intro fuel hfuel as hlen hrun
  obtain ⟨hfin, hnf⟩ := h fuel hfuel as hlen hrun
  rcases run_reachableWB W debug fuel root rv as _ ReachableWB.start (goodRunFrom_of_wellBehavedRun hrun) with
    hr | hm
  · generalize hx : Solver.after (Solver.start debug fuel root rv) as = x at hr hfin hnf
    obtain ⟨s, req⟩ := x
    rcases wellBehaved_outcomes W hW debug fuel root rv s req hr hfin with h1 | h1 | h1 | h1
    · exact Or.inl h1
    · exact Or.inr (Or.inl h1)
    · exact absurd h1 hnf
    · exact Or.inr (Or.inr h1)
  · exact Or.inr (Or.inr hm)

/-! ### non-vacuity: the bit set over `Fin n`

All versions are test versions, so every world over the bit set with a finite, dependency-closed
package list is a `FiniteWorld`. -/

namespace BitSet
attribute [local instance] instVersionSetBitSetFin lawful

def finiteWorld {P M : Type} [DecidableEq P] {n : Nat} (W : World P (BitSet n) (Fin n) M) (root : P)
    (rv : Fin n) (pkgs : List P) (hroot : root ∈ pkgs)
    (hdeps : ∀ p v ds, v ∈ W.versions p → W.deps p v = .available ds → ∀ d ∈ ds, d.1 ∈ pkgs) :
    FiniteWorld W root rv where
  pkgs := pkgs
  root_mem := hroot
  deps_mem := hdeps
  tests := fun _ => List.finRange n
  separated := fun _ _ _ _ _ h v => h v (List.mem_finRange v)

/-- a concrete registry: two packages, versions `0 … 2`; version `v` of package `0` depends on package
`1` in the versions `≠ v`, package `1` has no dependencies -/
def exampleWorld : World (Fin 2) (BitSet 3) (Fin 3) Unit where
  versions := fun _ => [0, 1, 2]
  deps := fun p v =>
    if p = 0 then .available [((1 : Fin 2), BitSet.complement (BitSet.singleton v.val))] else .available []

theorem exampleWorld_setsValid : exampleWorld.SetsValid := by
  intro p v ds hd d hdm
  unfold exampleWorld at hd
  simp only at hd
  split at hd
  · injection hd with hd; subst hd
    rw [List.mem_singleton] at hdm; subst hdm
    exact valid_complement _ (valid_singleton _)
  · injection hd with hd; subst hd; cases hdm

def exampleFiniteWorld : FiniteWorld exampleWorld (0 : Fin 2) (0 : Fin 3) :=
  finiteWorld exampleWorld 0 0 [0, 1] (by simp) (by
    intro p v ds _ _ d _
    have : ∀ q : Fin 2, q ∈ ([0, 1] : List (Fin 2)) := by decide
    exact this _)

theorem example_terminates (debug : Bool) :
    ∃ N fuel0 : Nat, ∀ fuel, fuel0 ≤ fuel → ∀ as : List (Answer (Fin 2) (BitSet 3) (Fin 3) Unit Nat Unit),
      N ≤ as.length → WellBehavedRun exampleWorld debug fuel (0 : Fin 2) (0 : Fin 3) as →
      (Solver.after (Solver.start debug fuel (0 : Fin 2) (0 : Fin 3)) as).2.isFinal = true ∧
      (Solver.after (Solver.start debug fuel (0 : Fin 2) (0 : Fin 3)) as).2 ≠ .fault .outOfFuel :=
  haveI := BitSet.canonicalEmpty 3
  resolve_terminates exampleWorld exampleWorld_setsValid 0 0 exampleFiniteWorld debug

end BitSet

end Pubgrub
