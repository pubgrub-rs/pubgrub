/-
The exact models of the crate's two private containers (PubgrubModel/Containers.lean: `SmallVecX` =
`SmallVec<T>`, the storage of a `Range`'s segments; `SmallMapX` = `SmallMap<K, V>`, the storage of an
incompatibility's terms; variants `Empty | One | Two | Flexible`) refine the abstractions the rest of the
model works with: `Range V` is the list `SmallVecX.toList`, `SmallMap K T` (PubgrubModel/SmallMap.lean,
an association list) is `SmallMapX.toAssoc`.  Every operation commutes with the abstraction; `==` and
`Hash` of a `SmallVec` depend on `toList` only (C16: equal ranges hash equally, whatever the history of
pushes and pops that built them); the result of `merge` as a map does not depend on the order in which
the second map is enumerated (it is a hash map).
-/
import PubgrubModel.Containers
import PubgrubProofs.Defs
import PubgrubProofs.AssocListLaws

namespace Pubgrub

namespace SmallVecX
variable {T : Type}

theorem toList_push (s : SmallVecX T) (x : T) : (s.push x).toList = s.toList ++ [x] := by
  cases s <;> simp [push, toList]

theorem pop_spec (s : SmallVecX T) :
    s.pop.1 = s.toList.getLast? ∧ s.pop.2.toList = s.toList.dropLast := by
  cases s <;> simp [pop, toList]

theorem toList_clear (s : SmallVecX T) : s.clear.toList = [] := by
  cases s <;> simp [clear, toList]

/-- operations of a script -/
inductive Op (T : Type) where
  | push (x : T) | pop | clear

def run : SmallVecX T → List (Op T) → SmallVecX T
  | s, [] => s
  | s, .push x :: ops => run (s.push x) ops
  | s, .pop :: ops => run s.pop.2 ops
  | s, .clear :: ops => run s.clear ops

def runList : List T → List (Op T) → List T
  | l, [] => l
  | l, .push x :: ops => runList (l ++ [x]) ops
  | l, .pop :: ops => runList l.dropLast ops
  | _, .clear :: ops => runList [] ops

theorem toList_run (s : SmallVecX T) (ops : List (Op T)) :
    (run s ops).toList = runList s.toList ops := by
  induction ops generalizing s with
  | nil => simp [run, runList]
  | cons op ops ih =>
    cases op with
    | push x => simp [run, runList, ih, toList_push]
    | pop => simp [run, runList, ih, (pop_spec s).2]
    | clear => simp [run, runList, ih, toList_clear]

theorem beq_iff [DecidableEq T] (a b : SmallVecX T) : a.beq b = true ↔ a.toList = b.toList := by
  simp [beq]

/-- C16: equal vectors feed the hasher identically, whatever their variants / histories -/
theorem hashFeed_eq_of_beq [DecidableEq T] (a b : SmallVecX T) (h : a.beq b = true) :
    a.hashFeed = b.hashFeed := by
  have h' := (beq_iff a b).mp h
  simp [hashFeed, len, h']

theorem hashFeed_run_eq (ops1 ops2 : List (Op T))
    (h : runList [] ops1 = runList [] ops2) :
    (run (.empty : SmallVecX T) ops1).hashFeed = (run .empty ops2).hashFeed := by
  have h1 : (run (.empty : SmallVecX T) ops1).toList = runList [] ops1 := toList_run _ _
  have h2 : (run (.empty : SmallVecX T) ops2).toList = runList [] ops2 := toList_run _ _
  simp [hashFeed, len, h1, h2, h]

end SmallVecX

namespace SmallMapX
variable {K V : Type} [DecidableEq K]

theorem get_eq (m : SmallMapX K V) (key : K) : m.get key = SmallMap.get m.toAssoc key := by
  cases m with
  | empty => simp [get, toAssoc, SmallMap.get]
  | one k v => simp [get, toAssoc, SmallMap.get, eq_comm]
  | two k1 v1 k2 v2 => simp [get, toAssoc, SmallMap.get]
  | flexible d => simp [get, toAssoc]

theorem toAssoc_insert (m : SmallMapX K V) (key : K) (value : V) :
    (m.insert key value).toAssoc = SmallMap.insert m.toAssoc key value := by
  cases m with
  | empty => simp [insert, toAssoc, SmallMap.insert]
  | one k v =>
    by_cases h : key = k <;> simp [insert, toAssoc, SmallMap.insert, h]
  | two k1 v1 k2 v2 =>
    by_cases h1 : key = k1
    · subst h1
      simp [insert, toAssoc, SmallMap.insert]
    · by_cases h2 : key = k2
      · subst h2
        simp [insert, toAssoc, SmallMap.insert, h1]
      · simp [insert, toAssoc, SmallMap.insert, h1, h2]
  | flexible d => simp [insert, toAssoc]

theorem remove_spec (m : SmallMapX K V) (key : K) :
    (m.remove key).1 = SmallMap.get m.toAssoc key ∧
      (m.remove key).2.toAssoc = SmallMap.remove m.toAssoc key := by
  cases m with
  | empty => simp [remove, toAssoc, SmallMap.get, SmallMap.remove]
  | one k v =>
    by_cases h : key = k <;> simp [remove, toAssoc, SmallMap.get, SmallMap.remove, h]
  | two k1 v1 k2 v2 =>
    by_cases h1 : key = k1
    · subst h1
      simp [remove, toAssoc, SmallMap.get, SmallMap.remove]
    · by_cases h2 : key = k2
      · subst h2
        simp [remove, toAssoc, SmallMap.get, SmallMap.remove, h1]
      · simp [remove, toAssoc, SmallMap.get, SmallMap.remove, h1, h2]
  | flexible d => simp [remove, toAssoc]

theorem splitOne_spec (m : SmallMapX K V) (key : K) :
    (m.splitOne key).map (fun x => (x.1, x.2.toAssoc)) = SmallMap.splitOne m.toAssoc key := by
  cases m with
  | empty => simp [splitOne, toAssoc, SmallMap.splitOne, SmallMap.get]
  | one k v =>
    by_cases h : key = k
    · subst h
      simp [splitOne, toAssoc, SmallMap.splitOne, SmallMap.get, SmallMap.remove]
    · have h' : ¬ k = key := fun e => h e.symm
      simp [splitOne, toAssoc, SmallMap.splitOne, SmallMap.get, h, h']
  | two k1 v1 k2 v2 =>
    by_cases h1 : key = k1
    · subst h1
      simp [splitOne, toAssoc, SmallMap.splitOne, SmallMap.get, SmallMap.remove]
    · have h1' : ¬ k1 = key := fun e => h1 e.symm
      by_cases h2 : key = k2
      · subst h2
        simp [splitOne, toAssoc, SmallMap.splitOne, SmallMap.get, SmallMap.remove, h1, h1']
      · have h2' : ¬ k2 = key := fun e => h2 e.symm
        simp [splitOne, toAssoc, SmallMap.splitOne, SmallMap.get, h1, h1', h2, h2']
  | flexible d =>
    simp only [splitOne, toAssoc, SmallMap.splitOne]
    cases SmallMap.get d key <;> simp

theorem mergeStep_none (f : V → V → Option V) (m : SmallMapX K V) (kv : K × V)
    (h : m.get kv.1 = none) : mergeStep f m kv = m.insert kv.1 kv.2 := by
  simp [mergeStep, h]

theorem mergeStep_some_none (f : V → V → Option V) (m : SmallMapX K V) (kv : K × V) (v1 : V)
    (h : m.get kv.1 = some v1) (hf : f v1 kv.2 = none) : mergeStep f m kv = (m.remove kv.1).2 := by
  simp [mergeStep, h, hf]

theorem mergeStep_some_some (f : V → V → Option V) (m : SmallMapX K V) (kv : K × V) (v1 w : V)
    (h : m.get kv.1 = some v1) (hf : f v1 kv.2 = some w) : mergeStep f m kv = m.insert kv.1 w := by
  simp [mergeStep, h, hf]

theorem toAssoc_mergeStep (f : V → V → Option V) (m : SmallMapX K V) (kv : K × V) :
    (mergeStep f m kv).toAssoc =
      (match SmallMap.get m.toAssoc kv.1 with
      | none => SmallMap.insert m.toAssoc kv.1 kv.2
      | some v1 =>
        match f v1 kv.2 with
        | none => SmallMap.remove m.toAssoc kv.1
        | some merged => SmallMap.insert m.toAssoc kv.1 merged) := by
  cases hm : m.get kv.1 with
  | none =>
    rw [mergeStep_none f m kv hm, ← get_eq, hm, toAssoc_insert]
  | some v1 =>
    cases hf : f v1 kv.2 with
    | none =>
      rw [mergeStep_some_none f m kv v1 hm hf, ← get_eq, hm, (remove_spec m kv.1).2]
      simp [hf]
    | some merged =>
      rw [mergeStep_some_some f m kv v1 merged hm hf, ← get_eq, hm, toAssoc_insert]
      simp [hf]

theorem toAssoc_merge (m : SmallMapX K V) (m2 : List (K × V)) (f : V → V → Option V) :
    (m.merge m2 f).toAssoc = SmallMap.merge m.toAssoc m2 f := by
  induction m2 generalizing m with
  | nil => simp [merge, SmallMap.merge]
  | cons kv m2 ih =>
    have ih' := ih (mergeStep f m kv)
    simp only [merge, SmallMap.merge, List.foldl_cons] at ih' ⊢
    rw [ih', toAssoc_mergeStep]
    rfl

omit [DecidableEq K] in
theorem len_eq (m : SmallMapX K V) : m.len = m.toAssoc.length := by
  cases m <;> simp [len, toAssoc]

/-- keys are distinct -/
def WF (m : SmallMapX K V) : Prop := (m.toAssoc.map Prod.fst).Nodup

omit [DecidableEq K] in
theorem wf_empty : (SmallMapX.empty : SmallMapX K V).WF := by
  simp [WF, toAssoc]

theorem wf_insert (m : SmallMapX K V) (h : m.WF) (key : K) (value : V) : (m.insert key value).WF := by
  unfold WF at *
  rw [toAssoc_insert]
  exact AssocList.nodup_keys_insert _ key value h

theorem wf_remove (m : SmallMapX K V) (h : m.WF) (key : K) : (m.remove key).2.WF := by
  unfold WF at *
  rw [(remove_spec m key).2]
  exact AssocList.nodup_keys_remove _ h key

theorem wf_mergeStep (f : V → V → Option V) (m : SmallMapX K V) (h : m.WF) (kv : K × V) :
    (mergeStep f m kv).WF := by
  cases hm : m.get kv.1 with
  | none => rw [mergeStep_none f m kv hm]; exact wf_insert m h _ _
  | some v1 =>
    cases hf : f v1 kv.2 with
    | none => rw [mergeStep_some_none f m kv v1 hm hf]; exact wf_remove m h _
    | some merged => rw [mergeStep_some_some f m kv v1 merged hm hf]; exact wf_insert m h _ _

theorem wf_merge (m : SmallMapX K V) (h : m.WF) (m2 : List (K × V)) (f : V → V → Option V) :
    (m.merge m2 f).WF := by
  induction m2 generalizing m with
  | nil => simpa [merge] using h
  | cons kv m2 ih =>
    have ih' := ih (mergeStep f m kv) (wf_mergeStep f m h kv)
    simpa only [merge, List.foldl_cons] using ih'

theorem get_insert (m : SmallMapX K V) (key k : K) (value : V) :
    (m.insert key value).get k = if k = key then some value else m.get k := by
  rw [get_eq, toAssoc_insert, SmallMap.get_insert, get_eq]

theorem get_remove (m : SmallMapX K V) (h : m.WF) (key k : K) :
    (m.remove key).2.get k = if k = key then none else m.get k := by
  rw [get_eq, (remove_spec m key).2, AssocList.get_remove _ h, get_eq]

theorem get_mergeStep_self (f : V → V → Option V) (m : SmallMapX K V) (h : m.WF) (k : K) (v : V) :
    (mergeStep f m (k, v)).get k =
      match m.get k with
      | none => some v
      | some a => f a v := by
  cases hm : m.get k with
  | none => rw [mergeStep_none f m (k, v) hm]; simp [get_insert]
  | some a =>
    cases hf : f a v with
    | none => rw [mergeStep_some_none f m (k, v) a hm hf]; simp [get_remove m h, hf]
    | some merged => rw [mergeStep_some_some f m (k, v) a merged hm hf]; simp [get_insert, hf]

theorem get_mergeStep_ne (f : V → V → Option V) (m : SmallMapX K V) (h : m.WF) (k' : K) (v : V)
    (k : K) (hk : ¬ k = k') :
    (mergeStep f m (k', v)).get k = m.get k := by
  cases hm : m.get k' with
  | none => rw [mergeStep_none f m (k', v) hm]; simp [get_insert, hk]
  | some a =>
    cases hf : f a v with
    | none => rw [mergeStep_some_none f m (k', v) a hm hf]; simp [get_remove m h, hk]
    | some merged => rw [mergeStep_some_some f m (k', v) a merged hm hf]; simp [get_insert, hk]

/-- `merge` as a map: pointwise combination (keys of the second map distinct, as a map's iterator
provides them) -/
theorem get_merge (m : SmallMapX K V) (h : m.WF) (m2 : List (K × V)) (h2 : (m2.map Prod.fst).Nodup)
    (f : V → V → Option V) (k : K) :
    (m.merge m2 f).get k =
      match m.get k, SmallMap.get m2 k with
      | some a, some b => f a b
      | some a, none => some a
      | none, some b => some b
      | none, none => none := by
  induction m2 generalizing m with
  | nil =>
    simp only [merge, List.foldl_nil, SmallMap.get]
    cases m.get k <;> rfl
  | cons kv m2 ih =>
    obtain ⟨k', v'⟩ := kv
    simp only [List.map_cons, List.nodup_cons] at h2
    have ih' := ih (mergeStep f m (k', v')) (wf_mergeStep f m h (k', v')) h2.2
    simp only [merge, List.foldl_cons] at ih' ⊢
    rw [ih']
    by_cases hk : k = k'
    · subst hk
      rw [AssocList.get_none_of_not_mem m2 k h2.1]
      simp only [SmallMap.get, if_true]
      rw [get_mergeStep_self f m h k v']
      cases hm : m.get k with
      | none => simp
      | some a => cases hf : f a v' <;> simp [hf]
    · rw [get_mergeStep_ne f m h k' v' k hk]
      simp only [SmallMap.get, hk, if_false]

theorem get_merge_perm (m : SmallMapX K V) (h : m.WF) (m2 m2' : List (K × V))
    (hp : m2.Perm m2') (h2 : (m2.map Prod.fst).Nodup) (f : V → V → Option V) (k : K) :
    (m.merge m2 f).get k = (m.merge m2' f).get k := by
  have h2' : (m2'.map Prod.fst).Nodup := (hp.map Prod.fst).nodup_iff.mp h2
  rw [get_merge m h m2 h2, get_merge m h m2' h2', AssocList.get_perm m2 m2' hp h2 k]

end SmallMapX
end Pubgrub

