/-
The test points of `Dense V = V ×ₗ ℚ` for a
finite list `L` of values of `V` — `(b, -1), (b, 0), (b, 1)` for `b ∈ L` — realise every comparison
profile with `ι '' L`; the generated sets of the image registry have their bound values in
`ι '' boundsOf p`.
-/
import PubgrubProofs.RangeBounds
import PubgrubProofs.HomSolutions
import PubgrubProofs.TermDefs

set_option linter.unusedSectionVars false

namespace Pubgrub
open VersionSet

namespace Dense
variable {V : Type} [LinearOrder V]

/-- the point `(x, q)` of the dense order -/
def mk (x : V) (q : ℚ) : Dense V := toLex (x, q)

theorem exists_mk (d : Dense V) : ∃ x q, d = mk x q :=
  ⟨(ofLex (show V ×ₗ ℚ from d)).1, (ofLex (show V ×ₗ ℚ from d)).2, rfl⟩

theorem mk_lt_ι (x b : V) (q : ℚ) : mk x q < ι b ↔ x < b ∨ (x = b ∧ q < 0) :=
  Prod.Lex.toLex_lt_toLex (α := V) (β := ℚ)

theorem mk_eq_ι (x b : V) (q : ℚ) : mk x q = ι b ↔ x = b ∧ q = 0 := by
  unfold mk ι
  constructor
  · intro h
    have := congrArg (fun z : V ×ₗ ℚ => ofLex z) h
    simpa using this
  · rintro ⟨rfl, rfl⟩; rfl

/-- the test points for a list of values -/
def testsOf (L : List V) : List (Dense V) :=
  L.flatMap fun b => [mk b (-1), mk b 0, mk b 1]

theorem mem_testsOf (L : List V) (b : V) (hb : b ∈ L) :
    mk b (-1) ∈ testsOf L ∧ mk b 0 ∈ testsOf L ∧ mk b 1 ∈ testsOf L := by
  refine ⟨?_, ?_, ?_⟩ <;> exact List.mem_flatMap.2 ⟨b, hb, by simp⟩

theorem exists_max (L : List V) (hL : L ≠ []) : ∃ m ∈ L, ∀ b ∈ L, b ≤ m := by
  induction L with
  | nil => exact absurd rfl hL
  | cons a t ih =>
    by_cases ht : t = []
    · subst ht
      exact ⟨a, List.mem_cons_self, fun b hb => (List.mem_singleton.1 hb).le⟩
    · obtain ⟨m, hm, hmax⟩ := ih ht
      refine ⟨max a m, ?_, fun b hb => ?_⟩
      · rcases max_choice a m with h | h <;> rw [h]
        · exact List.mem_cons_self
        · exact List.mem_cons_of_mem _ hm
      · rcases List.mem_cons.1 hb with rfl | hb
        · exact le_max_left _ _
        · exact (hmax b hb).trans (le_max_right _ _)

theorem exists_min (L : List V) (hL : L ≠ []) : ∃ m ∈ L, ∀ b ∈ L, m ≤ b :=
  exists_max (V := Vᵒᵈ) L hL

theorem sameProfile_mk {L : List V} {x y : V} {q r : ℚ}
    (h : ∀ b ∈ L, ((x < b ∨ x = b ∧ q < 0) ↔ (y < b ∨ y = b ∧ r < 0)) ∧
      ((x = b ∧ q = 0) ↔ (y = b ∧ r = 0))) :
    Range.SameProfile (fun d' => ∃ b ∈ L, d' = ι b) (mk x q) (mk y r) := by
  rintro _ ⟨b, hb, rfl⟩
  rw [mk_lt_ι, mk_lt_ι, mk_eq_ι, mk_eq_ι]
  exact h b hb

theorem exists_test (L : List V) (hL : L ≠ []) (d : Dense V) :
    ∃ t ∈ testsOf L, Range.SameProfile (fun d' => ∃ b ∈ L, d' = ι b) d t := by
  obtain ⟨x, q, rfl⟩ := exists_mk d
  have hneg : (-1 : ℚ) < 0 := neg_lt_zero.2 one_pos
  have hpos : ¬ (1 : ℚ) < 0 := not_lt.2 zero_le_one
  by_cases hx : x ∈ L
  · -- same first component, the sign of `q`
    obtain ⟨h1, h2, h3⟩ := mem_testsOf L x hx
    rcases lt_trichotomy q 0 with hq | hq | hq
    · exact ⟨_, h1, sameProfile_mk fun b _ =>
        ⟨or_congr_right (and_congr_right' (iff_of_true hq hneg)),
          and_congr_right' (iff_of_false hq.ne hneg.ne)⟩⟩
    · subst hq
      exact ⟨_, h2, fun _ _ => ⟨Iff.rfl, Iff.rfl⟩⟩
    · exact ⟨_, h3, sameProfile_mk fun b _ =>
        ⟨or_congr_right (and_congr_right' (iff_of_false hq.not_gt hpos)),
          and_congr_right' (iff_of_false hq.ne' one_ne_zero)⟩⟩
  · have hne : ∀ b ∈ L, x ≠ b := fun b hb h => hx (h ▸ hb)
    by_cases hlow : L.filter (fun b => decide (b < x)) = []
    · -- `x` is below every bound: the smallest bound, `-1`
      obtain ⟨m, hm, hmin⟩ := exists_min L hL
      refine ⟨_, (mem_testsOf L m hm).1, sameProfile_mk fun b hb => ?_⟩
      have hnb : ¬ b < x := fun hbx =>
        List.not_mem_nil (hlow ▸ List.mem_filter.2 ⟨hb, decide_eq_true hbx⟩)
      have hxb : x < b := lt_of_le_of_ne (not_lt.1 hnb) (hne b hb)
      exact ⟨iff_of_true (Or.inl hxb) ((hmin b hb).lt_or_eq.imp_right fun h => ⟨h, hneg⟩),
        iff_of_false (fun h => hne b hb h.1) fun h => hneg.ne h.2⟩
    · -- the largest bound below `x`, `+1`
      obtain ⟨m, hm, hmax⟩ := exists_max _ hlow
      obtain ⟨hmL, hmx⟩ := List.mem_filter.1 hm
      have hmx : m < x := of_decide_eq_true hmx
      refine ⟨_, (mem_testsOf L m hmL).2.2, sameProfile_mk fun b hb => ⟨⟨?_, ?_⟩, ?_⟩⟩
      · rintro (h | ⟨h, _⟩)
        · exact Or.inl (hmx.trans h)
        · exact absurd h (hne b hb)
      · rintro (h | ⟨_, h⟩)
        · by_contra hnx
          have hbx : b < x := lt_of_le_of_ne (not_lt.1 fun hxb => hnx (Or.inl hxb)) (hne b hb).symm
          exact absurd h (not_lt.2 (hmax b (List.mem_filter.2 ⟨hb, decide_eq_true hbx⟩)))
        · exact absurd h hpos
      · exact iff_of_false (fun h => hne b hb h.1) fun h => one_ne_zero h.2

end Dense

section Registry
variable {P V M : Type} [DecidableEq P] [LinearOrder V]

/-- the bound values of the dependency sets on `p` declared by offered versions of packages of `pkgs` -/
def depBounds (W : World P (Range V) V M) (pkgs : List P) (p : P) : List V :=
  pkgs.flatMap fun q => (W.versions q).flatMap fun v =>
    match W.deps q v with
    | .available ds => ds.flatMap fun d => if d.1 = p then Range.boundVals d.2 else []
    | .unavailable _ => []

theorem mem_depBounds (W : World P (Range V) V M) (pkgs : List P) (p q : P) (v : V)
    (ds : List (P × Range V)) (s : Range V) (x : V) (hq : q ∈ pkgs) (hv : v ∈ W.versions q)
    (hds : W.deps q v = .available ds) (hs : (p, s) ∈ ds) (hx : x ∈ Range.boundVals s) :
    x ∈ depBounds W pkgs p := by
  refine List.mem_flatMap.2 ⟨q, hq, List.mem_flatMap.2 ⟨v, hv, ?_⟩⟩
  rw [hds]
  exact List.mem_flatMap.2 ⟨(p, s), hs, by simpa using hx⟩

/-- all values that can occur as bounds of a set generated for `p` -/
def boundsOf (W : World P (Range V) V M) (pkgs : List P) (rv : V) (p : P) : List V :=
  rv :: (W.versions p ++ depBounds W pkgs p)

theorem boundsOf_ne_nil (W : World P (Range V) V M) (pkgs : List P) (rv : V) (p : P) :
    boundsOf W pkgs rv p ≠ [] := by simp [boundsOf]

theorem generated_boundsIn (W : World P (Range V) V M) (root : P) (rv : V) (pkgs : List P) (p : P)
    (s : Range (Dense V))
    (hg : GeneratedSet (World.mapH Range.denseHom Dense.back W) root (Range.denseHom.ι rv) pkgs p s) :
    Range.BoundsIn (fun d' => ∃ b ∈ boundsOf W pkgs rv p, d' = Dense.ι b) s := by
  induction hg with
  | dep q v' ds' s' hq hv' hds' hs' =>
    simp only [World.mapH, List.mem_map] at hv'
    obtain ⟨v, hv, rfl⟩ := hv'
    rw [World.mapH_deps Range.denseHom Dense.back Dense.back_ι] at hds'
    obtain ⟨ds, hds, rfl⟩ := DepsAnswer.mapH_available _ _ _ hds'
    obtain ⟨s, hs, rfl⟩ := (mem_depsMapH _ ds p s').1 hs'
    apply Range.boundsIn_mapR
    intro x hx
    refine ⟨x, ?_, rfl⟩
    exact List.mem_cons_of_mem _
      (List.mem_append_right _ (mem_depBounds W pkgs p q v ds s x hq hv hds hs hx))
  | version v' hv' =>
    simp only [World.mapH, List.mem_map] at hv'
    obtain ⟨v, hv, rfl⟩ := hv'
    apply Range.boundsIn_singleton
    exact ⟨v, List.mem_cons_of_mem _ (List.mem_append_left _ hv), rfl⟩
  | rootVersion _ =>
    apply Range.boundsIn_singleton
    exact ⟨rv, List.mem_cons_self, rfl⟩
  | empty => exact Range.boundsIn_empty _
  | full => exact Range.boundsIn_full _
  | complement a _ ih => exact Range.boundsIn_complement _ a ih
  | intersection a b _ _ iha ihb => exact Range.boundsIn_intersection _ a b iha ihb
  | union a b _ _ iha ihb => exact Range.boundsIn_union _ a b iha ihb

theorem generated_separated (W : World P (Range V) V M) (root : P) (rv : V) (pkgs : List P) (p : P)
    (a b : Range (Dense V))
    (ha : GeneratedSet (World.mapH Range.denseHom Dense.back W) root (Range.denseHom.ι rv) pkgs p a)
    (hb : GeneratedSet (World.mapH Range.denseHom Dense.back W) root (Range.denseHom.ι rv) pkgs p b)
    (h : ∀ v ∈ Dense.testsOf (boundsOf W pkgs rv p), contains a v = contains b v) (d : Dense V) :
    contains a d = contains b d := by
  obtain ⟨t, ht, hp⟩ := Dense.exists_test (boundsOf W pkgs rv p) (boundsOf_ne_nil W pkgs rv p) d
  have h1 := Range.contains_profile _ d t hp a (generated_boundsIn W root rv pkgs p a ha)
  have h2 := Range.contains_profile _ d t hp b (generated_boundsIn W root rv pkgs p b hb)
  show Range.contains a d = Range.contains b d
  rw [h1, h2]
  exact h t ht

end Registry
end Pubgrub
