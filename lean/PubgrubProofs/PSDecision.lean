/-
Preservation of I-PS by `addDecision`, by the queue operations and by `addVersion`; `extractSolution`
on a well-formed partial solution.
-/
import PubgrubProofs.PSWellFormed
import PubgrubProofs.AssocListLaws

set_option linter.unusedSectionVars false

namespace Pubgrub
open VersionSet

theorem List.swap_read {α : Type} {l l' : List α} {i j : Nat} (hi : i < l.length) (hj : j < l.length)
    (h : ∀ k, l'[k]? = if k = i then l[j]? else if k = j then l[i]? else l[k]?) :
    l'.length = l.length ∧ (l.Nodup → l'.Nodup) := by
  constructor
  · have hlen : ∀ k, l'.length ≤ k ↔ l.length ≤ k := fun k => by
      rw [← List.getElem?_eq_none_iff, ← List.getElem?_eq_none_iff, h]
      split
      · rename_i e; subst e; simp only [List.getElem?_eq_none_iff]; omega
      · split
        · rename_i e; subst e; simp only [List.getElem?_eq_none_iff]; omega
        · rfl
    exact Nat.le_antisymm ((hlen _).2 (Nat.le_refl _)) ((hlen _).1 (Nat.le_refl _))
  · intro hn
    rw [List.nodup_iff_getElem?_inj'] at hn ⊢
    let σ : Nat → Nat := fun k => if k = i then j else if k = j then i else k
    have hσ : ∀ k, l'[k]? = l[σ k]? := fun k => by
      rw [h]; dsimp only [σ]; split
      · rfl
      · split <;> rfl
    have inv : ∀ k, σ (σ k) = k := fun k => by
      dsimp only [σ]
      by_cases h1 : k = i
      · rw [if_pos h1]
        by_cases h3 : j = i
        · rw [if_pos h3, h3, h1]
        · rw [if_neg h3, if_pos rfl, h1]
      · rw [if_neg h1]
        by_cases h2 : k = j
        · rw [if_pos h2, if_pos rfl, h2]
        · rw [if_neg h2, if_neg h1, if_neg h2]
    intro a b x ha hb
    rw [hσ] at ha hb
    have := congrArg σ (hn _ _ x ha hb)
    rwa [inv, inv] at this

section PS
variable {P S V M Pr : Type} [DecidableEq P] [VersionSet S V] [DecidableEq S]
  [LawfulVersionSet S V]

namespace PartialSolution

/-- the entry after a decision -/
def _root_.Pubgrub.PackageAssignments.decide (pa : PackageAssignments S V) (dl next : Nat) (v : V) :
    PackageAssignments S V :=
  { pa with highest := dl + 1, inter := .decision next v (Term.exact v) }

theorem addDecision_spec {ps ps' : PartialSolution P S V Pr} {debug : Bool} {p : P} {v : V}
    (h : ps.WF) (hr : addDecision debug ps p v = .ok ps')
    {t : Term S} {pa : PackageAssignments S V} (hpa : ps.getPA p = some pa) (ht : pa.inter = .derivations t) :
    ∃ oldIdx, ps.assignments[oldIdx]? = some (p, pa) ∧ ps.currentDecisionLevel ≤ oldIdx ∧
      ps'.currentDecisionLevel = ps.currentDecisionLevel + 1 ∧
      ps'.nextGlobalIndex = ps.nextGlobalIndex + 1 ∧
      ps'.queue = ps.queue ∧ ps'.changed = ps.changed ∧ ps'.hasEverBacktracked = ps.hasEverBacktracked ∧
      ∀ k, ps'.assignments[k]? =
        if k = ps.currentDecisionLevel then
          some (p, pa.decide ps.currentDecisionLevel ps.nextGlobalIndex v)
        else if k = oldIdx then ps.assignments[ps.currentDecisionLevel]?
        else ps.assignments[k]? := by
  replace hr := addDecision_core hr
  unfold addDecisionCore at hr
  simp only [bind, Except.bind, pure, Except.pure] at hr
  split at hr
  · cases hr
  rename_i oldIdx hold
  split at hr
  · cases hr
  rename_i pa0 hpa0
  have := unwrapOr_ok hpa0
  rw [hpa] at this; injection this with this; subst this
  have hget := getElem_of_indexOf_getPA (unwrapOr_ok hold) hpa
  have hlt := (List.getElem?_eq_some_iff.1 hget).1
  have hge := undecided_ge h hget ht
  refine ⟨oldIdx, hget, hge, ?_⟩
  split at hr
  · rename_i hne
    split at hr
    · cases hr
    rename_i asg hasg
    injection hr with hr; subst hr
    refine ⟨rfl, rfl, rfl, rfl, rfl, ?_⟩
    intro k
    unfold swapIndices at hasg
    split at hasg
    · rename_i a b ha hb
      injection hasg with hasg; subst hasg
      simp only [List.getElem?_set, List.length_set] at ha hb ⊢
      simp only [if_true, hlt] at hb
      rw [if_neg (fun e => hne e.symm)] at ha
      by_cases hk1 : k = ps.currentDecisionLevel
      · subst hk1
        simp only [if_true]
        rw [if_neg (fun e => hne e.symm)]
        simp only [if_true, Nat.lt_of_le_of_lt hge hlt]
        rw [← hb]; rfl
      · rw [if_neg hk1]
        by_cases hk2 : k = oldIdx
        · subst hk2; simp only [if_true, hlt, ha]
        · rw [if_neg hk2, if_neg (fun e => hk2 e.symm), if_neg (fun e => hk1 e.symm),
            if_neg (fun e => hk2 e.symm)]
    · cases hasg
  · rename_i heq
    have heq' : ps.currentDecisionLevel = oldIdx := Decidable.of_not_not heq
    injection hr with hr; subst hr
    refine ⟨rfl, rfl, rfl, rfl, rfl, ?_⟩
    intro k
    simp only [List.getElem?_set]
    by_cases hk1 : k = ps.currentDecisionLevel
    · subst hk1; rw [← heq']; simp only [if_true, heq' ▸ hlt]; rfl
    · rw [if_neg hk1, ← heq', if_neg hk1, if_neg (fun e => hk1 e.symm)]

theorem addDecision_entry {ps ps' : PartialSolution P S V Pr} {debug : Bool} {p : P} {v : V}
    (h : ps.WF) (hr : addDecision debug ps p v = .ok ps')
    {t : Term S} {pa : PackageAssignments S V} (hpa : ps.getPA p = some pa) (ht : pa.inter = .derivations t)
    {k : Nat} {q : P} {qa : PackageAssignments S V} (hkq : ps'.assignments[k]? = some (q, qa)) :
    (k = ps.currentDecisionLevel ∧ q = p ∧ qa = pa.decide ps.currentDecisionLevel ps.nextGlobalIndex v) ∨
    (q ≠ p ∧ ∃ j, ps.assignments[j]? = some (q, qa) ∧
      (k < ps.currentDecisionLevel + 1 → j < ps.currentDecisionLevel ∧ k = j) ∧
      (ps.currentDecisionLevel + 1 ≤ k → ps.currentDecisionLevel ≤ j)) := by
  obtain ⟨oldIdx, hget, hge, _, _, _, _, _, hk⟩ := addDecision_spec h hr hpa ht
  rw [hk] at hkq
  split at hkq
  · rename_i hk1
    injection hkq with hkq; injection hkq with h1 h2
    exact Or.inl ⟨hk1, h1.symm, h2.symm⟩
  rename_i hk1
  have hlt : k < ps.currentDecisionLevel + 1 → k < ps.currentDecisionLevel := fun hh =>
    Nat.lt_of_le_of_ne (Nat.le_of_lt_succ hh) hk1
  split at hkq
  · rename_i hk2; subst hk2
    refine Or.inr ⟨?_, _, hkq, fun hh => absurd (Nat.le_antisymm (Nat.le_of_lt_succ hh) hge) hk1,
      fun _ => Nat.le_refl _⟩
    intro e; subst e
    exact hk1 (SmallMap.index_inj h.keys hget hkq)
  · rename_i hk2
    refine Or.inr ⟨?_, _, hkq, fun hh => ⟨hlt hh, rfl⟩, fun hh => Nat.le_of_succ_le hh⟩
    intro e; subst e
    exact hk2 (SmallMap.index_inj h.keys hkq hget)

theorem _root_.Pubgrub.PackageAssignments.WFAt.reindex {dl n i j : Nat} {qa : PackageAssignments S V}
    (h : qa.WFAt dl n j) (h1 : i < dl + 1 → j < dl ∧ i = j) (h2 : dl + 1 ≤ i → dl ≤ j) :
    qa.WFAt (dl + 1) (n + 1) i := by
  refine ⟨?_, ?_, h.levels, h.indices, fun dd hdd => Nat.lt_succ_of_lt (h.indices_lt dd hdd), h.range⟩
  · intro hi
    obtain ⟨hj, rfl⟩ := h1 hi
    obtain ⟨g, v, e1, e2, e3, e4, e5⟩ := h.decided hj
    exact ⟨g, v, e1, e2, Nat.lt_succ_of_lt e3, e4, e5⟩
  · intro hi
    obtain ⟨t, l, f, e1, e2, e3⟩ := h.undecided (h2 hi)
    exact ⟨t, l, f, e1, Nat.le_succ_of_le e2, e3⟩

theorem addDecision_wf' {ps ps' : PartialSolution P S V Pr} {debug : Bool} {p : P} {v : V}
    (h : ps.WF') (hr : addDecision debug ps p v = .ok ps')
    {t : Term S} {pa : PackageAssignments S V} (hpa : ps.getPA p = some pa) (ht : pa.inter = .derivations t)
    (hv : t.contains v = true) (hq : SmallMap.get ps.queue p = none) : ps'.WF' := by
  have hw := h.wf
  obtain ⟨oldIdx, hget, hge, e1, e2, e3, e4, e5, hk⟩ := addDecision_spec hw hr hpa ht
  have hlt := (List.getElem?_eq_some_iff.1 hget).1
  have hx := h.wfx _ (List.mem_of_getElem? hget)
  have he := hw.entries oldIdx p pa hget
  obtain ⟨hlen, hkeys⟩ := List.swap_read (l := ps.assignments.map Prod.fst) (l' := ps'.assignments.map Prod.fst)
    (i := ps.currentDecisionLevel) (j := oldIdx)
    (by rw [List.length_map]; exact Nat.lt_of_le_of_lt hge hlt) (by rw [List.length_map]; exact hlt) (by
      intro k
      simp only [List.getElem?_map, hk]
      split
      · rw [hget]; rfl
      · split <;> rfl)
  rw [List.length_map, List.length_map] at hlen
  replace hkeys : SmallMap.NoDupKeys ps'.assignments := hkeys hw.keys
  have hold : ∀ (j : Nat) q qa, ps.assignments[j]? = some (q, qa) → q ≠ p → ps'.getPA q = some qa := by
    intro j q qa hj hqp
    have hjo : j ≠ oldIdx := by
      intro e; subst e; rw [hget] at hj; injection hj with hj; injection hj with hj; exact hqp hj.symm
    by_cases hjd : j = ps.currentDecisionLevel
    · subst hjd
      refine SmallMap.get_of_getElem hkeys (i := oldIdx) ?_
      rw [hk, if_neg (fun e => hjo e.symm), if_pos rfl]; exact hj
    · refine SmallMap.get_of_getElem hkeys (i := j) ?_
      rw [hk, if_neg hjd, if_neg hjo]; exact hj
  have hnewx : (pa.decide ps.currentDecisionLevel ps.nextGlobalIndex v).WFX := by
    obtain ⟨t', l, f, h1, h2, _⟩ := he.undecided hge
    exact ⟨hx.head, fun dd hdd => Nat.le_trans (hx.le_highest dd hdd) (Nat.le_succ_of_le h2)⟩
  refine ⟨⟨?_, ?_, hkeys, ?_, ?_, ?_⟩, ?_⟩
  · rw [hlen, e4]; exact hw.changed_le
  · rw [hlen, e1]; exact Nat.lt_of_le_of_lt hge hlt
  · intro k q qa hkq
    rw [e1, e2]
    rcases addDecision_entry hw hr hpa ht hkq with ⟨rfl, rfl, rfl⟩ | ⟨_, j, hj, h1, h2⟩
    · obtain ⟨t', l, f, u1, u2, u3, u4, u5, u6, u7⟩ := he.undecided hge
      rw [ht] at u1; injection u1 with u1; subst u1
      refine ⟨fun _ => ⟨ps.nextGlobalIndex, v, rfl, rfl, Nat.lt_succ_self _, he.indices_lt, ?_⟩,
        fun hh => absurd hh (Nat.not_succ_le_self _), he.levels, he.indices,
        fun dd hdd => Nat.lt_succ_of_lt (he.indices_lt dd hdd), ?_⟩
      · intro dd hdd
        have : pa.dated.getLast? = some dd := hdd
        rw [u3] at this; injection this with this; subst this
        rw [u5]; exact hv
      · exact Nat.le_trans he.range (Nat.le_succ_of_le u2)
    · exact (hw.entries j q qa hj).reindex h1 h2
  · rw [e3]; exact hw.queue_keys
  · intro q pr hqm
    rw [e3] at hqm
    obtain ⟨qa, s, hqa, hs⟩ := hw.queue_sub q pr hqm
    have hqp : q ≠ p := by
      intro e; subst e
      exact (SmallMap.get_eq_none_iff _ _).1 hq pr hqm
    obtain ⟨j, _, hj⟩ := getElem_of_getPA hqa
    exact ⟨qa, s, hold j q qa hj hqp, hs⟩
  · intro kv hkv
    obtain ⟨k, hk'⟩ := List.getElem?_of_mem hkv
    obtain ⟨q, qa⟩ := kv
    rcases addDecision_entry hw hr hpa ht hk' with ⟨rfl, rfl, rfl⟩ | ⟨_, j, hj, _, _⟩
    · exact hnewx
    · exact h.wfx _ (List.mem_of_getElem? hj)

theorem get_foldl_push (prios : List (P × Pr)) (acc : List (P × Pr)) (q : P) :
    (SmallMap.get (prios.foldl (fun q kv => queuePush q kv.1 kv.2) acc) q).isSome = true ↔
      (SmallMap.get acc q).isSome = true ∨ q ∈ prios.map Prod.fst := by
  induction prios generalizing acc with
  | nil => simp
  | cons x rest ih =>
    simp only [List.foldl_cons, List.map_cons, List.mem_cons]
    rw [ih, queuePush, SmallMap.get_insert]
    by_cases hq : q = x.1
    · simp [hq]
    · simp [hq]

theorem afterPrioritize_wf' {ps : PartialSolution P S V Pr} (h : ps.WF') (prios : List (P × Pr))
    (hp : ∀ q ∈ prios.map Prod.fst, ∃ pa s, ps.getPA q = some pa ∧ pa.inter = .derivations (.pos s)) :
    (ps.afterPrioritize prios).WF' := by
  have hw := h.wf
  refine ⟨⟨Nat.le_refl _, hw.level_le, hw.keys, hw.entries, AssocList.nodup_keys_foldl_insert Prod.fst Prod.snd prios _ hw.queue_keys, ?_⟩, h.wfx⟩
  intro q pr hq
  have h1 : SmallMap.get (ps.afterPrioritize prios).queue q = some pr :=
    SmallMap.get_of_mem (AssocList.nodup_keys_foldl_insert Prod.fst Prod.snd prios _ hw.queue_keys) hq
  have h2 : (SmallMap.get (prios.foldl (fun q kv => queuePush q kv.1 kv.2) ps.queue) q).isSome = true := by
    show (SmallMap.get (ps.afterPrioritize prios).queue q).isSome = true
    rw [h1]; rfl
  rcases (get_foldl_push prios ps.queue q).1 h2 with h3 | h3
  · cases h4 : SmallMap.get ps.queue q with
    | none => rw [h4] at h3; cases h3
    | some pr' => exact hw.queue_sub q pr' (SmallMap.mem_of_get h4)
  · exact hp q h3

theorem queueRemove_wf' {ps : PartialSolution P S V Pr} (h : ps.WF') (p : P) :
    ({ ps with queue := SmallMap.remove ps.queue p } : PartialSolution P S V Pr).WF' := by
  have hw := h.wf
  refine ⟨⟨hw.changed_le, hw.level_le, hw.keys, hw.entries, SmallMap.nodup_remove _ hw.queue_keys p, ?_⟩, h.wfx⟩
  intro q pr hq
  exact hw.queue_sub q pr ((SmallMap.mem_remove_iff _ hw.queue_keys p q pr).1 hq).2

theorem addVersion_spec {ps ps' : PartialSolution P S V Pr} {debug : Bool} {p : P} {v : V}
    {news : List (Incompat P S V M)} (hr : addVersion debug ps p v news = .ok ps') :
    addDecision debug ps p v = .ok ps' ∨
      ps' = ps ∧ ps.hasEverBacktracked = true ∧ ∃ i ∈ news, i.relation
        (fun q => if q = p then some (Term.exact v) else ps.termIntersectionForPackage q) = .satisfied := by
  unfold addVersion at hr
  split at hr
  · exact Or.inl hr
  · next hbt =>
    dsimp only at hr
    split at hr
    · exact Or.inl hr
    · next hall =>
      cases hr
      rw [List.all_eq_true, not_forall] at hall
      obtain ⟨i, hall⟩ := hall
      exact Or.inr ⟨rfl, by simpa using hbt, i, Classical.not_imp.1 hall |>.1,
        by simpa using Classical.not_imp.1 hall |>.2⟩

theorem mapM_ok_of_forall {α β : Type} (f : α → R β) :
    ∀ (l : List α), (∀ x ∈ l, ∃ y, f x = .ok y) →
      ∃ sel, l.mapM f = .ok sel ∧ ∀ y, y ∈ sel ↔ ∃ x ∈ l, f x = .ok y := by
  intro l
  induction l with
  | nil => intro _; exact ⟨[], rfl, by simp⟩
  | cons a l ih =>
    intro h
    obtain ⟨y, hy⟩ := h a List.mem_cons_self
    obtain ⟨sel, hsel, hmem⟩ := ih (fun x hx => h x (List.mem_cons_of_mem _ hx))
    refine ⟨y :: sel, ?_, ?_⟩
    · simp only [List.mapM_cons, bind, Except.bind, hy, hsel, pure, Except.pure]
    · intro z
      simp only [List.mem_cons, hmem]
      constructor
      · rintro (rfl | ⟨x, hx, hz⟩)
        · exact ⟨a, Or.inl rfl, hy⟩
        · exact ⟨x, Or.inr hx, hz⟩
      · rintro ⟨x, rfl | hx, hz⟩
        · rw [hy] at hz; injection hz with hz; exact Or.inl hz.symm
        · exact Or.inr ⟨x, hx, hz⟩

theorem extractSolution_ok {ps : PartialSolution P S V Pr} (h : ps.WF) :
    ∃ sel, ps.extractSolution = .ok sel ∧
      ∀ p v, (p, v) ∈ sel ↔ ∃ pa g t, ps.getPA p = some pa ∧ pa.inter = .decision g v t := by
  unfold extractSolution
  have hall : ∀ x ∈ ps.assignments.take ps.currentDecisionLevel, ∃ g v t, x.2.inter = .decision g v t := by
    intro x hx
    obtain ⟨i, hi⟩ := List.getElem?_of_mem hx
    rw [List.getElem?_take] at hi
    split at hi
    · rename_i hlt
      obtain ⟨g, v, h1, _⟩ := (h.entries i x.1 x.2 hi).decided hlt
      exact ⟨g, v, _, h1⟩
    · cases hi
  obtain ⟨sel, hsel, hmem⟩ := mapM_ok_of_forall (fun (x : P × PackageAssignments S V) =>
      match x with
      | (p, pa) =>
        match pa.inter with
        | .decision _ v _ => (pure (p, v) : R (P × V))
        | .derivations _ => throw (.panic "Derivations in the Decision part"))
    (ps.assignments.take ps.currentDecisionLevel) (by
      intro x hx
      obtain ⟨g, v, t, hd⟩ := hall x hx
      obtain ⟨p, pa⟩ := x
      simp only at hd
      simp only [hd]
      exact ⟨_, rfl⟩)
  refine ⟨sel, hsel, ?_⟩
  intro p v
  rw [hmem]
  constructor
  · rintro ⟨⟨q, qa⟩, hx, hf⟩
    obtain ⟨g, v', t, hd⟩ := hall _ hx
    simp only at hd
    simp only [hd, pure, Except.pure] at hf
    injection hf with hf; injection hf with hf1 hf2; subst hf1; subst hf2
    exact ⟨qa, g, t, SmallMap.get_of_mem h.keys (List.mem_of_mem_take hx), hd⟩
  · rintro ⟨pa, g, t, hpa, hd⟩
    obtain ⟨i, _, hi⟩ := getElem_of_getPA hpa
    have hlt := decided_lt h hi hd
    refine ⟨(p, pa), ?_, ?_⟩
    · apply List.mem_of_getElem? (i := i)
      rw [List.getElem?_take, if_pos hlt]; exact hi
    · simp only [hd]; rfl

end PartialSolution
end PS
end Pubgrub
