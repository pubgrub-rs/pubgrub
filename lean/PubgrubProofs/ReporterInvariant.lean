/-
The invariant `RepInv` of the reporter state, the order `Le` between an earlier and a later state, and
their preservation by `push`, `addLineRef` and the insertion into `sharedWithRef`.
-/
import PubgrubProofs.ReportLines

namespace Pubgrub
open VersionSet

set_option linter.unusedSectionVars false

section
variable {P S V M : Type} [DecidableEq P] [VersionSet S V] [DecidableEq S]
variable (G : DerivationTree P S V M → Prop) (U : P → V → Prop) (HS : Prop)

/-- a step is justified by the lines `pre` before it: (if `HS`) its conclusion follows from its
premises, and the numbers it cites resolve -/
def StepOK (pre : List (Line P S V M)) (st : Step P S V M) : Prop :=
  (HS → ∀ c, st.conclusion = some c → Entails U (premOf pre st) c) ∧
  ∀ k tt, (k, tt) ∈ st.citedRefs → RefOK pre k tt

def AllOK (lines : List (Line P S V M)) : Prop :=
  ∀ i l, lines[i]? = some l → StepOK U HS (lines.take i) l.step

theorem AllOK_snoc (a : List (Line P S V M)) (l : Line P S V M) :
    AllOK U HS (a ++ [l]) ↔ AllOK U HS a ∧ StepOK U HS a l.step := by
  constructor
  · intro h
    refine ⟨fun i l0 hi => ?_, ?_⟩
    · have hlt : i < a.length := (List.getElem?_eq_some_iff.mp hi).1
      have := h i l0 ((List.getElem?_append_left hlt).trans hi)
      rwa [List.take_append_of_le_length (Nat.le_of_lt hlt)] at this
    · have := h a.length l List.getElem?_concat_length
      rwa [List.take_left' rfl] at this
  · rintro ⟨h1, h2⟩ i l0 hi
    rcases Nat.lt_or_ge i a.length with hlt | hge
    · rw [List.take_append_of_le_length (Nat.le_of_lt hlt)]
      exact h1 i l0 ((List.getElem?_append_left hlt).symm.trans hi)
    · have hlen : i < (a ++ [l]).length := (List.getElem?_eq_some_iff.mp hi).1
      rw [List.length_append] at hlen
      obtain rfl : i = a.length := Nat.le_antisymm (Nat.le_of_lt_succ hlen) hge
      rw [List.getElem?_concat_length] at hi
      cases hi
      rwa [List.take_left' rfl]

theorem AllOK_nil : AllOK U HS ([] : List (Line P S V M)) := by
  intro i l h; simp at h

/-- `G` is the set of trees the reporter may meet (instantiated with the subtrees of the reported tree,
`Sub t` of ReporterSpec.lean); `HS` switches the entailment part of `StepOK` on (see the head of
ReportSound.lean) -/
structure RepInv (r : Reporter P S V M) : Prop where
  shared : ∀ id k, SmallMap.get r.sharedWithRef id = some k → ∀ tt a b, G (.derived tt (some id) a b) →
    RefOK r.lines k tt ∧ ∀ e ∈ (DerivationTree.derived tt (some id) a b).externals, e ∈ namedAll r.lines
  refs : allRefs r.lines = List.range' 1 r.refCount
  one : ∀ l ∈ r.lines, l.refs.length ≤ 1
  ok : AllOK U HS r.lines

/-- what later states keep of earlier ones -/
structure Le (r r' : Reporter P S V M) : Prop where
  shared : ∀ id k, SmallMap.get r.sharedWithRef id = some k → SmallMap.get r'.sharedWithRef id = some k
  named : ∀ e ∈ namedAll r.lines, e ∈ namedAll r'.lines
  ref : ∀ k tt, RefOK r.lines k tt → RefOK r'.lines k tt

theorem Le.refl (r : Reporter P S V M) : Le r r := ⟨fun _ _ h => h, fun _ h => h, fun _ _ h => h⟩

theorem Le.trans {r1 r2 r3 : Reporter P S V M} (h12 : Le r1 r2) (h23 : Le r2 r3) : Le r1 r3 :=
  ⟨fun id k h => h23.shared id k (h12.shared id k h), fun e h => h23.named e (h12.named e h),
   fun k tt h => h23.ref k tt (h12.ref k tt h)⟩

theorem RepInv.new : RepInv G U HS (Reporter.new : Reporter P S V M) := by
  refine ⟨?_, ?_, ?_, AllOK_nil U HS⟩
  · intro id k h; simp [Reporter.new, SmallMap.get] at h
  · simp [Reporter.new, allRefs]
  · intro l h; simp [Reporter.new] at h

variable {G U HS}

section StepOK
variable {pre : List (Line P S V M)} {t : List (P × Term S)}

theorem stepOK_blank : StepOK U HS pre (.blank : Step P S V M) :=
  ⟨fun _ _ hc => (nomatch hc), fun _ _ hk => (List.not_mem_nil hk).elim⟩

theorem stepOK_bothExternal {e1 e2 : External P S V M} (h : HS → Entails U [e1.terms, e2.terms] t) :
    StepOK U HS pre (.bothExternal e1 e2 t) := by
  refine ⟨fun hs c hc => ?_, fun _ _ hk => (List.not_mem_nil hk).elim⟩
  obtain rfl := Option.some.inj hc
  exact (h hs).of_pair (mem_premOf_named (.head _)) (mem_premOf_named (.tail _ (.head _)))

theorem stepOK_bothRef {r1 r2 : Nat} {t1 t2 : List (P × Term S)} (h1 : RefOK pre r1 t1)
    (h2 : RefOK pre r2 t2) (h : HS → Entails U [t1, t2] t) :
    StepOK U HS pre (.bothRef r1 t1 r2 t2 t : Step P S V M) := by
  refine ⟨fun hs c hc => ?_, fun k tt hk => ?_⟩
  · obtain rfl := Option.some.inj hc
    exact (h hs).of_pair (mem_premOf_cited (.head _) h1.1) (mem_premOf_cited (.tail _ (.head _)) h2.1)
  · rcases List.mem_cons.mp hk with hk | hk
    · cases hk; exact h1
    · cases List.mem_singleton.mp hk; exact h2

theorem stepOK_refAndExternal {r : Nat} {dt : List (P × Term S)} {e : External P S V M}
    (hr : RefOK pre r dt) (h : HS → Entails U [dt, e.terms] t) :
    StepOK U HS pre (.refAndExternal r dt e t) := by
  refine ⟨fun hs c hc => ?_, fun k tt hk => ?_⟩
  · obtain rfl := Option.some.inj hc
    exact (h hs).of_pair (mem_premOf_cited (.head _) hr.1) (mem_premOf_named (.head _))
  · cases List.mem_singleton.mp hk; exact hr

/-- an "And because" step: `tl` is what the line before concludes -/
theorem stepOK_andExternal {l : Line P S V M} {tl : List (P × Term S)} {e : External P S V M}
    (hl : pre.getLast? = some l) (hlc : l.step.conclusion = some tl)
    (h : HS → Entails U [tl, e.terms] t) : StepOK U HS pre (.andExternal e t) := by
  refine ⟨fun hs c hc => ?_, fun _ _ hk => (List.not_mem_nil hk).elim⟩
  obtain rfl := Option.some.inj hc
  exact (h hs).of_pair (mem_premOf_last rfl hl hlc) (mem_premOf_named (.head _))

theorem stepOK_andRef {l : Line P S V M} {tl dt : List (P × Term S)} {r : Nat}
    (hl : pre.getLast? = some l) (hlc : l.step.conclusion = some tl) (hr : RefOK pre r dt)
    (h : HS → Entails U [tl, dt] t) : StepOK U HS pre (.andRef r dt t : Step P S V M) := by
  refine ⟨fun hs c hc => ?_, fun k tt hk => ?_⟩
  · obtain rfl := Option.some.inj hc
    exact (h hs).of_pair (mem_premOf_last rfl hl hlc) (mem_premOf_cited (.head _) hr.1)
  · cases List.mem_singleton.mp hk; exact hr

/-- the line before concludes `tl`, which with `pe` gives the unstated clause `dt`, which with `e`
gives `t` -/
theorem stepOK_andPriorAndExternal {l : Line P S V M} {tl dt : List (P × Term S)}
    {pe e : External P S V M} (hl : pre.getLast? = some l) (hlc : l.step.conclusion = some tl)
    (hd : HS → Entails U [tl, pe.terms] dt) (h : HS → Entails U [dt, e.terms] t) :
    StepOK U HS pre (.andPriorAndExternal pe e t) := by
  refine ⟨fun hs c hc => ?_, fun _ _ hk => (List.not_mem_nil hk).elim⟩
  obtain rfl := Option.some.inj hc
  exact (h hs).cut
    ((hd hs).of_pair (mem_premOf_last rfl hl hlc) (mem_premOf_named (.head _)))
    (mem_premOf_named (.tail _ (.head _)))

end StepOK

theorem RepInv.ref_le {r : Reporter P S V M} (h : RepInv G U HS r) {l : Line P S V M} (hl : l ∈ r.lines)
    {k : Nat} (hk : k ∈ l.refs) : k ≤ r.refCount := by
  have : k ∈ allRefs r.lines := mem_allRefs.mpr ⟨l, hl, hk⟩
  rw [h.refs] at this
  simp at this
  omega

theorem Reporter.push_lines (r : Reporter P S V M) (st : Step P S V M) :
    (r.push st).lines = r.lines ++ [{ step := st, refs := [] }] := rfl

theorem RepInv.push {r : Reporter P S V M} (h : RepInv G U HS r) {st : Step P S V M}
    (hst : StepOK U HS r.lines st) : RepInv G U HS (r.push st) := by
  refine ⟨?_, ?_, ?_, ?_⟩
  · intro id k hg tt a b hG
    obtain ⟨h1, h2⟩ := h.shared id k hg tt a b hG
    refine ⟨h1.push st, fun e he => ?_⟩
    rw [Reporter.push_lines, namedAll_append]
    exact List.mem_append_left _ (h2 e he)
  · rw [Reporter.push_lines, allRefs_append, allRefs_single]
    simpa [Reporter.push] using h.refs
  · intro l hl
    rw [Reporter.push_lines, List.mem_append] at hl
    rcases hl with hl | hl
    · exact h.one l hl
    · simp at hl; subst hl; simp
  · rw [Reporter.push_lines, AllOK_snoc]
    exact ⟨h.ok, hst⟩

theorem Le.push (r : Reporter P S V M) (st : Step P S V M) : Le r (r.push st) := by
  refine ⟨fun _ _ h => h, ?_, fun k tt h => h.push st⟩
  intro e he
  rw [Reporter.push_lines, namedAll_append]
  exact List.mem_append_left _ he

theorem Reporter.push_getLast (r : Reporter P S V M) (st : Step P S V M) :
    (r.push st).lines.getLast? = some { step := st, refs := [] } := by
  rw [Reporter.push_lines]; simp

theorem named_push_self (r : Reporter P S V M) (st : Step P S V M) (e : External P S V M)
    (he : e ∈ st.namedExternals) : e ∈ namedAll (r.push st).lines := by
  rw [Reporter.push_lines, namedAll_append, namedAll_single]
  exact List.mem_append_right _ he

theorem lines_eq_of_getLast {lines : List (Line P S V M)} {l : Line P S V M}
    (h : lines.getLast? = some l) : lines = lines.dropLast ++ [l] := by
  obtain ⟨ys, rfl⟩ := List.getLast?_eq_some_iff.mp h
  simp

theorem Reporter.addLineRef_lines {r : Reporter P S V M} {l : Line P S V M}
    (h : r.lines.getLast? = some l) :
    r.addLineRef.lines = r.lines.dropLast ++ [{ l with refs := l.refs ++ [r.refCount + 1] }] := by
  simp [Reporter.addLineRef, h]

theorem Reporter.addLineRef_refCount (r : Reporter P S V M) :
    r.addLineRef.refCount = r.refCount + 1 := rfl

theorem Reporter.addLineRef_shared (r : Reporter P S V M) :
    r.addLineRef.sharedWithRef = r.sharedWithRef := rfl

theorem Le.addLineRef {r : Reporter P S V M} (h : RepInv G U HS r) {l : Line P S V M}
    (hl : r.lines.getLast? = some l) : Le r r.addLineRef := by
  have hlines := lines_eq_of_getLast hl
  refine ⟨fun _ _ h => h, ?_, ?_⟩
  · intro e he
    rw [Reporter.addLineRef_lines hl]
    rw [hlines] at he
    simpa [namedAll_append, namedAll_single] using he
  · intro k tt hk
    rw [Reporter.addLineRef_lines hl]
    obtain ⟨l', hl', hk'⟩ := hk.exists_line
    have := h.ref_le hl' hk'
    rw [hlines] at hk
    exact hk.addRef (by omega)

theorem RepInv.addLineRef {r : Reporter P S V M} (h : RepInv G U HS r) {l : Line P S V M}
    (hl : r.lines.getLast? = some l) (hrefs : l.refs = []) : RepInv G U HS r.addLineRef := by
  have hlines := lines_eq_of_getLast hl
  have hle := Le.addLineRef h hl
  refine ⟨?_, ?_, ?_, ?_⟩
  · intro id k hg tt a b hG
    obtain ⟨h1, h2⟩ := h.shared id k hg tt a b hG
    exact ⟨hle.ref k tt h1, fun e he => hle.named e (h2 e he)⟩
  · rw [Reporter.addLineRef_lines hl, allRefs_append, allRefs_single, Reporter.addLineRef_refCount]
    have := h.refs
    rw [hlines, allRefs_append, allRefs_single] at this
    dsimp only
    rw [← List.append_assoc, this, List.range'_1_concat, Nat.add_comm]
  · intro l' hl'
    rw [Reporter.addLineRef_lines hl, List.mem_append] at hl'
    rcases hl' with hl' | hl'
    · exact h.one l' (by rw [hlines]; exact List.mem_append_left _ hl')
    · simp at hl'; subst hl'; simp [hrefs]
  · rw [Reporter.addLineRef_lines hl, AllOK_snoc]
    have := h.ok
    rw [hlines, AllOK_snoc] at this
    exact this

theorem RefOK.addLineRef {r : Reporter P S V M} (h : RepInv G U HS r) {l : Line P S V M}
    (hl : r.lines.getLast? = some l) {tt : List (P × Term S)} (hc : l.step.conclusion = some tt) :
    RefOK r.addLineRef.lines (r.refCount + 1) tt := by
  have hlines := lines_eq_of_getLast hl
  rw [Reporter.addLineRef_lines hl]
  refine RefOK.fresh ?_ hc
  intro l' hl' hk
  have := h.ref_le (l := l') (by rw [hlines]; exact List.mem_append_left _ hl') hk
  omega

theorem Reporter.addLineRef_getLast {r : Reporter P S V M} {l : Line P S V M}
    (hl : r.lines.getLast? = some l) :
    r.addLineRef.lines.getLast? = some { l with refs := l.refs ++ [r.refCount + 1] } := by
  rw [Reporter.addLineRef_lines hl]; simp

theorem RepInv.insert {r : Reporter P S V M} (h : RepInv G U HS r) (id k : Nat)
    (hnew : ∀ tt a b, G (.derived tt (some id) a b) →
      RefOK r.lines k tt ∧ ∀ e ∈ (DerivationTree.derived tt (some id) a b).externals, e ∈ namedAll r.lines) :
    RepInv G U HS { r with sharedWithRef := SmallMap.insert r.sharedWithRef id k } := by
  refine ⟨?_, h.refs, h.one, h.ok⟩
  intro id' k' hg tt a b hG
  dsimp only at hg
  rw [SmallMap.get_insert] at hg
  split at hg
  · next hid => cases hg; cases hid; exact hnew tt a b hG
  · exact h.shared id' k' hg tt a b hG

theorem Le.insert (r : Reporter P S V M) (id k : Nat) (hnone : SmallMap.get r.sharedWithRef id = none) :
    Le r { r with sharedWithRef := SmallMap.insert r.sharedWithRef id k } := by
  refine ⟨?_, fun _ h => h, fun _ _ h => h⟩
  intro id' k' hg
  dsimp only
  rw [SmallMap.get_insert, if_neg]
  · exact hg
  · rintro rfl
    rw [hnone] at hg
    cases hg

end
end Pubgrub
