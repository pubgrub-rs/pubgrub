/-
The bound comparisons of `range.rs` are comparisons of positions on one line.  A start bound `incl a`
stands just before `a` and `excl a` just after `a`; an end bound `incl a` stands just after `a` and
`excl a` just before it; an unbounded start is before everything, an unbounded end after everything.
Each Boolean function on bounds is `<` or `≤` (or `max`, or `compare`) on these positions, so every
fact relating several of them is a fact about one linear order.
-/
import PubgrubProofs.Defs

namespace Pubgrub
open Bound

/-- a position between the points of `V`: `mid a false` just before `a`, `mid a true` just after -/
inductive Cut (V : Type) where
  | bot
  | mid (a : V) (hi : Bool)
  | top

namespace Cut
variable {V : Type} [LinearOrder V]

abbrev before (a : V) : Cut V := mid a false
abbrev after (a : V) : Cut V := mid a true

/-- lexicographic, between the two ends -/
protected def le : Cut V → Cut V → Prop
  | bot, _ => True
  | _, top => True
  | top, _ => False
  | _, bot => False
  | mid a i, mid b j => a < b ∨ a = b ∧ i ≤ j

instance : LinearOrder (Cut V) where
  le := Cut.le
  le_refl a := by cases a <;> simp only [Cut.le, le_refl, and_self, or_true]
  le_trans a b c := by
    cases a <;> cases b <;> cases c <;> simp only [Cut.le, imp_self, implies_true, false_imp_iff]
    rintro (h | ⟨rfl, h⟩) (h' | ⟨rfl, h'⟩)
    exacts [.inl (h.trans h'), .inl h, .inl h', .inr ⟨rfl, Bool.le_trans h h'⟩]
  le_antisymm a b := by
    cases a <;> cases b <;> simp only [Cut.le, imp_self, false_imp_iff]
    rintro (h | ⟨rfl, h⟩) (h' | ⟨e, h'⟩)
    exacts [(lt_asymm h h').elim, (ne_of_gt h e).elim, (lt_irrefl _ h').elim,
      by rw [Bool.le_antisymm h h']]
  le_total a b := by
    cases a <;> cases b <;> simp only [Cut.le, or_true, true_or]
    rename_i a i b j
    rcases lt_trichotomy a b with h | rfl | h
    exacts [.inl (.inl h), (Bool.le_total i j).imp (.inr ⟨rfl, ·⟩) (.inr ⟨rfl, ·⟩), .inr (.inl h)]
  toDecidableLE a b := by cases a <;> cases b <;> simp only [Cut.le] <;> infer_instance

instance : BoundedOrder (Cut V) where
  top := top
  bot := bot
  le_top a := by cases a <;> trivial
  bot_le _ := trivial

theorem mid_le_mid {a b : V} {i j : Bool} : mid a i ≤ mid b j ↔ a < b ∨ a = b ∧ i ≤ j := Iff.rfl

@[simp] theorem before_le_before {a b : V} : before a ≤ before b ↔ a ≤ b :=
  mid_le_mid.trans (by simp [le_iff_lt_or_eq])
@[simp] theorem before_le_after {a b : V} : before a ≤ after b ↔ a ≤ b :=
  mid_le_mid.trans (by simp [le_iff_lt_or_eq])
@[simp] theorem after_le_before {a b : V} : after a ≤ before b ↔ a < b :=
  mid_le_mid.trans (by simp)
@[simp] theorem after_le_after {a b : V} : after a ≤ after b ↔ a ≤ b :=
  mid_le_mid.trans (by simp [le_iff_lt_or_eq])

@[simp] theorem before_lt_before {a b : V} : before a < before b ↔ a < b := by
  rw [← not_le, before_le_before, not_le]
@[simp] theorem before_lt_after {a b : V} : before a < after b ↔ a ≤ b := by
  rw [← not_le, after_le_before, not_lt]
@[simp] theorem after_lt_before {a b : V} : after a < before b ↔ a < b := by
  rw [← not_le, before_le_after, not_le]
@[simp] theorem after_lt_after {a b : V} : after a < after b ↔ a < b := by
  rw [← not_le, after_le_after, not_le]

@[simp] theorem mid_ne_bot {a : V} {i : Bool} : mid a i ≠ ⊥ := nofun
@[simp] theorem mid_ne_top {a : V} {i : Bool} : mid a i ≠ ⊤ := nofun
@[simp] theorem bot_ne_top' : (⊥ : Cut V) ≠ ⊤ := nofun

theorem exists_before [DenselyOrdered V] [NoMinOrder V] [NoMaxOrder V] [Nonempty V] {c d : Cut V}
    (h : c < d) : ∃ v, c ≤ .before v ∧ .before v < d := by
  cases c with
  | top => exact absurd h not_top_lt
  | bot =>
    cases d with
    | bot => exact absurd h (lt_irrefl _)
    | top => obtain ⟨v⟩ := ‹Nonempty V›; exact ⟨v, bot_le, lt_top_iff_ne_top.2 nofun⟩
    | mid b j =>
      cases j with
      | false => obtain ⟨v, hv⟩ := exists_lt b; exact ⟨v, bot_le, before_lt_before.2 hv⟩
      | true => exact ⟨b, bot_le, before_lt_after.2 le_rfl⟩
  | mid a i =>
    cases i with
    | false => exact ⟨a, le_rfl, h⟩
    | true =>
      cases d with
      | bot => exact absurd h not_lt_bot
      | top =>
        obtain ⟨v, hv⟩ := exists_gt a
        exact ⟨v, after_le_before.2 hv, lt_top_iff_ne_top.2 nofun⟩
      | mid b j =>
        cases j with
        | false =>
          obtain ⟨v, h1, h2⟩ := exists_between (after_lt_before.1 h)
          exact ⟨v, after_le_before.2 h1, before_lt_before.2 h2⟩
        | true =>
          exact ⟨b, after_le_before.2 (after_lt_after.1 h), before_lt_after.2 le_rfl⟩

end Cut

variable {V : Type} [LinearOrder V]

/-- where a bound stands when it opens a segment -/
def Bound.startCut : Bound V → Cut V
  | incl a => .before a
  | excl a => .after a
  | unb => ⊥

/-- where a bound stands when it closes a segment -/
def Bound.endCut : Bound V → Cut V
  | incl a => .after a
  | excl a => .before a
  | unb => ⊤

theorem Bound.startCut_injective : Function.Injective (Bound.startCut (V := V)) := by
  intro a b h
  cases a <;> cases b <;> simp_all [startCut]

theorem Bound.endCut_injective : Function.Injective (Bound.endCut (V := V)) := by
  intro a b h
  cases a <;> cases b <;> simp_all [endCut]

theorem Bound.aboveStart_iff {v : V} {s : Bound V} : aboveStart v s ↔ s.startCut ≤ .before v := by
  cases s <;> simp [aboveStart, startCut]

theorem Bound.belowEnd_iff {v : V} {e : Bound V} : belowEnd v e ↔ .before v < e.endCut := by
  cases e <;> simp [belowEnd, endCut, lt_top_iff_ne_top]

namespace Range

theorem validSegment_iff {s e : Bound V} : validSegment s e = true ↔ s.startCut < e.endCut := by
  cases s <;> cases e <;>
    simp [validSegment, startCut, endCut, bot_lt_iff_ne_bot, lt_top_iff_ne_top]

theorem validSegment_eq_false_iff {s e : Bound V} :
    validSegment s e = false ↔ e.endCut ≤ s.startCut := by
  rw [← Bool.not_eq_true, validSegment_iff, not_lt]

theorem gap_iff {e s : Bound V} : endBeforeStartWithGap e s = true ↔ e.endCut < s.startCut := by
  cases s <;> cases e <;> simp [endBeforeStartWithGap, startCut, endCut]

theorem gap_eq_false_iff {e s : Bound V} :
    endBeforeStartWithGap e s = false ↔ s.startCut ≤ e.endCut := by
  rw [← Bool.not_eq_true, gap_iff, not_lt]

theorem leftStartIsSmaller_iff {a b : Bound V} :
    leftStartIsSmaller a b = true ↔ a.startCut ≤ b.startCut := by
  cases a <;> cases b <;> simp [leftStartIsSmaller, startCut]

theorem leftStartIsSmaller_eq_false_iff {a b : Bound V} :
    leftStartIsSmaller a b = false ↔ b.startCut < a.startCut := by
  rw [← Bool.not_eq_true, leftStartIsSmaller_iff, not_le]

theorem leftEndIsSmaller_iff {a b : Bound V} :
    leftEndIsSmaller a b = true ↔ a.endCut ≤ b.endCut := by
  cases a <;> cases b <;> simp [leftEndIsSmaller, endCut]

theorem leftEndIsSmaller_eq_false_iff {a b : Bound V} :
    leftEndIsSmaller a b = false ↔ b.endCut < a.endCut := by
  rw [← Bool.not_eq_true, leftEndIsSmaller_iff, not_le]

theorem interStart_eq_ite (a b : Bound V) :
    interStart a b = if leftStartIsSmaller a b then b else a := by
  cases a <;> cases b <;> simp only [interStart, leftStartIsSmaller, decide_eq_true_eq,
    Bool.false_eq_true, if_true, if_false]
  simp only [← not_le, ite_not]

theorem unionEnd_eq_ite (a b : Bound V) :
    unionEnd a b = if leftEndIsSmaller a b then b else a := by
  cases a <;> cases b <;> try rfl
  all_goals
    rename_i l r
    simp only [unionEnd, leftEndIsSmaller, decide_eq_true_eq]
    rcases lt_trichotomy l r with h | rfl | h
    · simp only [h, h.ne, h.le, not_lt_of_gt h, if_true, if_false]
    · simp only [lt_irrefl, le_refl, if_true, if_false]
    · simp only [h, h.ne', not_lt_of_gt h, not_le_of_gt h, if_true, if_false]

theorem startCut_interStart (a b : Bound V) :
    (interStart a b).startCut = max a.startCut b.startCut := by
  rw [interStart_eq_ite, max_def, apply_ite Bound.startCut]
  simp only [leftStartIsSmaller_iff]

theorem endCut_unionEnd (a b : Bound V) :
    (unionEnd a b).endCut = max a.endCut b.endCut := by
  rw [unionEnd_eq_ite, max_def, apply_ite Bound.endCut]
  simp only [leftEndIsSmaller_iff]

theorem startCut_flipB {e : Bound V} (h : e ≠ unb) : (flipB e).startCut = e.endCut := by
  cases e <;> first | rfl | exact absurd rfl h

theorem endCut_flipB {s : Bound V} (h : s ≠ unb) : (flipB s).endCut = s.startCut := by
  cases s <;> first | rfl | exact absurd rfl h

end Range
end Pubgrub
