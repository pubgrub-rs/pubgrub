/-
Conflict resolution and unit propagation keep `StoreCK` and `RW`: a derivation keeps the root's terms
inside `{rv}`, and conflict resolution never resolves a `noVersions` clause against a `notRoot` clause.
-/
import PubgrubProofs.CollapseInvariants

set_option linter.unusedSectionVars false

namespace Pubgrub
open VersionSet

section
variable {P S V M Pr : Type} [DecidableEq P] [VersionSet S V] [DecidableEq S] [LawfulVersionSet S V]

theorem Kind.isNoVersionsK_elim {k : Kind P S V M} (h : k.isNoVersionsK = true) :
    ∃ p s, k = .noVersions p s := by
  cases k <;> simp [Kind.isNoVersionsK] at h
  exact ⟨_, _, rfl⟩

theorem Kind.isNotRootK_elim {k : Kind P S V M} (h : k.isNotRootK = true) :
    ∃ p v, k = .notRoot p v := by
  cases k <;> simp [Kind.isNotRootK] at h
  exact ⟨_, _, rfl⟩

theorem Incompat.Good.terms_noVersions {W : World P S V M} {root : P} {rv : V}
    {store : List (Incompat P S V M)} {id : Nat} {i : Incompat P S V M} (g : i.Good W root rv store id)
    {p : P} {s : S} (hk : i.kind = .noVersions p s) : i.terms = [(p, Term.pos s)] := by
  have gk := g.kind
  unfold Incompat.KindTrue at gk
  rw [hk] at gk
  exact gk.2

theorem Incompat.Good.terms_notRoot {W : World P S V M} {root : P} {rv : V}
    {store : List (Incompat P S V M)} {id : Nat} {i : Incompat P S V M} (g : i.Good W root rv store id)
    {p : P} {v : V} (hk : i.kind = .notRoot p v) :
    i.terms = [(root, Term.neg (VersionSet.singleton rv))] := by
  have gk := g.kind
  unfold Incompat.KindTrue at gk
  rw [hk] at gk
  obtain ⟨rfl, rfl, h⟩ := gk
  exact h

theorem Incompat.key_of_get_singleton {i : Incompat P S V M} {q : P} {t : Term S}
    (ht : i.terms = [(q, t)]) {p : P} (h : (i.get p).isSome = true) : p = q := by
  unfold Incompat.get at h
  rw [ht] at h
  simp only [SmallMap.get] at h
  by_cases e : p = q
  · exact e
  · rw [if_neg e] at h; cases h

theorem root_getPA_of_nonempty {root : P} {rv : V} {st : State P S V M Pr} (hp : PInv st)
    (ht : TInv root rv st) (hne : st.ps.assignments ≠ []) : ∃ pa, st.ps.getPA root = some pa := by
  cases hasg : st.ps.assignments with
  | nil => exact absurd hasg hne
  | cons x rest =>
    obtain ⟨p0, pa0⟩ := x
    have hm : (p0, pa0) ∈ st.ps.assignments := by rw [hasg]; exact List.mem_cons_self
    have h0 : st.ps.assignments[0]? = some (p0, pa0) := by rw [hasg]; rfl
    have hwf := hp.wf.wf.entries 0 p0 pa0 h0
    have hroot : p0 = root := by
      by_cases hdl : st.ps.currentDecisionLevel = 0
      · exact ((ht.rootinv.lvl0 hdl).2.2 (p0, pa0) hm).1
      · obtain ⟨g, v, h1, h2, _⟩ := hwf.decided (Nat.pos_of_ne_zero hdl)
        exact (ht.rootinv.first p0 pa0 hm g v _ h1 (by omega)).1
    subst hroot
    refine ⟨pa0, ?_⟩
    unfold PartialSolution.getPA
    rw [hasg]; simp [SmallMap.get]

theorem root_term_imp {root : P} {rv : V} {st : State P S V M Pr} (hp : PInv st) (ht : TInv root rv st)
    (hrw : st.ps.RW root rv) {pa : PackageAssignments S V}
    (hpa : st.ps.getPA root = some pa) : pa.inter.term.Imp (Term.exact rv : Term S) := by
  have hm := SmallMap.mem_of_get hpa
  obtain ⟨i, hi, hwfat, hwfx⟩ := hp.wf.entry_of_mem hm
  obtain ⟨f, hf, _⟩ := hwfx.head
  have hfm : f ∈ pa.dated := List.mem_of_mem_head? hf
  exact Term.Imp.trans (PackageAssignments.term_imp_dated hwfat (ht.shrink _ hm) hfm)
      (hrw root pa hm rfl f hfm)

theorem root_term {root : P} {rv : V} {st : State P S V M Pr} (hp : PInv st) (ht : TInv root rv st)
    (hne : st.ps.NE) (hrw : st.ps.RW root rv) {pa : PackageAssignments S V}
    (hpa : st.ps.getPA root = some pa) : ∃ s, pa.inter.term = .pos s ∧ contains s rv = true := by
  have hm := SmallMap.mem_of_get hpa
  have himp := root_term_imp hp ht hrw hpa
  have hinh := (hne root pa hm).1
  cases hterm : pa.inter.term with
  | pos s =>
    rw [hterm] at hinh himp
    obtain ⟨v, hv⟩ := hinh
    have := himp (some v) hv
    rw [Term.eval_exact] at this
    injection this with this; subst this
    exact ⟨s, rfl, hv⟩
  | neg s =>
    rw [hterm] at himp
    have := himp none rfl
    rw [Term.eval_exact] at this; cases this

namespace State

/-- a derivation keeps the accumulated terms of the root inside `{rv}`: a later derivation of the root
intersects its current term; the first one comes from the `notRoot` clause -/
theorem addDerivation_rw (W : World P S V M) (root : P) (rv : V) {st : State P S V M Pr}
    (hs : SInv W root rv st) (hp : PInv st) (ht : TInv root rv st) (hrw : st.ps.RW root rv)
    {p : P} {id : Nat} {ps' : PartialSolution P S V Pr}
    (hr : st.ps.addDerivation p id st.store = .ok ps') : ps'.RW root rv := by
  obtain ⟨inc, t, hinc, hget, hcase⟩ := PartialSolution.addDerivation_spec hr
  have htv : t.Valid := Incompat.get_valid W root rv hs.store hinc hget
  rcases hcase with ⟨idx, pa, t0, hidx, hpa, ht0, rfl⟩ | ⟨hpa, rfl⟩
  · have hm := SmallMap.mem_of_get hpa
    apply PartialSolution.forall_set hrw
    intro hroot dd hdd
    simp only at hroot
    simp only [List.mem_append, List.mem_singleton] at hdd
    rcases hdd with hdd | rfl
    · exact hrw p pa hm hroot dd hdd
    · simp only
      subst hroot
      have h0 := root_term_imp hp ht hrw hpa
      rw [ht0] at h0
      have hov : t0.Valid := by
        have := (hs.ps _ hm).inter
        rw [ht0] at this; exact this
      exact Term.Imp.trans (Term.inter_imp_left hov (Term.valid_negate t htv)) h0
  · intro q qa hkv hroot
    simp only [List.mem_append, List.mem_singleton] at hkv
    rcases hkv with hkv | hkv
    · exact hrw q qa hkv hroot
    · injection hkv with e1 e2; subst e1; subst e2; subst hroot
      have hempty : st.ps.assignments = [] := by
        cases hasg : st.ps.assignments with
        | nil => rfl
        | cons x rest =>
          obtain ⟨pa, hpa'⟩ := root_getPA_of_nonempty hp ht (by rw [hasg]; exact List.cons_ne_nil _ _)
          rw [hpa] at hpa'; cases hpa'
      have hstore := ht.rootinv.empty hempty
      rw [hstore] at hinc
      cases id with
      | succ k => simp at hinc
      | zero =>
        simp only [List.getElem?_cons_zero, Option.some.injEq] at hinc
        subst hinc
        simp only [Incompat.get, Incompat.notRoot, SmallMap.get, if_true, Option.some.injEq] at hget
        subst hget
        intro dd hdd
        simp only [List.mem_singleton] at hdd
        subst hdd
        exact Term.Imp.refl _

end State

namespace State

/-- the clause learned by one resolution step is not a `noVersions` clause resolved against the
`notRoot` clause: a `noVersions root s` clause is terminal (`s` contains `rv`, by `StoreCK`), and the
`notRoot` clause is never satisfied by the partial solution -/
theorem priorCause_ck (W : World P S V M) (root : P) (rv : V) {st : State P S V M Pr}
    (hs : SInv W root rv st) (hp : PInv st) (ht : TInv root rv st) (hne : st.ps.NE)
    (hrw : st.ps.RW root rv) (hck : StoreCK root rv st.store)
    {cur c : Nat} {inc causeInc prior : Incompat P S V M}
    (hinc : st.store[cur]? = some inc) (hcause : st.store[c]? = some causeInc)
    (hsat : st.ps.Satisfies inc) (hnt : inc.isTerminal root rv = false) {pkg : P}
    (hgetp : (inc.get pkg).isSome = true) (hcget : (causeInc.get pkg).isSome = true)
    (hprior : Incompat.priorCause cur c inc causeInc pkg = .ok prior) :
    prior.CK root rv st.store := by
  have gi := hs.store cur inc hinc
  have gc := hs.store c causeInc hcause
  obtain ⟨_, _, _, _, _, _, _, hpk, _⟩ :=
    Incompat.priorCause_spec inc causeInc gi.nodup gc.nodup cur c pkg prior hprior
  unfold Incompat.CK
  rw [hpk]
  simp only
  refine ⟨inc, causeInc, hinc, hcause, ?_⟩
  rintro (⟨h1, h2⟩ | ⟨h1, h2⟩)
  · obtain ⟨p, s, hk⟩ := Kind.isNoVersionsK_elim h1
    obtain ⟨p', v', hk'⟩ := Kind.isNotRootK_elim h2
    have t1 := gi.terms_noVersions hk
    have t2 := gc.terms_notRoot hk'
    have e1 : pkg = p := Incompat.key_of_get_singleton t1 hgetp
    have e2 : pkg = root := Incompat.key_of_get_singleton t2 hcget
    have hj := hck cur inc hinc
    unfold Incompat.CK at hj
    rw [hk] at hj
    simp only at hj
    have hc := hj (by rw [← e1, e2])
    have : inc.isTerminal root rv = true := by
      unfold Incompat.isTerminal
      rw [t1]
      simp [Term.contains, hc, ← e1, e2]
    rw [this] at hnt; cases hnt
  · obtain ⟨p, v, hk⟩ := Kind.isNotRootK_elim h1
    have t1 := gi.terms_notRoot hk
    obtain ⟨pa, hpa, himp⟩ := hsat root _ (by rw [t1]; exact List.mem_singleton.2 rfl)
    obtain ⟨s, hs', hc⟩ := root_term hp ht hne hrw hpa
    rw [hs'] at himp
    have := himp (some rv) hc
    simp [Term.eval, (LawfulVersionSet.contains_singleton rv rv).2 rfl] at this

/-- Conflict resolution and unit propagation keep `StoreCK` of the store and the root's terms inside
`{rv}`; inhabited terms are carried along because `priorCause_ck` needs them. -/
theorem carries_ck (ce : CanonEmpty S V) (W : World P S V M) (root : P) (rv : V) :
    Carries W root rv
      (fun (ps : PartialSolution P S V Pr) store => ps.NE ∧ ps.RW root rv ∧ StoreCK root rv store)
      AfterConflictNE where
  resolve := fun hs hp ht ⟨hne, hrw, hck⟩ hinc hcause hsat hnt hgetp hcget hprior =>
    ⟨hne, hrw, storeCK_push hck
      (priorCause_ck W root rv hs hp ht hne hrw hck hinc hcause hsat hnt hgetp hcget hprior)⟩
  backjump := fun hs hp ht ⟨hne, hrw, hck⟩ hinc hss hpost hst1 =>
    have hbt := ((backtrack_safe hp _ _ _).of_ok hst1).1
    have h1 := (resolutionCarries_ne W root rv).backjump hs hp ht hne hinc hss hpost hst1
    ⟨⟨h1.1, hbt.rw hp.wf hrw, backtrack_ck hst1 hck⟩, h1.2⟩
  almost := (carries_ne ce W root rv).almost
  derive := fun hs hp ht ⟨hne, hrw, hck⟩ hj hps =>
    ⟨(carries_ne ce W root rv).derive hs hp ht hne hj hps, addDerivation_rw W root rv hs hp ht hrw hps, hck⟩

end State
end
end Pubgrub
