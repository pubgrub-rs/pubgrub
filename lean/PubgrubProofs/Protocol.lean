/-
The provider protocol of `resolve` (properties C12 structural clauses, C13), as theorems about the
coroutine `Solver.step` / `Solver.trace` (see PubgrubModel/Solver.lean and PubgrubProofs/SolverDefs.lean).
No world, no lawfulness: these hold for arbitrary answers (any provider).  They rest on `Solver.Coherent`
(the pending request determines the phase), which holds after every list of answers.
-/
import PubgrubProofs.Coherent
import PubgrubProofs.FirstQueries

namespace Pubgrub
open VersionSet

variable {P S V M Pr E : Type} [DecidableEq P] [VersionSet S V] [DecidableEq S] [DecidableEq V]
  [LE Pr] [DecidableLE Pr]

namespace Solver

theorem trace_length (debug : Bool) (fuel : Nat) (root : P) (rv : V) (as : List (Answer P S V M Pr E)) :
    (trace debug fuel root rv as).length = as.length + 1 := by
  rw [trace_eq, traceFrom_length]

/-- causality (C13 "up to that point the call trace equals that of the fault-free run"): the first
`k+1` requests only depend on the first `k` answers -/
theorem trace_prefix (debug : Bool) (fuel : Nat) (root : P) (rv : V) (as bs : List (Answer P S V M Pr E)) :
    (trace debug fuel root rv (as ++ bs)).take (as.length + 1) = trace debug fuel root rv as := by
  simp only [trace, runFrom_append]
  simp [runFrom_length]

theorem error_step {x : SR P S V M Pr E} (hx : Coherent x) (e : E) :
    (x.2 = .shouldCancel → (step x.1 (.error e)).2 = .errorInShouldCancel e) ∧
    (∀ p s, x.2 = .chooseVersion p s → (step x.1 (.error e)).2 = .errorChoosingPackageVersion e) ∧
    (∀ p v, x.2 = .getDependencies p v →
      (step x.1 (.error e)).2 = .errorRetrievingDependencies p v e) := by
  have hph := hx.phase
  refine ⟨fun h => ?_, fun p t h => ?_, fun p v h => ?_⟩ <;> simp only [h] at hph
  · rw [step_cancel_error _ _ hph]; rfl
  · rw [step_choosing_error _ _ _ _ hph]; rfl
  · rw [step_fetching_error _ _ _ _ hph]; rfl

/-- C13: an error answer ends the run with the matching variant carrying that same error (and, for
get_dependencies, the package and version queried); nothing else can follow -/
theorem error_aborts (debug : Bool) (fuel : Nat) (root : P) (rv : V) (as : List (Answer P S V M Pr E))
    (e : E) :
    let pending := (after (start debug fuel root rv) as).2
    let next := (after (start (E := E) debug fuel root rv) (as ++ [.error e])).2
    (pending = .shouldCancel → next = .errorInShouldCancel e) ∧
    (∀ p s, pending = .chooseVersion p s → next = .errorChoosingPackageVersion e) ∧
    (∀ p v, pending = .getDependencies p v → next = .errorRetrievingDependencies p v e) := by
  intro pending next
  have h := error_step (coherent_run (E := E) debug fuel root rv as) e
  rw [← after_snoc] at h
  exact h

/-- C13: once `resolve` has returned, no provider call follows -/
theorem final_is_last (debug : Bool) (fuel : Nat) (root : P) (rv : V) (as : List (Answer P S V M Pr E))
    (a : Answer P S V M Pr E)
    (h : (after (start (E := E) debug fuel root rv) as).2.isFinal = true) :
    (after (start (E := E) debug fuel root rv) (as ++ [a])).2.isFinal = true := by
  have hco := coherent_run (E := E) (M := M) (Pr := Pr) (S := S) debug fuel root rv as
  rw [after_snoc]
  exact (done_step _ _ (coherent_final hco h)).2

/-- C13: a version outside the offered set yields `Failure`, never a solution -/
theorem out_of_set_fails (debug : Bool) (fuel : Nat) (root : P) (rv : V) (as : List (Answer P S V M Pr E))
    (p : P) (s : S) (v : V)
    (h : (after (start (E := E) debug fuel root rv) as).2 = .chooseVersion p s)
    (hv : contains s v = false) :
    (after (start (E := E) debug fuel root rv) (as ++ [.version (some v)])).2 =
      .failure "choose_package_version picked an incompatible version" := by
  have hph := (coherent_run (E := E) debug fuel root rv as).phase
  simp only [h] at hph
  rw [after_snoc, step_choosing_out _ _ _ _ hph hv]
  rfl

/-- C12: `get_dependencies(p, v)` is only called for the version that the immediately preceding
`choose_version(p, ·)` returned -/
theorem deps_after_choose (debug : Bool) (fuel : Nat) (root : P) (rv : V) (as : List (Answer P S V M Pr E))
    (k : Nat) (p : P) (v : V)
    (h : (trace debug fuel root rv as)[k + 1]? = some (.getDependencies p v)) :
    (∃ s, (trace debug fuel root rv as)[k]? = some (.chooseVersion p s)) ∧
      as[k]? = some (.version (some v)) := by
  rw [trace_eq, traceFrom_getElem?_eq_some] at h
  obtain ⟨hk, h⟩ := h
  have hk' : k < as.length := by omega
  rw [take_succ_snoc _ _ hk', after_snoc] at h
  obtain ⟨⟨t, hph⟩, ha, -, -⟩ := (step_spec _ _).getDeps h
  have hco := coherent_run (E := E) (M := M) (Pr := Pr) (S := S) debug fuel root rv (as.take k)
  simp only [Coherent, hph] at hco
  obtain ⟨set, hreq, -⟩ := hco
  refine ⟨⟨set, ?_⟩, ?_⟩
  · rw [trace_eq, traceFrom_getElem?_eq_some]; exact ⟨by omega, hreq⟩
  · rw [List.getElem?_eq_getElem hk', ha]

/-- C12: at most one `get_dependencies` per (package, version) in a run -/
theorem deps_once (debug : Bool) (fuel : Nat) (root : P) (rv : V) (as : List (Answer P S V M Pr E))
    (i j : Nat) (hij : i < j) (p : P) (v : V)
    (hi : (trace debug fuel root rv as)[i]? = some (.getDependencies p v)) :
    (trace debug fuel root rv as)[j]? ≠ some (.getDependencies p v) := by
  intro hj
  rw [trace_eq, traceFrom_getElem?_eq_some] at hi hj
  obtain ⟨hik, hi⟩ := hi
  obtain ⟨hjk, hj⟩ := hj
  -- the request at `i` was issued by a step (it is not the first request)
  cases i with
  | zero => simp [after_nil, start] at hi
  | succ i =>
    obtain ⟨j, rfl⟩ : ∃ j', j = j' + 1 := ⟨j - 1, by omega⟩
    have hi' : i < as.length := by omega
    have hj' : j < as.length := by omega
    rw [take_succ_snoc _ _ hi', after_snoc] at hi
    rw [take_succ_snoc _ _ hj', after_snoc] at hj
    obtain ⟨-, -, -, hmem⟩ := (step_spec _ _).getDeps hi
    obtain ⟨-, -, hnot, -⟩ := (step_spec _ _).getDeps hj
    apply hnot
    rw [after_take _ as (show i + 1 ≤ j by omega)]
    apply added_mono_after
    rw [take_succ_snoc _ _ hi', after_snoc]
    exact hmem

/-- C12: `should_cancel` is polled first, and at least once between any two `choose_version` calls -/
theorem cancel_first (debug : Bool) (fuel : Nat) (root : P) (rv : V) (as : List (Answer P S V M Pr E)) :
    (trace debug fuel root rv as)[0]? = some .shouldCancel := by
  simp [trace, start]

theorem cancel_between_choose (debug : Bool) (fuel : Nat) (root : P) (rv : V)
    (as : List (Answer P S V M Pr E)) (i j : Nat) (hij : i < j) (p q : P) (s t : S)
    (hi : (trace debug fuel root rv as)[i]? = some (.chooseVersion p s))
    (hj : (trace debug fuel root rv as)[j]? = some (.chooseVersion q t)) :
    ∃ k, i < k ∧ k < j ∧ (trace debug fuel root rv as)[k]? = some .shouldCancel := by
  rw [trace_eq, traceFrom_getElem?_eq_some] at hi hj
  obtain ⟨hik, hi⟩ := hi
  obtain ⟨hjk, hj⟩ := hj
  have hlate : Late (after (start (E := E) debug fuel root rv) (as.take i)) :=
    .inl ⟨p, .pos s, by simpa only [hi] using (coherent_run (E := E) debug fuel root rv (as.take i)).phase⟩
  have hlen : ((as.take j).drop i).length = j - i := by simp; omega
  rw [after_take _ as hij.le] at hj
  obtain ⟨m, hm0, hm, hreq⟩ := late_run _ hlate _ (by
    intro h0; rw [h0] at hlen; simp at hlen; omega) _ _ hj
  refine ⟨i + m, by omega, by omega, ?_⟩
  rw [trace_eq, traceFrom_getElem?_eq_some]
  refine ⟨by omega, ?_⟩
  have : as.take (i + m) = as.take i ++ ((as.take j).drop i).take m := by
    rw [List.take_add, List.drop_take, List.take_take]
    congr 2
    omega
  rw [this, after_append]; exact hreq

/-- C12: the first version query is for the root with the singleton set of the requested version
(after `should_cancel` and `prioritize(root, {rv})`) -/
theorem first_query (debug : Bool) (fuel : Nat) (hf : 3 ≤ fuel) (root : P) (rv : V)
    (as : List (Answer P S V M Pr E)) (k : Nat) (p : P) (s : S)
    (hk : (trace debug fuel root rv as)[k]? = some (.chooseVersion p s))
    (hfirst : ∀ j < k, ∀ q t, (trace debug fuel root rv as)[j]? ≠ some (.chooseVersion q t)) :
    k = 3 ∧ p = root ∧ s = VersionSet.singleton rv ∧
      (trace debug fuel root rv as)[1]? = some (.prioritize root (VersionSet.singleton rv)) := by
  obtain ⟨n, rfl⟩ : ∃ n, fuel = n + 3 := ⟨fuel - 3, by omega⟩
  rw [trace_eq, traceFrom_getElem?_eq_some] at hk
  obtain ⟨hkl, hk⟩ := hk
  obtain ⟨bs, has⟩ : ∃ bs, as = as.take k ++ bs := ⟨as.drop k, (List.take_append_drop k as).symm⟩
  have hlen : (as.take k).length = k := by simp [hkl]
  generalize as.take k = l at *
  subst has
  match l with
  | [] => simp [after_nil, start] at hk
  | a0 :: l =>
    rw [after_cons] at hk
    have h1 : (trace debug (n + 3) root rv (a0 :: l ++ bs))[1]? =
        some (step (start (E := E) debug (n + 3) root rv).1 a0).2 := by
      simp [trace, runFrom_cons]
    rcases step_start (E := E) debug n root rv a0 with hd | he
    · have := (done_after _ hd l).2; rw [hk] at this; cases this
    · rw [he] at hk h1
      match l with
      | [] => simp [after_nil] at hk
      | a1 :: l =>
        rw [after_cons] at hk
        rcases step_s1 (E := E) debug (n + 3) root rv a1 with hd | ⟨pr, he1⟩
        · have := (done_after _ hd l).2; rw [hk] at this; cases this
        · simp only [he1] at hk
          match l with
          | [] => simp [after_nil] at hk
          | a2 :: l =>
            rw [after_cons] at hk
            rcases step_s2 (E := E) debug (n + 3) root rv pr a2 with hd | he2
            · have := (done_after _ hd l).2; rw [hk] at this; cases this
            · have h3 : (trace debug (n + 3) root rv (a0 :: a1 :: a2 :: l ++ bs))[3]? =
                  some (.chooseVersion root (singleton rv)) := by
                simp [trace, runFrom_cons, he, he1, he2]
              match l with
              | [] =>
                rw [after_nil, he2] at hk
                cases hk
                simp at hlen
                subst hlen
                exact ⟨rfl, rfl, rfl, h1⟩
              | a3 :: l =>
                exfalso
                exact hfirst 3 (by simp at hlen; omega) _ _ h3

end Solver
end Pubgrub
