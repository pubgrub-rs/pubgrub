/-
What `satisfier`, `find_satisfier`, `max_by_key` and `find_previous_satisfier` return, and from that: the
satisfier search does not reach one of its panic sites on a satisfied, non-terminal incompatibility, and
its result (`SearchPost`) says at which level the other terms of the incompatibility are satisfied.
-/
import PubgrubProofs.AssignmentEvents

set_option linter.unusedSectionVars false

namespace Pubgrub
open VersionSet

section
variable {P S V M Pr : Type} [DecidableEq P] [VersionSet S V] [DecidableEq S] [LawfulVersionSet S V]

namespace PartialSolution

theorem WF'.entry_of_mem {ps : PartialSolution P S V Pr} (h : ps.WF') {p : P} {pa : PackageAssignments S V}
    (hm : (p, pa) ∈ ps.assignments) :
    ∃ i, ps.assignments[i]? = some (p, pa) ∧ pa.WFAt ps.currentDecisionLevel ps.nextGlobalIndex i ∧ pa.WFX := by
  obtain ⟨i, hi⟩ := List.getElem?_of_mem hm
  exact ⟨i, hi, h.wf.entries i p pa hi, h.wfx _ hm⟩

theorem WF'.entry_of_getPA {ps : PartialSolution P S V Pr} (h : ps.WF') {p : P} {pa : PackageAssignments S V}
    (hp : ps.getPA p = some pa) :
    ∃ i, ps.assignments[i]? = some (p, pa) ∧ pa.WFAt ps.currentDecisionLevel ps.nextGlobalIndex i ∧ pa.WFX :=
  h.entry_of_mem (SmallMap.mem_of_get hp)

theorem getPA_of_mem {ps : PartialSolution P S V Pr} (h : ps.WF) {p : P} {pa : PackageAssignments S V}
    (hm : (p, pa) ∈ ps.assignments) : ps.getPA p = some pa :=
  SmallMap.get_of_mem h.keys hm

end PartialSolution

/-- what `satisfier` returns -/
def PackageAssignments.IsSat (pa : PackageAssignments S V) (start : Term S) (r : Option Nat × Nat × Nat) : Prop :=
  (∃ dd ∈ pa.dated, dd.accumulated.isDisjoint start = true ∧
      r = (some dd.cause, dd.globalIndex, dd.decisionLevel)) ∨
  ((∀ dd ∈ pa.dated, dd.accumulated.isDisjoint start = false) ∧
      ∃ g v t, pa.inter = .decision g v t ∧ r = (none, g, pa.highest))

/-- when `satisfier` does not panic -/
def PackageAssignments.SatOK (pa : PackageAssignments S V) (start : Term S) : Prop :=
  (∃ g v t, pa.inter = .decision g v t) ∨ ∃ dd ∈ pa.dated, dd.accumulated.isDisjoint start = true

theorem PartialSolution.satisfier_safe {pa : PackageAssignments S V} {start : Term S} (h : pa.SatOK start) :
    Safe (PartialSolution.satisfier pa start) (pa.IsSat start) := by
  unfold PartialSolution.satisfier
  split
  · rename_i dd hdd
    exact Safe.ok (Or.inl ⟨dd, List.mem_of_find?_eq_some hdd, by simpa using List.find?_some hdd, rfl⟩)
  · rename_i hnone
    have hall : ∀ dd ∈ pa.dated, dd.accumulated.isDisjoint start = false := by
      intro dd hdd
      have := List.find?_eq_none.1 hnone dd hdd
      simpa using this
    split
    · rename_i g v t hinter
      exact Safe.ok (Or.inr ⟨hall, g, v, t, hinter, rfl⟩)
    · rename_i t hinter
      rcases h with ⟨g, v, t', h'⟩ | ⟨dd, hdd, hdis⟩
      · rw [hinter] at h'; cases h'
      · rw [hall dd hdd] at hdis; cases hdis

theorem PackageAssignments.satOK_of_disjoint {dl n i : Nat} {pa : PackageAssignments S V} (h : pa.WFAt dl n i)
    {start : Term S} (hd : pa.inter.term.isDisjoint start = true) : pa.SatOK start := by
  rcases h.inter_cases with ⟨g, v, h1, _⟩ | ⟨t, l, f, h1, _, h3, _, h5, _⟩
  · exact Or.inl ⟨g, v, _, h1⟩
  · refine Or.inr ⟨l, List.mem_of_getLast? h3, ?_⟩
    rw [h5]; rw [h1] at hd; exact hd

theorem PackageAssignments.IsSat.of_some {pa : PackageAssignments S V} {start : Term S} {c g l : Nat}
    (h : pa.IsSat start (some c, g, l)) :
    ∃ dd ∈ pa.dated, dd.accumulated.isDisjoint start = true ∧ dd.cause = c ∧ dd.globalIndex = g ∧
      dd.decisionLevel = l := by
  rcases h with ⟨dd, hdd, hdis, e⟩ | ⟨_, g', v, t, _, e⟩
  · cases e; exact ⟨dd, hdd, hdis, rfl, rfl, rfl⟩
  · cases e

theorem PackageAssignments.IsSat.of_none {pa : PackageAssignments S V} {start : Term S} {g l : Nat}
    (h : pa.IsSat start (none, g, l)) :
    (∀ dd ∈ pa.dated, dd.accumulated.isDisjoint start = false) ∧
      ∃ v t, pa.inter = .decision g v t ∧ l = pa.highest := by
  rcases h with ⟨dd, _, _, e⟩ | ⟨hall, g', v, t, hinter, e⟩
  · cases e
  · cases e; exact ⟨hall, v, t, hinter, rfl⟩

theorem PackageAssignments.IsSat.event {pa : PackageAssignments S V} {start : Term S}
    {r : Option Nat × Nat × Nat} (h : pa.IsSat start r) : ∃ b, (r.2.1, r.2.2, b) ∈ pa.events := by
  rcases h with ⟨dd, hdd, _, rfl⟩ | ⟨_, g, v, t, hinter, rfl⟩
  · exact ⟨false, PackageAssignments.mem_events_dated hdd⟩
  · exact ⟨true, PackageAssignments.mem_events_decision hinter⟩

theorem PackageAssignments.IsSat.level_le {pa : PackageAssignments S V} (hx : pa.WFX) {start : Term S}
    {r : Option Nat × Nat × Nat} (h : pa.IsSat start r) : r.2.2 ≤ pa.highest := by
  rcases h with ⟨dd, hdd, _, rfl⟩ | ⟨_, g, v, t, hinter, rfl⟩
  · exact hx.le_highest dd hdd
  · exact Nat.le_refl _

namespace PartialSolution

/-- the satisfier map of `find_satisfier` -/
structure SatMap (ps : PartialSolution P S V Pr) (terms : List (P × Term S))
    (m : SmallMap P (Option Nat × Nat × Nat)) : Prop where
  nodup : SmallMap.NoDupKeys m
  sound : ∀ q s, (q, s) ∈ m → ∃ t pa, (q, t) ∈ terms ∧ ps.getPA q = some pa ∧ pa.IsSat t.negate s
  complete : ∀ q t, (q, t) ∈ terms → (SmallMap.get m q).isSome = true

theorem SatMap.nil (ps : PartialSolution P S V Pr) : ps.SatMap [] [] :=
  ⟨List.Pairwise.nil, fun _ _ h => (nomatch h), fun _ _ h => (nomatch h)⟩

theorem SatMap.insert {ps : PartialSolution P S V Pr} {done : List (P × Term S)}
    {m : SmallMap P (Option Nat × Nat × Nat)} (h : ps.SatMap done m) {q0 : P} {t0 : Term S}
    {pa0 : PackageAssignments S V} {s : Option Nat × Nat × Nat} (hpa : ps.getPA q0 = some pa0)
    (hs : pa0.IsSat t0.negate s) : ps.SatMap (done ++ [(q0, t0)]) (SmallMap.insert m q0 s) := by
  refine ⟨SmallMap.nodup_insert _ h.nodup _ _, ?_, ?_⟩
  · intro q s' hm
    rcases SmallMap.mem_insert_sub hm with e | e
    · injection e with e1 e2; subst e1 e2
      exact ⟨t0, pa0, List.mem_append_right _ List.mem_cons_self, hpa, hs⟩
    · obtain ⟨t, pa, h1, h2⟩ := h.sound q s' e
      exact ⟨t, pa, List.mem_append_left _ h1, h2⟩
  · intro q t hm
    rw [SmallMap.get_insert]
    by_cases hq : q = q0
    · rw [if_pos hq]; rfl
    · rw [if_neg hq]
      rcases List.mem_append.1 hm with h1 | h1
      · exact h.complete q t h1
      · exact absurd (congrArg Prod.fst (List.mem_singleton.1 h1)) hq

theorem findSatisfier_go_safe (ps : PartialSolution P S V Pr) :
    ∀ (terms done : List (P × Term S)) (acc : SmallMap P (Option Nat × Nat × Nat)), ps.SatMap done acc →
    (∀ q t, (q, t) ∈ terms → ∃ pa, ps.getPA q = some pa ∧ pa.SatOK t.negate) →
    Safe (terms.foldlM (m := R) (fun acc (pt : P × Term S) => do
        let pa ← unwrapOr (ps.getPA pt.1) "find_satisfier: Must exist"
        let s ← satisfier pa pt.2.negate
        pure (SmallMap.insert acc pt.1 s)) acc)
      (ps.SatMap (done ++ terms)) := by
  intro terms
  induction terms with
  | nil =>
    intro done acc h _
    rw [List.append_nil]
    exact Safe.ok h
  | cons pt rest ih =>
    intro done acc h hpre
    obtain ⟨q0, t0⟩ := pt
    obtain ⟨pa0, hpa0, hok0⟩ := hpre q0 t0 List.mem_cons_self
    rw [List.foldlM_cons]
    refine Safe.bind (Q := ps.SatMap (done ++ [(q0, t0)])) ?_ ?_
    · exact Safe.bind_ok (unwrapOr_some hpa0)
        (Safe.bind (satisfier_safe hok0) fun s _ hsat => Safe.ok (h.insert hpa0 hsat))
    · intro acc1 _ h1
      have := ih (done ++ [(q0, t0)]) acc1 h1 (fun q t hm => hpre q t (List.mem_cons_of_mem _ hm))
      rwa [List.append_assoc] at this

theorem findSatisfier_safe (ps : PartialSolution P S V Pr) (terms : List (P × Term S))
    (hpre : ∀ q t, (q, t) ∈ terms → ∃ pa, ps.getPA q = some pa ∧ pa.SatOK t.negate) :
    Safe (ps.findSatisfier terms) (ps.SatMap terms) :=
  findSatisfier_go_safe ps terms [] [] (SatMap.nil ps) hpre

theorem maxByIndex_isSome : ∀ (m : List (P × (Option Nat × Nat × Nat))), m ≠ [] →
    ∃ y, maxByIndex m = some y := by
  intro m hm
  cases m with
  | nil => exact absurd rfl hm
  | cons x rest =>
    unfold maxByIndex
    split
    · exact ⟨_, rfl⟩
    · split <;> exact ⟨_, rfl⟩

theorem maxByIndex_max : ∀ (m : List (P × (Option Nat × Nat × Nat))) (y : P × (Option Nat × Nat × Nat)),
    maxByIndex m = some y → ∀ x ∈ m, x.2.2.1 ≤ y.2.2.1
  | x :: rest, y, h, z, hz => by
    unfold maxByIndex at h
    split at h
    · -- the rest is empty
      rename_i hnone
      injection h with h; subst h
      rcases List.mem_cons.1 hz with rfl | hz
      · exact Nat.le_refl _
      · obtain ⟨y0, hy0⟩ := maxByIndex_isSome rest (List.ne_nil_of_mem hz)
        rw [hy0] at hnone; cases hnone
    · rename_i y0 hy0
      have ih := maxByIndex_max rest y0 hy0
      split at h
      · rename_i hgt
        injection h with h; subst h
        rcases List.mem_cons.1 hz with rfl | hz
        · exact Nat.le_refl _
        · exact Nat.le_trans (ih z hz) (Nat.le_of_lt hgt)
      · rename_i hgt
        injection h with h; subst h
        rcases List.mem_cons.1 hz with rfl | hz
        · exact Nat.le_of_not_lt hgt
        · exact ih z hz


/-- the tail of `find_previous_satisfier` -/
def prevTail (inc : Incompat P S V M) (sp : P) (m : SmallMap P (Option Nat × Nat × Nat))
    (pa : PackageAssignments S V) (accumTerm : Term S) : R Nat := do
  let incompatTerm ← unwrapOr (inc.get sp) "satisfier package not in incompat"
  let s ← satisfier pa (accumTerm.intersection incompatTerm.negate)
  let y ← unwrapOr (maxByIndex (SmallMap.insert m sp s)) "find_previous_satisfier: max_by_key().unwrap()"
  pure (max y.2.2.2 1)

/-- the accumulated term `find_previous_satisfier` starts from -/
def prevAccum (sp : P) (pa : PackageAssignments S V) (store : List (Incompat P S V M)) (sc : Option Nat) :
    R (Term S) :=
  match sc with
  | some cause => do
    let c ← storeGet store cause
    let t ← unwrapOr (c.get sp) "find_previous_satisfier: store[cause].get().unwrap()"
    pure t.negate
  | none =>
    match pa.inter with
    | .derivations _ => throw (.panic "must be a decision")
    | .decision _ _ t => pure t

theorem findPreviousSatisfier_eq (ps : PartialSolution P S V Pr) (inc : Incompat P S V M) (sp : P)
    (m : SmallMap P (Option Nat × Nat × Nat)) (store : List (Incompat P S V M)) :
    ps.findPreviousSatisfier inc sp m store = (do
      let pa ← unwrapOr (ps.getPA sp) "find_previous_satisfier: get(satisfier_package).unwrap()"
      let sat ← unwrapOr (SmallMap.get m sp) "find_previous_satisfier: satisfied_map.get().unwrap()"
      let accum ← prevAccum sp pa store sat.1
      prevTail inc sp m pa accum) := by
  unfold findPreviousSatisfier prevAccum prevTail
  refine bind_congr fun pa => bind_congr fun sat => ?_
  obtain ⟨sc, sg, sl⟩ := sat
  cases sc with
  | some cause => simp only [bind_assoc, pure_bind]
  | none => cases pa.inter <;> rfl

theorem satisfierSearch_eq (ps : PartialSolution P S V Pr) (inc : Incompat P S V M)
    (store : List (Incompat P S V M)) :
    ps.satisfierSearch inc store = (do
      let m ← findSatisfier ps inc.terms
      let y ← unwrapOr (maxByIndex m) "satisfier_search: max_by_key().unwrap()"
      let prev ← findPreviousSatisfier ps inc y.1 m store
      if prev ≥ y.2.2.2 then do
        let c ← unwrapOr y.2.1 "satisfier_search: satisfier_cause.unwrap()"
        pure (y.1, .sameDecisionLevels c)
      else
        pure (y.1, .differentDecisionLevels prev)) := by
  unfold satisfierSearch
  rfl

end PartialSolution

/-- the term is satisfied by an assignment of level at most `lvl` -/
def PackageAssignments.SatBy (pa : PackageAssignments S V) (tr : Term S) (lvl : Nat) : Prop :=
  (∃ dd ∈ pa.dated, dd.decisionLevel ≤ lvl ∧ dd.accumulated.Imp tr) ∨
  (pa.highest ≤ lvl ∧ pa.inter.term.Imp tr)

theorem PackageAssignments.SatBy.mono {pa : PackageAssignments S V} {tr : Term S} {l l' : Nat}
    (h : pa.SatBy tr l) (hl : l ≤ l') : pa.SatBy tr l' := by
  rcases h with ⟨dd, h1, h2, h3⟩ | ⟨h1, h2⟩
  · exact Or.inl ⟨dd, h1, Nat.le_trans h2 hl, h3⟩
  · exact Or.inr ⟨Nat.le_trans h1 hl, h2⟩

/-- every term of the incompatibility is satisfied by the partial solution -/
def PartialSolution.Satisfies (ps : PartialSolution P S V Pr) (inc : Incompat P S V M) : Prop :=
  ∀ q t, (q, t) ∈ inc.terms → ∃ pa, ps.getPA q = some pa ∧ pa.inter.term.Imp t

/-- what the satisfier search needs to know of the partial solution -/
structure SearchCtx (root : P) (rv : V) (ps : PartialSolution P S V Pr) (store : List (Incompat P S V M)) :
    Prop where
  wf : ps.WF'
  tv : ps.TermsValid
  gmono : ps.GMono
  causes : ∀ p pa, (p, pa) ∈ ps.assignments → ∀ dd ∈ pa.dated,
    ∃ inc t, store[dd.cause]? = some inc ∧ inc.get p = some t ∧ t.Valid
  dated0 : ∀ p pa, (p, pa) ∈ ps.assignments → ∀ dd ∈ pa.dated, dd.decisionLevel = 0 → p = root
  first : ∀ p pa, (p, pa) ∈ ps.assignments → ∀ g v t, pa.inter = .decision g v t → pa.highest = 1 →
    p = root ∧ v = rv

/-- the postcondition of the satisfier search -/
def SearchPost (ps : PartialSolution P S V Pr) (inc : Incompat P S V M) (r : P × SatisfierSearch) : Prop :=
  (inc.get r.1).isSome = true ∧
  match r.2 with
  | .differentDecisionLevels prev => 1 ≤ prev ∧ (∃ pa, ps.getPA r.1 = some pa ∧ prev < pa.highest) ∧
      ∀ q t, (q, t) ∈ inc.terms → q ≠ r.1 → ∃ pa, ps.getPA q = some pa ∧ pa.SatBy t prev
  | .sameDecisionLevels c => ∃ pa dd, ps.getPA r.1 = some pa ∧ dd ∈ pa.dated ∧ dd.cause = c

theorem SmallMap.eq_singleton_of_keys {K T : Type} [DecidableEq K] {l : SmallMap K T} (hn : SmallMap.NoDupKeys l)
    {k : K} {t : T} (hall : ∀ kv ∈ l, kv.1 = k) (hm : (k, t) ∈ l) : l = [(k, t)] := by
  cases l with
  | nil => cases hm
  | cons x rest =>
    obtain ⟨a, b⟩ := x
    rw [SmallMap.nodup_cons] at hn
    have ha : a = k := hall (a, b) List.mem_cons_self
    subst ha
    cases rest with
    | nil =>
      rcases List.mem_cons.1 hm with e | e
      · rw [e]
      · cases e
    | cons y ys =>
      obtain ⟨c, d⟩ := y
      have hc : c = a := hall (c, d) (List.mem_cons_of_mem _ List.mem_cons_self)
      subst hc
      exact absurd List.mem_cons_self (hn.1 d)

theorem PackageAssignments.events_level0 {dl n i : Nat} {pa : PackageAssignments S V} (h : pa.WFAt dl n i)
    {g : Nat} {b : Bool} (he : (g, 0, b) ∈ pa.events) : ∃ dd ∈ pa.dated, dd.decisionLevel = 0 := by
  rcases mem_events.1 he with ⟨dd, hdd, e⟩ | ⟨g', v, t, hinter, e⟩
  · exact ⟨dd, hdd, congrArg (·.2.1) e⟩
  · have := (h.of_decision hinter).2.1
    have := congrArg (·.2.1) e
    simp only at this
    omega


namespace PartialSolution

theorem prevAccum_safe {root : P} {rv : V} {ps : PartialSolution P S V Pr} {store : List (Incompat P S V M)}
    (ctx : SearchCtx root rv ps store) {sp : P} {pa : PackageAssignments S V} (hpa : ps.getPA sp = some pa)
    {start : Term S} {sc : Option Nat} {sg sl : Nat} (hsat : pa.IsSat start (sc, sg, sl)) :
    Safe (prevAccum sp pa store sc) (fun accum => accum.Valid ∧ (sc = none → accum = pa.inter.term)) := by
  have hmem := SmallMap.mem_of_get hpa
  unfold prevAccum
  cases sc with
  | some cause =>
    obtain ⟨dd, hdd, _, e, _⟩ := hsat.of_some
    subst e
    obtain ⟨inc, t, hinc, ht, htv⟩ := ctx.causes sp pa hmem dd hdd
    exact Safe.bind_ok (storeGet_some hinc)
      (Safe.bind_ok (unwrapOr_some ht) (Safe.ok ⟨Term.valid_negate _ htv, fun h => nomatch h⟩))
  | none =>
    obtain ⟨_, v, t, hinter, _⟩ := hsat.of_none
    have hv := (ctx.tv _ hmem).inter
    rw [hinter] at hv ⊢
    exact Safe.ok ⟨hv, fun _ => rfl⟩

theorem prevTail_safe {inc : Incompat P S V M} {sp : P} {m : SmallMap P (Option Nat × Nat × Nat)}
    {pa : PackageAssignments S V} {accum t : Term S} {dl n i : Nat} (hw : pa.WFAt dl n i)
    (hv : pa.TermsValid) (hget : inc.get sp = some t) (htv : t.Valid) (hav : accum.Valid)
    (himp : pa.inter.term.Imp t) :
    Safe (prevTail inc sp m pa accum) (fun prev => ∃ s' y', pa.IsSat (accum.intersection t.negate) s' ∧
      maxByIndex (SmallMap.insert m sp s') = some y' ∧ prev = max y'.2.2.2 1) := by
  unfold prevTail
  refine Safe.bind_ok (unwrapOr_some hget) ?_
  refine Safe.bind (satisfier_safe (PackageAssignments.satOK_of_disjoint hw
    (Term.disjoint_inter_negate_of_imp hv.inter htv hav himp))) ?_
  intro s' _ hs'
  have hne : SmallMap.insert m sp s' ≠ [] := by
    intro e
    have := SmallMap.get_insert m sp sp s'
    rw [e, if_pos rfl] at this
    cases this
  obtain ⟨y', hy'⟩ := maxByIndex_isSome _ hne
  exact Safe.bind_ok (unwrapOr_some hy') (Safe.ok ⟨s', y', hs', hy', rfl⟩)

theorem SatMap.event {ps : PartialSolution P S V Pr} {terms : List (P × Term S)}
    {m : SmallMap P (Option Nat × Nat × Nat)} (hm : ps.SatMap terms m) {q : P} {s : Option Nat × Nat × Nat}
    (hqs : (q, s) ∈ m) : ∃ qa b, (q, qa) ∈ ps.assignments ∧ (s.2.1, s.2.2, b) ∈ qa.events := by
  obtain ⟨t, qa, _, hqa, hq⟩ := hm.sound q s hqs
  obtain ⟨b, hb⟩ := hq.event
  exact ⟨qa, b, SmallMap.mem_of_get hqa, hb⟩

theorem GMono.of_ne {ps : PartialSolution P S V Pr} (h : ps.GMono) {p q : P} {pa qa : PackageAssignments S V}
    (hp : (p, pa) ∈ ps.assignments) (hq : (q, qa) ∈ ps.assignments) (hpq : p ≠ q) {a b : Nat × Nat × Bool}
    (ha : a ∈ pa.events) (hb : b ∈ qa.events) (hab : a.1 ≤ b.1) :
    a.2.1 ≤ b.2.1 ∧ (b.2.2 = true → a.2.1 < b.2.1) := by
  have hg := h p pa q qa hp hq a ha b hb
  rcases Nat.lt_or_ge a.1 b.1 with hlt | hge
  · exact hg.1 hlt
  · exact absurd (hg.2 (Nat.le_antisymm hab hge)) hpq

/-- If the latest satisfier is a decision and the search does not find a lower previous level, the
decision is the first one (for the root) and the incompatibility consists of a term for the root
that the root version satisfies: it is terminal. -/
theorem terminal_of_decision_satisfier {root : P} {rv : V} {ps : PartialSolution P S V Pr}
    {store : List (Incompat P S V M)} (ctx : SearchCtx root rv ps store) {inc : Incompat P S V M}
    (hn : SmallMap.NoDupKeys inc.terms) {m : SmallMap P (Option Nat × Nat × Nat)} (hm : ps.SatMap inc.terms m)
    {sp : P} {pa : PackageAssignments S V} {tsp : Term S} (hpa : ps.getPA sp = some pa)
    (htsp : (sp, tsp) ∈ inc.terms) (htspv : tsp.Valid) (himp : pa.inter.term.Imp tsp)
    {sg : Nat} {v : V} {t0 : Term S} (hinter : pa.inter = .decision sg v t0)
    (hymax : ∀ x ∈ m, x.2.2.1 ≤ sg) {s' : Option Nat × Nat × Nat} {y' : P × (Option Nat × Nat × Nat)}
    (hs' : pa.IsSat (pa.inter.term.intersection tsp.negate) s') (hy' : y' ∈ SmallMap.insert m sp s')
    (hge : pa.highest ≤ max y'.2.2.2 1) : inc.isTerminal root rv = true := by
  have hw := ctx.wf
  have hpamem := SmallMap.mem_of_get hpa
  obtain ⟨i, _, hwf, hwx⟩ := hw.entry_of_getPA hpa
  have hpav := ctx.tv _ hpamem
  obtain ⟨rfl, hhi, _, hbefore, _⟩ := hwf.of_decision hinter
  have hdec := PackageAssignments.mem_events_decision hinter
  -- the previous satisfier is a derivation made before the decision
  have hs'lt : s'.2.2 < pa.highest := by
    rcases hs' with ⟨dd, hdd, _, rfl⟩ | ⟨hall', _⟩
    · exact ((ctx.gmono sp pa sp pa hpamem hpamem _ (PackageAssignments.mem_events_dated hdd) _ hdec).1
        (hbefore dd hdd)).2 rfl
    · obtain ⟨f, hf, _⟩ := hwx.head
      have hfm := List.mem_of_mem_head? hf
      have := Term.disjoint_of_empty (hpav.dated f hfm) htspv hpav.inter himp
      rw [hall' f hfm] at this; cases this
  have hother : ∀ q s, (q, s) ∈ m → q ≠ sp → s.2.2 < pa.highest := by
    intro q s hqs hq
    obtain ⟨qa, b, hqa, hb⟩ := hm.event hqs
    exact (ctx.gmono.of_ne hqa hpamem hq hb hdec (hymax _ hqs)).2 rfl
  have hy'lt : y'.2.2.2 < pa.highest := by
    rcases (SmallMap.mem_insert_iff m hm.nodup sp s' y'.1 y'.2).1 hy' with ⟨_, e⟩ | ⟨hq, hqs⟩
    · rw [e]; exact hs'lt
    · exact hother _ _ hqs hq
  obtain ⟨rfl, rfl⟩ := ctx.first sp pa hpamem _ _ _ hinter (by omega)
  -- every other satisfier would be at level 0, where only the root has assignments
  have hterms : inc.terms = [(sp, tsp)] := by
    refine SmallMap.eq_singleton_of_keys hn (fun kv hkv => ?_) htsp
    by_contra hq
    have hc := hm.complete kv.1 kv.2 hkv
    cases hg : SmallMap.get m kv.1 with
    | none => rw [hg] at hc; cases hc
    | some s =>
      have hqs := SmallMap.mem_of_get hg
      have hlt := hother _ _ hqs hq
      obtain ⟨qa, b, hqa, hb⟩ := hm.event hqs
      have hs0 : s.2.2 = 0 := by omega
      rw [hs0] at hb
      obtain ⟨j, _, hwfq, _⟩ := hw.entry_of_mem hqa
      obtain ⟨dd, hdd, hdd0⟩ := PackageAssignments.events_level0 hwfq hb
      exact hq (ctx.dated0 _ qa hqa dd hdd hdd0)
  rw [hinter] at himp
  unfold Incompat.isTerminal
  rw [hterms]
  simp only [decide_true, Bool.true_and]
  exact (Term.exact_imp_iff tsp v).1 himp

theorem satBy_previous {root : P} {rv : V} {ps : PartialSolution P S V Pr}
    {store : List (Incompat P S V M)} (ctx : SearchCtx root rv ps store) {inc : Incompat P S V M}
    (hn : SmallMap.NoDupKeys inc.terms) (hsv : inc.SetsValid) (hsat : ps.Satisfies inc)
    {m : SmallMap P (Option Nat × Nat × Nat)} (hm : ps.SatMap inc.terms m)
    {sp : P} {pa : PackageAssignments S V} (hpamem : (sp, pa) ∈ ps.assignments)
    {s' : Option Nat × Nat × Nat} (hs' : ∃ b, (s'.2.1, s'.2.2, b) ∈ pa.events)
    {y' : P × (Option Nat × Nat × Nat)} (hy' : maxByIndex (SmallMap.insert m sp s') = some y')
    {q : P} {t : Term S} (hqt : (q, t) ∈ inc.terms) (hq : q ≠ sp) :
    ∃ qa, ps.getPA q = some qa ∧ qa.SatBy t y'.2.2.2 := by
  obtain ⟨qa, hqa, himpq⟩ := hsat q t hqt
  refine ⟨qa, hqa, ?_⟩
  have hn' := SmallMap.nodup_insert m hm.nodup sp s'
  have hy'mem := maxByIndex_mem _ _ hy'
  have hc := hm.complete q t hqt
  cases hg : SmallMap.get m q with
  | none => rw [hg] at hc; cases hc
  | some s =>
    have hqs := SmallMap.mem_of_get hg
    have hqs' : (q, s) ∈ SmallMap.insert m sp s' :=
      (SmallMap.mem_insert_iff m hm.nodup _ _ _ _).2 (Or.inr ⟨hq, hqs⟩)
    obtain ⟨t', qa', hqt', hqa', hq'⟩ := hm.sound q s hqs
    rw [hqa] at hqa'; injection hqa' with hqa'; subst hqa'
    have ht' : t' = t := Option.some.inj ((SmallMap.get_of_mem hn hqt').symm.trans (SmallMap.get_of_mem hn hqt))
    subst ht'
    -- the satisfier of `q` is not above the previous satisfier
    have hlvl : s.2.2 ≤ y'.2.2.2 := by
      by_cases hqy : q = y'.1
      · have h2 := SmallMap.get_of_mem hn' hy'mem
        rw [← hqy, SmallMap.get_of_mem hn' hqs'] at h2
        rw [Option.some.inj h2]
      · obtain ⟨b, hb⟩ := hq'.event
        have hya : ∃ ya b', (y'.1, ya) ∈ ps.assignments ∧ (y'.2.2.1, y'.2.2.2, b') ∈ ya.events := by
          rcases (SmallMap.mem_insert_iff m hm.nodup sp s' y'.1 y'.2).1 hy'mem with ⟨e1, e2⟩ | ⟨_, hy'm⟩
          · obtain ⟨b', hb'⟩ := hs'
            rw [e1, e2]; exact ⟨pa, b', hpamem, hb'⟩
          · exact hm.event hy'm
        obtain ⟨ya, b', hya, hb'⟩ := hya
        exact (ctx.gmono.of_ne (SmallMap.mem_of_get hqa) hya hqy hb hb' (maxByIndex_max _ _ hy' _ hqs')).1
    refine PackageAssignments.SatBy.mono ?_ hlvl
    rcases hq' with ⟨dd, hdd, hdis, rfl⟩ | ⟨_, g, v, t0, hinter, rfl⟩
    · exact Or.inl ⟨dd, hdd, Nat.le_refl _, Term.imp_of_disjoint_negate
        ((ctx.tv _ (SmallMap.mem_of_get hqa)).dated dd hdd) (hsv q t' hqt) hdis⟩
    · exact Or.inr ⟨Nat.le_refl _, himpq⟩

theorem satisfierSearch_post {root : P} {rv : V} {ps : PartialSolution P S V Pr}
    {store : List (Incompat P S V M)} (ctx : SearchCtx root rv ps store) {inc : Incompat P S V M}
    (hn : SmallMap.NoDupKeys inc.terms) (hsv : inc.SetsValid) (hsat : ps.Satisfies inc)
    (hnt : inc.isTerminal root rv = false) :
    Safe (ps.satisfierSearch inc store) (fun r => SearchPost ps inc r ∧
      ∀ c, r.2 = .sameDecisionLevels c → ∃ m sg sl, ps.findSatisfier inc.terms = .ok m ∧
        ps.SatMap inc.terms m ∧ maxByIndex m = some (r.1, some c, sg, sl)) := by
  have hw := ctx.wf
  rw [satisfierSearch_eq]
  -- find_satisfier
  refine Safe.bind (findSatisfier_safe ps inc.terms ?_) ?_
  · intro q t hm
    obtain ⟨pa, hpa, himp⟩ := hsat q t hm
    obtain ⟨i, _, hwf, _⟩ := hw.entry_of_getPA hpa
    exact ⟨pa, hpa, PackageAssignments.satOK_of_disjoint hwf
      (Term.disjoint_negate_of_imp (ctx.tv _ (SmallMap.mem_of_get hpa)).inter (hsv q t hm) himp)⟩
  intro m hmeq hm
  -- the incompatibility has a term, so the map has an entry
  have hmne : m ≠ [] := by
    intro e
    cases hT : inc.terms with
    | nil =>
      unfold Incompat.isTerminal at hnt
      rw [hT] at hnt; cases hnt
    | cons x xs =>
      have := hm.complete x.1 x.2 (by rw [hT]; exact List.mem_cons_self)
      rw [e] at this; cases this
  obtain ⟨y, hy⟩ := maxByIndex_isSome m hmne
  refine Safe.bind_ok (unwrapOr_some hy) ?_
  obtain ⟨sp, sc, sg, sl⟩ := y
  have hymem := maxByIndex_mem m _ hy
  obtain ⟨tsp, pa, htsp, hpa, hissat⟩ := hm.sound sp _ hymem
  have hgetsp : inc.get sp = some tsp := SmallMap.get_of_mem hn htsp
  have hpamem := SmallMap.mem_of_get hpa
  obtain ⟨i, hi, hwf, hwx⟩ := hw.entry_of_getPA hpa
  have htspv : tsp.Valid := hsv sp tsp htsp
  have himp : pa.inter.term.Imp tsp := by
    obtain ⟨pa', hpa', himp⟩ := hsat sp tsp htsp
    rw [hpa] at hpa'; injection hpa' with hpa'; subst hpa'; exact himp
  -- find_previous_satisfier
  dsimp only
  rw [findPreviousSatisfier_eq]
  refine Safe.bind ?_ (Q := fun prev => ∃ accum s' y', (sc = none → accum = pa.inter.term) ∧
      pa.IsSat (accum.intersection tsp.negate) s' ∧
      maxByIndex (SmallMap.insert m sp s') = some y' ∧ prev = max y'.2.2.2 1) ?_
  · refine Safe.bind_ok (unwrapOr_some hpa) ?_
    refine Safe.bind_ok (unwrapOr_some (SmallMap.get_of_mem hm.nodup hymem)) ?_
    refine Safe.bind (prevAccum_safe ctx hpa hissat) ?_
    intro accum _ ⟨hav, hanone⟩
    refine (prevTail_safe hwf (ctx.tv _ hpamem) hgetsp htspv hav himp).mono ?_
    intro prev _ ⟨s', y', h1, h2, h3⟩
    exact ⟨accum, s', y', hanone, h1, h2, h3⟩
  intro prev _ ⟨accum, s', y', hanone, hs', hy', hprev⟩
  have hgetsp' : (inc.get sp).isSome = true := by rw [hgetsp]; rfl
  by_cases hge : prev ≥ sl
  · rw [if_pos hge]
    cases sc with
    | some c =>
      obtain ⟨dd, hdd, _, hc, _⟩ := hissat.of_some
      refine Safe.ok ⟨⟨hgetsp', pa, dd, hpa, hdd, hc⟩, fun c' e => ?_⟩
      injection e with e; subst e
      exact ⟨m, sg, sl, hmeq, hm, hy⟩
    | none =>
      obtain ⟨_, v, t0, hinter, hsl⟩ := hissat.of_none
      rw [hanone rfl] at hs'
      rw [terminal_of_decision_satisfier ctx hn hm hpa htsp htspv himp hinter (maxByIndex_max m _ hy)
        hs' (maxByIndex_mem _ _ hy') (by omega)] at hnt
      cases hnt
  · rw [if_neg hge]
    refine Safe.ok ⟨⟨hgetsp', by omega, ⟨pa, hpa, ?_⟩, ?_⟩, fun c e => nomatch e⟩
    · have := hissat.level_le hwx
      dsimp only at this ⊢
      omega
    · intro q t hqt hq
      obtain ⟨qa, hqa, hsb⟩ := satBy_previous ctx hn hsv hsat hm hpamem hs'.event hy' hqt hq
      exact ⟨qa, hqa, hsb.mono (by omega)⟩

theorem satisfierSearch_safe {root : P} {rv : V} {ps : PartialSolution P S V Pr}
    {store : List (Incompat P S V M)} (ctx : SearchCtx root rv ps store) {inc : Incompat P S V M}
    (hn : SmallMap.NoDupKeys inc.terms) (hsv : inc.SetsValid) (hsat : ps.Satisfies inc)
    (hnt : inc.isTerminal root rv = false) :
    Safe (ps.satisfierSearch inc store) (SearchPost ps inc) :=
  (satisfierSearch_post ctx hn hsv hsat hnt).mono fun _ _ h => h.1

end PartialSolution
end

end Pubgrub
