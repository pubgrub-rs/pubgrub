/-
The semantic notion "the clause is excluded by the partial solution" (`Incompat.SContra`: some term of
the clause is disjoint, as a set of choices, from the term the partial solution holds for its package),
its monotonicity, and the term a package had at a lower decision level (`termAt` / `termsAt`).

Why semantic: `Incompat.relation … = .contradicted _` is not monotone under shrinking of the partial
solution's terms (a term without members is a subset of everything, so `relation_with` answers
`Satisfied` before it looks at disjointness); see the counterexample in `OwnInvariantCex.lean`.
-/
import PubgrubProofs.OwnDefs
import PubgrubProofs.PSPending

set_option linter.unusedSectionVars false

namespace Pubgrub
open VersionSet

section Sem
variable {P S V M Pr : Type} [DecidableEq P] [VersionSet S V] [DecidableEq S]

/-- the two terms exclude each other: no choice for the package makes both true -/
def Term.Disj (t o : Term S) : Prop := ∀ c : Option V, ¬ (t.eval c = true ∧ o.eval c = true)

/-- every choice allowed by `o'` is allowed by `o` -/
def Term.Sub (o' o : Term S) : Prop := ∀ c : Option V, o'.eval c = true → o.eval c = true

theorem Term.Sub.refl (o : Term S) : o.Sub o := fun _ h => h

theorem Term.Sub.trans {a b c : Term S} (h1 : a.Sub b) (h2 : b.Sub c) : a.Sub c :=
  fun x h => h2 x (h1 x h)

theorem Term.Disj.mono {t o o' : Term S} (h : t.Disj o) (hs : o'.Sub o) : t.Disj o' :=
  fun c hc => h c ⟨hc.1, hs c hc.2⟩

/-- semantic "contradicted": some term of the clause is disjoint from what the assignment `f` says
of its package -/
def Incompat.SContra (inc : Incompat P S V M) (f : P → Option (Term S)) : Prop :=
  ∃ q t o, (q, t) ∈ inc.terms ∧ f q = some o ∧ t.Disj o

/-- the assignment `f'` is pointwise at least as defined and at least as strict as `f` -/
def TermsLE (f' f : P → Option (Term S)) : Prop :=
  ∀ q o, f q = some o → ∃ o', f' q = some o' ∧ o'.Sub o

theorem TermsLE.refl (f : P → Option (Term S)) : TermsLE f f :=
  fun _ o h => ⟨o, h, Term.Sub.refl o⟩

theorem TermsLE.of_eq {f' f : P → Option (Term S)} (h : f' = f) : TermsLE f' f := h ▸ TermsLE.refl f

theorem Incompat.SContra.mono {inc : Incompat P S V M} {f f' : P → Option (Term S)}
    (h : inc.SContra f) (hle : TermsLE f' f) : inc.SContra f' := by
  obtain ⟨q, t, o, hm, hf, hd⟩ := h
  obtain ⟨o', hf', hs⟩ := hle q o hf
  exact ⟨q, t, o', hm, hf', hd.mono hs⟩

theorem Incompat.relationGo_contradicted (f : P → Option (Term S)) :
    ∀ (l : List (P × Term S)) (rel : Relation P) (q : P),
      Incompat.relationGo f rel l = .contradicted q → (∀ q', rel ≠ .contradicted q') →
      ∃ t o, (q, t) ∈ l ∧ f q = some o ∧ t.relationWith o = .contradicted := by
  intro l
  induction l with
  | nil =>
    intro rel q h hrel
    simp only [Incompat.relationGo] at h
    exact absurd h (hrel q)
  | cons x rest ih =>
    intro rel q h hrel
    obtain ⟨p, t⟩ := x
    unfold Incompat.relationGo at h
    cases hf : f p with
    | none =>
      simp only [hf, Option.map_none] at h
      split at h
      · obtain ⟨t', o, hm, hfo, hr⟩ := ih _ q h (by intro q' e; cases e)
        exact ⟨t', o, List.mem_cons_of_mem _ hm, hfo, hr⟩
      · cases h
    | some o =>
      simp only [hf, Option.map_some] at h
      cases hr : t.relationWith o with
      | satisfied =>
        simp only [hr] at h
        obtain ⟨t', o', hm, hfo, hr'⟩ := ih _ q h hrel
        exact ⟨t', o', List.mem_cons_of_mem _ hm, hfo, hr'⟩
      | contradicted =>
        simp only [hr] at h
        injection h with h; subst h
        exact ⟨t, o, List.mem_cons_self, hf, hr⟩
      | inconclusive =>
        simp only [hr] at h
        split at h
        · obtain ⟨t', o', hm, hfo, hr'⟩ := ih _ q h (by intro q' e; cases e)
          exact ⟨t', o', List.mem_cons_of_mem _ hm, hfo, hr'⟩
        · cases h

end Sem

section SemLawful
variable {P S V M Pr : Type} [DecidableEq P] [VersionSet S V] [DecidableEq S] [LawfulVersionSet S V]

theorem Incompat.sContra_of_relation {inc : Incompat P S V M} {f : P → Option (Term S)} {q : P}
    (hv : inc.SetsValid) (hf : ∀ p o, f p = some o → o.Valid)
    (h : inc.relation f = .contradicted q) : inc.SContra f := by
  obtain ⟨t, o, hm, hfo, hr⟩ := Incompat.relationGo_contradicted f inc.terms .satisfied q h
    (by intro q' e; cases e)
  exact ⟨q, t, o, hm, hfo, ((Term.relationWith_contradicted_iff t o (hv q t hm) (hf q o hfo)).1 hr).2⟩

theorem Term.sub_intersection_left (a b : Term S) (ha : a.Valid) (hb : b.Valid) :
    (a.intersection b).Sub a := by
  intro c hc
  rw [Term.eval_intersection a b ha hb] at hc
  cases h : a.eval c
  · rw [h] at hc; cases hc
  · rfl

theorem Term.sub_intersection_right (a b : Term S) (ha : a.Valid) (hb : b.Valid) :
    (a.intersection b).Sub b := by
  intro c hc
  rw [Term.eval_intersection a b ha hb] at hc
  cases h : b.eval c
  · rw [h, Bool.and_false] at hc; cases hc
  · rfl

theorem Term.disj_negate (t : Term S) : t.Disj t.negate := by
  intro c hc
  rw [Term.eval_negate] at hc
  cases h : t.eval c <;> simp [h] at hc

theorem Term.sub_exact_of_contains {t : Term S} {v : V} (h : t.contains v = true) :
    (Term.exact v : Term S).Sub t := by
  intro c hc
  rw [Term.eval_exact] at hc
  subst hc
  rw [← Term.contains_eq_eval]; exact h

end SemLawful

section Pop
variable {S : Type}

theorem PartialSolution.popWhileAbove_eq (dl : Nat) (l : List (DatedDerivation S)) :
    PartialSolution.popWhileAbove dl l =
      (l.reverse.dropWhile fun dd => decide (dd.decisionLevel > dl)).reverse := by
  unfold PartialSolution.popWhileAbove
  split
  · rfl
  · rfl

theorem PartialSolution.pop_append_above (dl : Nat) (l : List (DatedDerivation S)) (dd : DatedDerivation S)
    (h : dd.decisionLevel > dl) :
    PartialSolution.popWhileAbove dl (l ++ [dd]) = PartialSolution.popWhileAbove dl l := by
  rw [popWhileAbove_eq, popWhileAbove_eq, List.reverse_append, List.reverse_singleton,
    List.singleton_append, List.dropWhile_cons_of_pos (by simpa using h)]

theorem PartialSolution.pop_of_last_le (dl : Nat) (l : List (DatedDerivation S)) (x : DatedDerivation S)
    (hx : l.getLast? = some x) (h : x.decisionLevel ≤ dl) :
    PartialSolution.popWhileAbove dl l = l := by
  obtain ⟨ys, rfl⟩ := List.getLast?_eq_some_iff.1 hx
  rw [popWhileAbove_eq, List.reverse_append, List.reverse_singleton, List.singleton_append,
    List.dropWhile_cons_of_neg (by simpa using h)]
  simp

theorem List.dropWhile_eq_nil_of_all {α : Type} (p : α → Bool) :
    ∀ l : List α, (∀ a ∈ l, p a = true) → l.dropWhile p = [] := by
  intro l
  induction l with
  | nil => intro _; rfl
  | cons a l ih =>
    intro h
    rw [List.dropWhile_cons_of_pos (h a List.mem_cons_self)]
    exact ih (fun b hb => h b (List.mem_cons_of_mem _ hb))

theorem PartialSolution.pop_all_above (dl : Nat) (l : List (DatedDerivation S))
    (h : ∀ dd ∈ l, dd.decisionLevel > dl) : PartialSolution.popWhileAbove dl l = [] := by
  rw [popWhileAbove_eq, List.reverse_eq_nil_iff]
  apply List.dropWhile_eq_nil_of_all
  intro dd hdd
  simpa using h dd (List.mem_reverse.1 hdd)

theorem List.dropWhile_dropWhile_of_imp {α : Type} (p q : α → Bool) (hpq : ∀ a, q a = true → p a = true) :
    ∀ l : List α, (l.dropWhile q).dropWhile p = l.dropWhile p := by
  intro l
  induction l with
  | nil => rfl
  | cons a l ih =>
    by_cases hq : q a = true
    · rw [List.dropWhile_cons_of_pos hq, List.dropWhile_cons_of_pos (hpq a hq)]; exact ih
    · rw [List.dropWhile_cons_of_neg hq]

theorem PartialSolution.pop_pop (dl dl' : Nat) (hle : dl ≤ dl') (l : List (DatedDerivation S)) :
    PartialSolution.popWhileAbove dl (PartialSolution.popWhileAbove dl' l) =
      PartialSolution.popWhileAbove dl l := by
  rw [popWhileAbove_eq dl, popWhileAbove_eq dl', popWhileAbove_eq dl, List.reverse_reverse,
    List.dropWhile_dropWhile_of_imp]
  intro a ha
  simp only [decide_eq_true_eq] at ha ⊢
  omega

end Pop

section TermAt
variable {P S V M Pr : Type} [DecidableEq P] [VersionSet S V] [DecidableEq S]

/-- the term the entry had when the decision level was `l` (what `backtrack l` leaves) -/
def PackageAssignments.termAt (pa : PackageAssignments S V) (l : Nat) : Option (Term S) :=
  if pa.highest ≤ l then some pa.inter.term
  else (PartialSolution.popWhileAbove l pa.dated).getLast?.map (·.accumulated)

/-- the terms of the partial solution restricted to the assignments of level ≤ `l` -/
def PartialSolution.termsAt (ps : PartialSolution P S V Pr) (l : Nat) (p : P) : Option (Term S) :=
  (ps.getPA p).bind (·.termAt l)

def PartialSolution.terms (ps : PartialSolution P S V Pr) (p : P) : Option (Term S) :=
  ps.termIntersectionForPackage p

/-- Inv-Own, semantic form (compare `State.OwnInv`): for every decided package `p` (index `i`, decision
level `i+1`) and every level `l` from `i+1` up to the current one, every indexed incompatibility owned by
`p` is excluded (`Incompat.SContra`) by the partial solution restricted to level `l` -/
def State.OwnInvSem (st : State P S V M Pr) : Prop :=
  ∀ (i : Nat) (p : P) (pa : PackageAssignments S V), st.ps.assignments[i]? = some (p, pa) →
    i < st.ps.currentDecisionLevel →
    ∀ l, i + 1 ≤ l → l ≤ st.ps.currentDecisionLevel →
    ∀ psl, st.ps.backtrack l = .ok psl →
    ∀ id ∈ st.indexOf p, ∀ inc : Incompat P S V M, st.store[id]? = some inc → inc.OwnedBy p →
      inc.SContra psl.terms

/-- soundness of the `contradicted_incompatibilities` cache, semantic form (compare
`State.CacheSound`) -/
def State.CacheSoundSem (st : State P S V M Pr) : Prop :=
  ∀ (id l : Nat), (id, l) ∈ st.contradicted → l ≤ st.ps.currentDecisionLevel ∧ id < st.store.length ∧
    ∀ psl, st.ps.backtrack l = .ok psl → ∀ inc : Incompat P S V M, st.store[id]? = some inc →
      inc.SContra psl.terms

theorem PartialSolution.relation_eq (ps : PartialSolution P S V Pr) (i : Incompat P S V M) :
    ps.relation i = i.relation ps.terms := rfl

theorem PackageAssignments.termAt_of_le {pa : PackageAssignments S V} {l : Nat} (h : pa.highest ≤ l) :
    pa.termAt l = some pa.inter.term := by
  unfold termAt; rw [if_pos h]

end TermAt

section TermAtLawful
variable {P S V M Pr : Type} [DecidableEq P] [VersionSet S V] [DecidableEq S] [LawfulVersionSet S V]

namespace PartialSolution

theorem termsAt_top {ps : PartialSolution P S V Pr} (h : ps.WF) {l : Nat}
    (hl : ps.currentDecisionLevel ≤ l) : ps.termsAt l = ps.terms := by
  funext p
  unfold termsAt terms termIntersectionForPackage
  cases hpa : ps.getPA p with
  | none => rfl
  | some pa =>
    simp only [Option.bind_some, Option.map_some]
    exact PackageAssignments.termAt_of_le (Nat.le_trans (highest_le h hpa) hl)

theorem termAt_undecided_eq {pa : PackageAssignments S V} {dl next i : Nat} (hw : pa.WFAt dl next i)
    (hi : dl ≤ i) (l : Nat) :
    pa.termAt l = (popWhileAbove l pa.dated).getLast?.map (·.accumulated) := by
  unfold PackageAssignments.termAt
  split
  · rename_i hle
    obtain ⟨t', last, f, e1, e2, e3, e4, e5, e6, e7⟩ := hw.undecided hi
    rw [pop_of_last_le l pa.dated last e3 (by omega), e3, e1]
    simp [AssignInter.term, e5]
  · rfl

end PartialSolution
end TermAtLawful
end Pubgrub
