/-
Adding incompatibilities (`addIncompatibility`, `addIncompatibilityFromDependencies`) and changes of the
partial solution that leave the assignments alone.
-/
import PubgrubProofs.OwnPropagation

namespace Pubgrub
open VersionSet

section Lawful
variable {P S V M Pr : Type} [DecidableEq P] [VersionSet S V] [DecidableEq S] [LawfulVersionSet S V]

namespace State

theorem foldlM_merge_sem (W : World P S V M) (root : P) (rv : V) {waive : P → Nat → Prop} :
    ∀ (n lo : Nat) {st st' : State P S V M Pr},
    (List.range' lo n).foldlM (m := R) (fun st id => mergeIncompatibility st id) st = .ok st' →
    Sem W root rv st waive → st.ICx lo (lo + n) → lo + n ≤ st.store.length →
    (∀ id inc, lo ≤ id → id < lo + n → st.store[id]? = some inc → ∀ p, inc.OwnedBy p →
      ∀ pa g v t, st.ps.getPA p = some pa → pa.inter ≠ .decision g v t) →
    Sem W root rv st' waive ∧ st'.IndexComplete ∧ StorePrefix st st' ∧ st'.ps = st.ps := by
  intro n
  induction n with
  | zero =>
    intro lo st st' hr h hicx _ _
    simp only [List.range'_zero, List.foldlM_nil, pure, Except.pure] at hr
    injection hr with hr; subst hr
    exact ⟨h, State.indexComplete_of_icx hicx (Nat.le_refl _), StorePrefix.refl _, rfl⟩
  | succ n ih =>
    intro lo st st' hr h hicx hlen Hown
    rw [List.range'_succ] at hr
    simp only [List.foldlM_cons, bind, Except.bind] at hr
    split at hr
    · cases hr
    rename_i st1 hm
    have hpos : lo < lo + (n + 1) := Nat.lt_add_of_pos_right (Nat.succ_pos n)
    have hshift : lo + 1 + n = lo + (n + 1) := by rw [Nat.add_assoc, Nat.add_comm 1 n]
    obtain ⟨h1, h2, h3, h4, hps⟩ := mergeIncompatibility_own W root rv hm h
      (fun inc hinc => Hown lo inc (Nat.le_refl _) hpos hinc) hicx
    have hrec := ih (lo + 1) hr h1 ?_ (hshift ▸ Nat.le_trans hlen h4.length_le) ?_
    · exact ⟨hrec.1, hrec.2.1, h4.trans hrec.2.2.1, hrec.2.2.2.trans hps⟩
    · intro id x hx hw
      by_cases hid : id = lo
      · subst hid
        exact h3 x (h4.get_old (Nat.lt_of_lt_of_le hpos hlen) hx)
      · exact h2 id x hx (hw.imp (fun hlt => Nat.lt_of_le_of_ne (Nat.le_of_lt_succ hlt) hid)
          (fun hge => hshift ▸ hge))
    · intro id inc hid1 hid2 hinc p ho pa g v t hpa
      rw [hps] at hpa
      rw [hshift] at hid2
      exact Hown id inc (Nat.le_of_succ_le hid1) hid2 (h4.get_old (Nat.lt_of_lt_of_le hid2 hlen) hinc)
        p ho pa g v t hpa

theorem appendMerge_sem (W : World P S V M) (root : P) (rv : V) {waive : P → Nat → Prop}
    {st st' : State P S V M Pr} (extra : List (Incompat P S V M))
    (hr : (List.range' st.store.length extra.length).foldlM (m := R)
      (fun st id => mergeIncompatibility st id) { st with store := st.store ++ extra } = .ok st')
    (h : Sem W root rv st waive) (hic : st.IndexComplete) (hg : StoreInv W root rv (st.store ++ extra))
    (Hown : ∀ inc ∈ extra, ∀ p, inc.OwnedBy p →
      ∀ pa g v t, st.ps.getPA p = some pa → pa.inter ≠ .decision g v t) :
    Sem W root rv st' waive ∧ st'.IndexComplete ∧
      StorePrefix { st with store := st.store ++ extra } st' ∧ st'.ps = st.ps := by
  have hpre := StorePrefix.append st extra
  refine foldlM_merge_sem W root rv extra.length st.store.length hr (Sem.storeAppend W root rv h extra hg)
    ?_ (Nat.le_of_eq List.length_append.symm) ?_
  · intro id x hx hw
    have hl := (List.getElem?_eq_some_iff.1 hx).1
    rw [show (st.store ++ extra).length = st.store.length + extra.length from List.length_append] at hl
    exact State.Rep.mono (hic id x (hpre.get_old (hw.resolve_right (Nat.not_le_of_lt hl)) hx)) hpre (fun _ _ hi => hi)
  · intro id inc hid1 _ hinc
    rw [show (st.store ++ extra)[id]? = extra[id - st.store.length]? from
      List.getElem?_append_right hid1] at hinc
    exact Hown inc (List.mem_of_getElem? hinc)

theorem addIncompatibility_sem (W : World P S V M) (root : P) (rv : V)
    {st st' : State P S V M Pr} {inc : Incompat P S V M} {waive : P → Nat → Prop}
    (hr : addIncompatibility st inc = .ok st') (h : Sem W root rv st waive) (hic : st.IndexComplete)
    (g : inc.Good W root rv st.store st.store.length)
    (Hown : ∀ p, inc.OwnedBy p → ∀ pa g v t, st.ps.getPA p = some pa → pa.inter ≠ .decision g v t) :
    Sem W root rv st' waive ∧ st'.IndexComplete ∧ StorePrefix st st' ∧ st'.ps = st.ps ∧
      st'.store[st.store.length]? = some inc := by
  unfold addIncompatibility at hr
  obtain ⟨h1, h2, h3, h4⟩ := appendMerge_sem W root rv [inc]
    (by show ((mergeIncompatibility _ _ : R _) >>= fun s => pure s) = .ok st'; rw [hr]; rfl) h hic
    (storeInv_push W root rv st.store inc h.sinv.store g)
    (fun inc' hm => by rw [List.mem_singleton.1 hm]; exact Hown)
  refine ⟨h1, h2, (StorePrefix.append st [inc]).trans h3, h4, h3 _ _ ?_⟩
  show (st.store ++ [inc])[st.store.length]? = some inc
  rw [List.getElem?_append_right (Nat.le_refl _), Nat.sub_self]; rfl

theorem addIncompatibilityFromDependencies_sem (W : World P S V M) (hW : W.SetsValid) (root : P) (rv : V)
    {st st' : State P S V M Pr} {p : P} {v : V} {deps : List (P × S)} {start stop : Nat}
    {waive : P → Nat → Prop}
    (hr : addIncompatibilityFromDependencies st p v deps = .ok (st', start, stop))
    (h : Sem W root rv st waive) (hic : st.IndexComplete) (hd : W.deps p v = .available deps)
    (hund : ∀ pa g w t, st.ps.getPA p = some pa → pa.inter ≠ .decision g w t) :
    Sem W root rv st' waive ∧ st'.IndexComplete ∧ StorePrefix st st' ∧ st'.ps = st.ps ∧
      ∀ d ∈ deps, ∃ id : Nat, st'.store[id]? = some (Incompat.fromDependency (M := M) p (VersionSet.singleton v) d) := by
  obtain ⟨h1, -, -⟩ := addIncompatibilityFromDependencies_spec hr
  obtain ⟨news, hnews⟩ : ∃ news : List (Incompat P S V M),
      news = deps.map (fun dep => Incompat.fromDependency (M := M) p (VersionSet.singleton v) dep) := ⟨_, rfl⟩
  rw [← List.length_map (f := fun dep => Incompat.fromDependency (M := M) p (VersionSet.singleton v) dep),
    ← hnews] at h1
  have hmem : ∀ x ∈ news, ∃ d ∈ deps, x = Incompat.fromDependency (M := M) p (VersionSet.singleton v) d := by
    intro x hx
    rw [hnews, List.mem_map] at hx
    obtain ⟨d, hdm, rfl⟩ := hx
    exact ⟨d, hdm, rfl⟩
  have hgood : StoreInv W root rv (st.store ++ news) := by
    apply storeInv_append W root rv _ _ h.sinv.store
    intro k i hi
    obtain ⟨d, hdm, rfl⟩ := hmem i (List.mem_of_getElem? hi)
    exact Incompat.fromDependency_good W hW root rv _ _ p v deps hd d hdm
  obtain ⟨hA, hB, hC, hD⟩ := appendMerge_sem W root rv news h1 h hic hgood (by
    intro x hx q ho
    obtain ⟨d, _, rfl⟩ := hmem x hx
    have : p = q := ho
    subst this
    exact hund)
  refine ⟨hA, hB, (StorePrefix.append st news).trans hC, hD, ?_⟩
  intro d hdm
  obtain ⟨k, hk⟩ := List.getElem?_of_mem hdm
  refine ⟨st.store.length + k, hC _ _ ?_⟩
  show (st.store ++ news)[st.store.length + k]? = _
  rw [List.getElem?_append_right (Nat.le_add_right _ _), hnews]
  simp only [Nat.add_sub_cancel_left, List.getElem?_map, hk, Option.map_some]

end State

theorem Sem.setPS (W : World P S V M) (root : P) (rv : V) {st : State P S V M Pr}
    {waive : P → Nat → Prop} (h : Sem W root rv st waive) (ps' : PartialSolution P S V Pr)
    (ha : ps'.assignments = st.ps.assignments)
    (hl : ps'.currentDecisionLevel = st.ps.currentDecisionLevel) (hw : ps'.WF') :
    Sem W root rv { st with ps := ps' } waive := by
  have hget : ∀ p, ps'.getPA p = st.ps.getPA p := by
    intro p; unfold PartialSolution.getPA; rw [ha]
  have hterms : ∀ l, ps'.termsAt l = st.ps.termsAt l := by
    intro l; funext p; unfold PartialSolution.termsAt; rw [hget]
  refine ⟨⟨h.sinv.store, h.sinv.root, h.sinv.rv, ?_⟩, ⟨hw, h.pinv.cache⟩, ?_, ?_, ?_, h.idxb⟩
  · intro kv hkv
    have : kv ∈ st.ps.assignments := ha ▸ hkv
    exact h.sinv.ps kv this
  · intro p pa g v t e1 e2 l l1 l2 id hid inc hinc ho hwv
    simp only at e1 l2 hwv ⊢
    rw [hget] at e1; rw [hl] at l2 hwv; rw [hterms]
    exact h.own p pa g v t e1 e2 l l1 l2 id hid inc hinc ho hwv
  · intro id l0 hm
    obtain ⟨hl0, hc⟩ := h.cache id l0 hm
    refine ⟨by show l0 ≤ ps'.currentDecisionLevel; rw [hl]; exact hl0, ?_⟩
    intro inc hinc l l1 l2
    simp only at l2 ⊢
    rw [hl] at l2; rw [hterms]
    exact hc inc hinc l l1 l2
  · refine ⟨h.rootc.1, ?_⟩
    intro l l2
    simp only at l2 ⊢
    rw [hl] at l2; rw [hterms]
    exact h.rootc.2 l l2

end Lawful
end Pubgrub
