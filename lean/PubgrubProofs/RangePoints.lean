/-
Points of segments and of canonical lists: what the bound predicates say about a point, and
sortedness of a canonical list.
-/
import PubgrubProofs.BoundCut

namespace Pubgrub.Range
open Pubgrub Bound
variable {V : Type} [LinearOrder V]

theorem withinBounds_spec (v : V) (sg : Seg V) :
    match withinBounds v sg with
    | .lt => ¬ aboveStart v sg.1
    | .eq => Seg.Mem v sg
    | .gt => aboveStart v sg.1 ∧ ¬ belowEnd v sg.2 := by
  obtain ⟨s, e⟩ := sg
  have hs : (match s with | excl s => decide (v ≤ s) | incl s => decide (v < s) | unb => false) = true ↔
      ¬ aboveStart v s := by cases s <;> simp [aboveStart]
  have he : (match e with | unb => true | incl e => decide (v ≤ e) | excl e => decide (v < e)) = true ↔
      belowEnd v e := by cases e <;> simp [belowEnd]
  simp only [withinBounds]
  split_ifs with h1 h2
  · exact hs.1 h1
  · exact ⟨not_not.1 (mt hs.2 h1), he.1 h2⟩
  · exact ⟨not_not.1 (mt hs.2 h1), mt he.2 h2⟩

/-- `contains` (model of the binary search) is the semantic membership -/
theorem contains_iff_mem (r : Range V) (v : V) : contains r v = true ↔ Range.Mem v r := by
  simp only [contains, List.any_eq_true, Range.Mem]
  refine exists_congr fun s => and_congr_right fun _ => ?_
  have h := withinBounds_spec v s
  cases hw : withinBounds v s <;> rw [hw] at h
  · exact iff_of_false (by decide) fun m => h m.1
  · exact iff_of_true rfl h
  · exact iff_of_false (by decide) fun m => h.2 m.2

theorem mem_nil (v : V) : Range.Mem v ([] : Range V) ↔ False := by
  simp [Range.Mem]

theorem mem_cons (v : V) (s : Seg V) (t : Range V) :
    Range.Mem v (s :: t) ↔ Seg.Mem v s ∨ Range.Mem v t := by
  simp only [Range.Mem, List.mem_cons, exists_eq_or_imp]

/-- the first segment of `t` (if any) starts after `e`, with a gap -/
def GapHead (e : Bound V) (t : Range V) : Prop :=
  ∀ x ∈ t.head?, endBeforeStartWithGap e x.1 = true

theorem gapHead_nil (e : Bound V) : GapHead e ([] : Range V) := by simp [GapHead]
theorem gapHead_cons (e : Bound V) (x : Seg V) (t : Range V) :
    GapHead e (x :: t) ↔ endBeforeStartWithGap e x.1 = true := by simp [GapHead]

theorem wf_nil : WF ([] : Range V) := by simp [WF, checkInvariants]

theorem wf_cons (s e : Bound V) (t : Range V) :
    WF ((s, e) :: t) ↔ validSegment s e = true ∧ GapHead e t ∧ WF t := by
  cases t with
  | nil => simp [WF, checkInvariants, GapHead]
  | cons y t => obtain ⟨s', e'⟩ := y; simp [WF, checkInvariants, GapHead, and_assoc]


/-! ### semantics of the bound predicates

With `v` standing at `Cut.before v`, the points of a segment `(s, e)` are those with
`s.startCut ≤ v < e.endCut`, and each fact below is a chain in the order of cuts. -/

theorem not_valid {s e : Bound V} (h : validSegment s e = false) (v : V) :
    ¬ (aboveStart v s ∧ belowEnd v e) := fun ⟨h1, h2⟩ =>
  (validSegment_eq_false_iff.1 h).not_gt ((aboveStart_iff.1 h1).trans_lt (belowEnd_iff.1 h2))

theorem above_of_not_below {s e : Bound V} (h : validSegment s e = true) (v : V)
    (hv : ¬ belowEnd v e) : aboveStart v s :=
  aboveStart_iff.2 ((validSegment_iff.1 h).trans_le (not_lt.1 (mt belowEnd_iff.2 hv))).le

theorem not_below_of_gap {e s : Bound V} (h : endBeforeStartWithGap e s = true) (v : V)
    (hv : aboveStart v s) : ¬ belowEnd v e := fun hb =>
  ((gap_iff.1 h).trans_le (aboveStart_iff.1 hv)).not_gt (belowEnd_iff.1 hb)

theorem above_of_no_gap {e s : Bound V} (h : endBeforeStartWithGap e s = false) (v : V)
    (hv : ¬ belowEnd v e) : aboveStart v s :=
  aboveStart_iff.2 ((gap_eq_false_iff.1 h).trans (not_lt.1 (mt belowEnd_iff.2 hv)))

theorem seg_exists_mem [DenselyOrdered V] [NoMinOrder V] [NoMaxOrder V] [Nonempty V] {s e : Bound V}
    (h : validSegment s e = true) : ∃ v, Seg.Mem v (s, e) := by
  obtain ⟨v, h1, h2⟩ := Cut.exists_before (validSegment_iff.1 h)
  exact ⟨v, aboveStart_iff.2 h1, belowEnd_iff.2 h2⟩

theorem belowEnd_mono {le re : Bound V} (h : leftEndIsSmaller le re = true) (v : V)
    (hv : belowEnd v le) : belowEnd v re :=
  belowEnd_iff.2 ((belowEnd_iff.1 hv).trans_le (leftEndIsSmaller_iff.1 h))

theorem aboveStart_mono {a b : Bound V} (h : leftStartIsSmaller a b = true) (v : V)
    (hv : aboveStart v b) : aboveStart v a :=
  aboveStart_iff.2 ((leftStartIsSmaller_iff.1 h).trans (aboveStart_iff.1 hv))

theorem lss_total {a b : Bound V} (h : leftStartIsSmaller a b = false) :
    leftStartIsSmaller b a = true :=
  leftStartIsSmaller_iff.2 (leftStartIsSmaller_eq_false_iff.1 h).le

theorem lss_refl (a : Bound V) : leftStartIsSmaller a a = true :=
  leftStartIsSmaller_iff.2 le_rfl

theorem lss_trans {a b c : Bound V} (h1 : leftStartIsSmaller a b = true)
    (h2 : leftStartIsSmaller b c = true) : leftStartIsSmaller a c = true :=
  leftStartIsSmaller_iff.2 ((leftStartIsSmaller_iff.1 h1).trans (leftStartIsSmaller_iff.1 h2))

theorem lss_of_valid_gap {s e s' : Bound V} (h1 : validSegment s e = true)
    (h2 : endBeforeStartWithGap e s' = true) : leftStartIsSmaller s s' = true :=
  leftStartIsSmaller_iff.2 ((validSegment_iff.1 h1).trans (gap_iff.1 h2)).le

theorem gap_trans {e0 s e s' : Bound V} (h0 : endBeforeStartWithGap e0 s = true)
    (h1 : validSegment s e = true) (h2 : endBeforeStartWithGap e s' = true) :
    endBeforeStartWithGap e0 s' = true :=
  gap_iff.2 ((gap_iff.1 h0).trans ((validSegment_iff.1 h1).trans (gap_iff.1 h2)))

theorem wf_head_valid {s : Seg V} {t : Range V} (h : WF (s :: t)) : validSegment s.1 s.2 = true :=
  ((wf_cons s.1 s.2 t).1 h).1

theorem wf_tail {s : Seg V} {t : Range V} (h : WF (s :: t)) : WF t := ((wf_cons s.1 s.2 t).1 h).2.2

/-- every segment of the list starts after a gap beyond the end bound `e` -/
def After (e : Bound V) (l : Range V) : Prop := ∀ x ∈ l, endBeforeStartWithGap e x.1 = true

theorem after_of_gapHead {e : Bound V} {t : Range V} (hg : GapHead e t) (ht : WF t) : After e t := by
  induction t generalizing e with
  | nil => exact nofun
  | cons y t ih =>
    obtain ⟨hval, hg', ht'⟩ := (wf_cons y.1 y.2 t).1 ht
    have hy := (gapHead_cons ..).1 hg
    intro x hx
    rcases List.mem_cons.1 hx with rfl | hx
    · exact hy
    · exact gap_trans hy hval (ih hg' ht' x hx)

theorem wf_after {s e : Bound V} {t : Range V} (h : WF ((s, e) :: t)) : After e t :=
  have h := (wf_cons s e t).1 h
  after_of_gapHead h.2.1 h.2.2

theorem After.gapHead {e : Bound V} {t : Range V} (h : After e t) : GapHead e t :=
  fun x hx => h x (List.mem_of_mem_head? hx)

theorem beyond_of_after {e : Bound V} {t : Range V} {v : V} (h : After e t) (hv : Range.Mem v t) :
    ¬ belowEnd v e :=
  have ⟨x, hx, hvx⟩ := hv
  not_below_of_gap (h x hx) v hvx.1

theorem tail_beyond {e : Bound V} {t : Range V} (hg : GapHead e t) (ht : WF t) (v : V)
    (hv : Range.Mem v t) : ¬ belowEnd v e :=
  beyond_of_after (after_of_gapHead hg ht) hv

theorem above_head {s : Seg V} {t : Range V} {v : V} (h : WF (s :: t))
    (hv : Range.Mem v (s :: t)) : aboveStart v s.1 :=
  ((mem_cons v s t).1 hv).elim (·.1) fun hv =>
    above_of_not_below (wf_head_valid h) v (beyond_of_after (wf_after h) hv)

end Pubgrub.Range
