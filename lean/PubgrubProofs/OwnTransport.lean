/-
Instances of the transport lemma of OwnBundle.lean (backtrack, decision, growth of the store, growth of
the index), the index after `updIndex` folds, and the fact that an owned clause of a decided package is
never `Inconclusive`.
-/
import PubgrubProofs.OwnBundle

set_option linter.unusedSectionVars false

namespace Pubgrub
open VersionSet

section Index
variable {P : Type} [DecidableEq P]

/-- the ids listed under a package in an index -/
def idxOf (idx : List (P × List Nat)) (p : P) : List Nat := (SmallMap.get idx p).getD []

theorem idxOf_updIndex (idx : List (P × List Nat)) (p : P) (f : List Nat → List Nat) (q : P) :
    idxOf (State.updIndex idx p f) q = if q = p then f (idxOf idx p) else idxOf idx q := by
  have h : State.updIndex idx p f = SmallMap.insert idx p (f (idxOf idx p)) := by
    unfold State.updIndex idxOf
    cases SmallMap.get idx p <;> rfl
  rw [h]
  unfold idxOf
  rw [SmallMap.get_insert]
  by_cases hq : q = p
  · rw [if_pos hq, if_pos hq]; rfl
  · rw [if_neg hq, if_neg hq]

theorem mem_idxOf_foldl_append {T : Type} (id : Nat) :
    ∀ (terms : List (P × T)) (idx : List (P × List Nat)) (q : P) (i : Nat),
      i ∈ idxOf (terms.foldl (fun idx kv => State.updIndex idx kv.1 (fun ids => ids ++ [id])) idx) q ↔
        (i ∈ idxOf idx q ∨ (i = id ∧ q ∈ terms.map Prod.fst)) := by
  intro terms
  induction terms with
  | nil => intro idx q i; simp
  | cons x rest ih =>
    intro idx q i
    rw [List.foldl_cons, ih, idxOf_updIndex]
    by_cases hq : q = x.1
    · subst hq
      simp only [if_true, List.mem_append, List.map_cons, List.mem_cons, true_or,
        and_true, List.not_mem_nil, or_false]
      constructor
      · rintro ((h | h) | ⟨h, _⟩)
        · exact Or.inl h
        · exact Or.inr h
        · exact Or.inr h
      · rintro (h | h)
        · exact Or.inl (Or.inl h)
        · exact Or.inl (Or.inr h)
    · rw [if_neg hq]
      simp only [List.map_cons, List.mem_cons, hq, false_or]

theorem mem_idxOf_foldl_filter {T : Type} (past : Nat) :
    ∀ (terms : List (P × T)) (idx : List (P × List Nat)) (q : P) (i : Nat),
      i ∈ idxOf (terms.foldl (fun idx kv => State.updIndex idx kv.1 (fun ids => ids.filter (· ≠ past))) idx) q ↔
        (i ∈ idxOf idx q ∧ (q ∈ terms.map Prod.fst → i ≠ past)) := by
  intro terms
  induction terms with
  | nil => intro idx q i; simp
  | cons x rest ih =>
    intro idx q i
    rw [List.foldl_cons, ih, idxOf_updIndex]
    by_cases hq : q = x.1
    · subst hq
      simp only [if_true, List.mem_filter, decide_eq_true_eq, List.map_cons, List.mem_cons, true_or,
        forall_const]
      constructor
      · rintro ⟨⟨h1, h2⟩, _⟩; exact ⟨h1, h2⟩
      · rintro ⟨h1, h2⟩; exact ⟨⟨h1, h2⟩, fun _ => h2⟩
    · rw [if_neg hq]
      simp only [List.map_cons, List.mem_cons, hq, false_or]

end Index

section Lawful
variable {P S V M Pr : Type} [DecidableEq P] [VersionSet S V] [DecidableEq S] [LawfulVersionSet S V]

theorem State.indexOf_eq (st : State P S V M Pr) (p : P) : st.indexOf p = idxOf st.incompatibilities p := rfl

/-- `backtrack` of the partial solution to a level strictly below the current one (with the filtering
of the cache): every waiver concerned the current level and is gone -/
theorem Sem.backtrackPS (W : World P S V M) (root : P) (rv : V) {st : State P S V M Pr}
    {waive : P → Nat → Prop} (h : Sem W root rv st waive) {dl : Nat}
    (hdl : dl < st.ps.currentDecisionLevel) {ps' : PartialSolution P S V Pr}
    (hb : st.ps.backtrack dl = .ok ps') :
    Sem W root rv
      { st with ps := ps', contradicted := SmallMap.retainVals st.contradicted (fun l => l ≤ dl) }
      noWaive := by
  have hw := h.pinv.wf
  have hlev := PartialSolution.backtrack_level hb
  have hw' := (PartialSolution.backtrack_wf' hw (Nat.le_of_lt hdl) hb).1
  refine Sem.transport W root rv h
    (st' := { st with ps := ps', contradicted := SmallMap.retainVals st.contradicted (fun l => l ≤ dl) })
    rfl rfl rfl rfl (PartialSolution.backtrack_termsValid h.sinv.ps hb) ?_ ?_ ?_ ?_
  · refine ⟨hw', ?_⟩
    intro kv hkv
    exact h.pinv.cache kv (List.mem_filter.1 hkv).1
  · intro l hl
    have hl' : l ≤ dl := hlev ▸ hl
    rw [Nat.min_eq_left (Nat.le_trans hl' (Nat.le_of_lt hdl))]
    exact TermsLE.of_eq (PartialSolution.termsAt_backtrack hw hb hl')
  · intro p pa' g v t hpa' hd l hl1 hl2 i hi inc hinc hown hwv
    left
    have hl' : l ≤ dl := hlev ▸ hl2
    have hpa := PartialSolution.backtrack_decided hw.wf hb hpa' hd
    rw [Nat.min_eq_left (Nat.le_trans hl' (Nat.le_of_lt hdl))]
    exact ⟨pa', g, v, t, hpa, hd, hl1, fun hmin => absurd (hmin ▸ hl') (Nat.not_le_of_lt hdl)⟩
  · intro i l0 hm
    obtain ⟨hm1, hm2⟩ := List.mem_filter.1 hm
    simp only [decide_eq_true_eq] at hm2
    exact ⟨by show l0 ≤ ps'.currentDecisionLevel; rw [hlev]; exact hm2, Or.inl hm1⟩

/-- a decision for an undecided package: the obligations of the other decided packages carry over to
the new level, those of the newly decided package are waived until its clauses have been examined -/
theorem Sem.decide (W : World P S V M) (root : P) (rv : V) {st : State P S V M Pr}
    (h : Sem W root rv st noWaive) {debug : Bool} {p : P} {v : V}
    {t : Term S} {pa : PackageAssignments S V} (hpa : st.ps.getPA p = some pa)
    (ht : pa.inter = .derivations t) (hv : t.contains v = true)
    (hq : SmallMap.get st.ps.queue p = none)
    {ps' : PartialSolution P S V Pr} (hd : PartialSolution.addDecision debug st.ps p v = .ok ps') :
    Sem W root rv { st with ps := ps' } (fun p' _ => p' = p) := by
  have hw := h.pinv.wf
  have hw' := PartialSolution.addDecision_wf' hw hd hpa ht hv hq
  have hlev := PartialSolution.addDecision_level hw.wf hd hpa ht
  refine Sem.transport W root rv h (st' := { st with ps := ps' })
    rfl rfl rfl rfl (PartialSolution.addDecision_termsValid h.sinv.ps hd) ⟨hw', h.pinv.cache⟩ ?_ ?_ ?_
  · intro l hl
    have hl' : l ≤ st.ps.currentDecisionLevel + 1 := hlev ▸ hl
    by_cases hle : l ≤ st.ps.currentDecisionLevel
    · rw [Nat.min_eq_left hle]
      exact TermsLE.of_eq (PartialSolution.termsAt_addDecision_le hw.wf hd hw'.wf hpa ht hle)
    · have hl1 : l = ps'.currentDecisionLevel := by
        rw [hlev]; exact Nat.le_antisymm hl' (Nat.lt_of_not_le hle)
      subst hl1
      rw [Nat.min_eq_right (by rw [hlev]; exact Nat.le_succ _)]
      show TermsLE (ps'.termsAt ps'.currentDecisionLevel) _
      rw [PartialSolution.termsAt_top hw'.wf (Nat.le_refl _), PartialSolution.termsAt_top hw.wf (Nat.le_refl _)]
      exact PartialSolution.termsLE_addDecision hw.wf hd hw'.wf hpa ht hv
  · intro p' pa' g v' t' hpa' hd' l hl1 hl2 i hi inc hinc hown hwv
    have hl2' : l ≤ st.ps.currentDecisionLevel + 1 := hlev ▸ hl2
    have hget := PartialSolution.addDecision_getPA hw.wf hd hw'.wf hpa ht p'
    rw [hpa'] at hget
    by_cases hp : p' = p
    · exfalso
      rw [if_pos hp] at hget
      injection hget with hget
      have : pa'.highest = st.ps.currentDecisionLevel + 1 := by rw [hget]; rfl
      exact hwv (by show l = ps'.currentDecisionLevel; rw [hlev]; exact Nat.le_antisymm hl2' (this ▸ hl1)) hp
    · rw [if_neg hp] at hget
      left
      refine ⟨pa', g, v', t', hget.symm, hd', ?_, fun _ hf => hf⟩
      have := PartialSolution.highest_le hw.wf hget.symm
      exact Nat.le_min.2 ⟨hl1, this⟩
  · intro i l0 hm
    exact ⟨by show l0 ≤ ps'.currentDecisionLevel; rw [hlev]; exact Nat.le_succ_of_le (h.cache i l0 hm).1,
      Or.inl hm⟩

/-- the store only grows at its end -/
def StorePrefix (st st' : State P S V M Pr) : Prop :=
  ∀ (i : Nat) (x : Incompat P S V M), st.store[i]? = some x → st'.store[i]? = some x

theorem StorePrefix.refl (st : State P S V M Pr) : StorePrefix st st := fun _ _ h => h

theorem StorePrefix.of_eq {st st' : State P S V M Pr} (h : st'.store = st.store) : StorePrefix st st' :=
  fun _ _ hx => by rw [h]; exact hx

theorem StorePrefix.of_append {st st' : State P S V M Pr} {extra : List (Incompat P S V M)}
    (h : st'.store = st.store ++ extra) : StorePrefix st st' := by
  intro i x hx
  rw [h, List.getElem?_append_left (List.getElem?_eq_some_iff.1 hx).1]; exact hx

theorem StorePrefix.append (st : State P S V M Pr) (extra : List (Incompat P S V M)) :
    StorePrefix st { st with store := st.store ++ extra } := StorePrefix.of_append rfl

theorem StorePrefix.trans {a b c : State P S V M Pr} (h1 : StorePrefix a b) (h2 : StorePrefix b c) :
    StorePrefix a c := fun i x hx => h2 i x (h1 i x hx)

theorem StorePrefix.length_le {st st' : State P S V M Pr} (h : StorePrefix st st') :
    st.store.length ≤ st'.store.length :=
  Nat.le_of_not_lt fun hlt =>
    Nat.lt_irrefl _ (List.getElem?_eq_some_iff.1 (h _ _ (List.getElem?_eq_getElem hlt))).1

theorem StorePrefix.get_old {st st' : State P S V M Pr} (h : StorePrefix st st') {i : Nat}
    {x : Incompat P S V M} (hi : i < st.store.length) (hx : st'.store[i]? = some x) :
    st.store[i]? = some x := by
  rw [h i _ (List.getElem?_eq_getElem hi)] at hx
  rw [List.getElem?_eq_getElem hi]; exact hx

theorem Sem.grow (W : World P S V M) (root : P) (rv : V) {st st' : State P S V M Pr}
    {waive : P → Nat → Prop} (h : Sem W root rv st waive) (hs : SInv W root rv st')
    (hpre : StorePrefix st st') (hps : st'.ps = st.ps) (hc : st'.contradicted = st.contradicted)
    (hnew : ∀ p i, i ∈ st'.indexOf p → i ∈ st.indexOf p ∨
      (i < st'.store.length ∧ ∀ inc, st'.store[i]? = some inc → inc.OwnedBy p →
        ∀ pa g v t, st.ps.getPA p = some pa → pa.inter ≠ .decision g v t)) :
    Sem W root rv st' waive := by
  have hlen := hpre.length_le
  refine ⟨hs, ⟨hps ▸ h.pinv.wf, fun kv hkv => Nat.lt_of_lt_of_le (h.pinv.cache kv (hc ▸ hkv)) hlen⟩,
    ?_, ?_, ?_, ?_⟩
  · intro p pa g v t e1 e2 l l1 l2 id hid inc hinc ho hwv
    rw [hps] at e1 l2 hwv ⊢
    rcases hnew p id hid with hold | ⟨_, hnw⟩
    · exact h.own p pa g v t e1 e2 l l1 l2 id hold inc (hpre.get_old (h.idxb p id hold) hinc) ho hwv
    · exact absurd e2 (hnw inc hinc ho pa g v t e1)
  · intro id l0 hm
    rw [hc] at hm; rw [hps]
    obtain ⟨hl0, hcs⟩ := h.cache id l0 hm
    exact ⟨hl0, fun inc hinc => hcs inc (hpre.get_old (h.pinv.cache _ hm) hinc)⟩
  · rw [State.RootC, hps]; exact ⟨hpre 0 _ h.rootc.1, h.rootc.2⟩
  · intro p id hid
    rcases hnew p id hid with hold | ⟨hlt, _⟩
    · exact Nat.lt_of_lt_of_le (h.idxb p id hold) hlen
    · exact hlt

theorem Sem.storeAppend (W : World P S V M) (root : P) (rv : V) {st : State P S V M Pr}
    {waive : P → Nat → Prop} (h : Sem W root rv st waive) (extra : List (Incompat P S V M))
    (hg : StoreInv W root rv (st.store ++ extra)) :
    Sem W root rv { st with store := st.store ++ extra } waive :=
  Sem.grow W root rv h ⟨hg, h.sinv.root, h.sinv.rv, h.sinv.ps⟩ (StorePrefix.append st extra) rfl rfl
    (fun _ _ hi => Or.inl hi)

theorem Incompat.relationGo_single_ne_inconclusive (f : P → Option (Term S)) (p : P) (t : Term S) :
    Incompat.relationGo f .satisfied [(p, t)] ≠ .inconclusive := by
  unfold Incompat.relationGo
  cases hf : f p with
  | none => simp [Incompat.relationGo]
  | some o =>
    simp only [Option.map_some]
    cases hr : t.relationWith o <;> simp [Incompat.relationGo]

theorem Incompat.owned_ne_inconclusive (W : World P S V M) (root : P) (rv : V)
    {store : List (Incompat P S V M)} {id : Nat} {inc : Incompat P S V M}
    (g : inc.Good W root rv store id) {p : P} (ho : inc.OwnedBy p)
    (f : P → Option (Term S)) {v : V} (hf : f p = some (Term.exact v)) :
    inc.relation f ≠ .inconclusive := by
  have k := g.kind
  unfold Incompat.OwnedBy at ho
  unfold Incompat.KindTrue at k
  unfold Incompat.relation
  cases hk : inc.kind with
  | notRoot q w => rw [hk] at ho; exact ho.elim
  | derivedFrom a b => rw [hk] at ho; exact ho.elim
  | noVersions q s =>
    rw [hk] at k; simp only at k
    rw [k.2]; exact Incompat.relationGo_single_ne_inconclusive f _ _
  | custom q s m =>
    rw [hk] at k; simp only at k
    obtain ⟨w, _, _, ht⟩ := k
    rw [ht]; exact Incompat.relationGo_single_ne_inconclusive f _ _
  | fromDependencyOf q s q2 t =>
    rw [hk] at k ho; simp only at k ho
    subst ho
    obtain ⟨_, vs, vt, hterms⟩ := k
    rw [hterms]
    unfold Incompat.fromDependency
    simp only
    split
    · exact Incompat.relationGo_single_ne_inconclusive f _ _
    · split
      · exact Incompat.relationGo_single_ne_inconclusive f _ _
      · unfold Incompat.relationGo
        rw [hf]
        simp only [Option.map_some]
        cases hr : (Term.pos s).relationWith (Term.exact v) with
        | satisfied => simp only; exact Incompat.relationGo_single_ne_inconclusive f _ _
        | contradicted => simp
        | inconclusive => exact absurd hr (Term.relationWith_exact_ne_inconclusive (Term.pos s) vs v)

theorem PartialSolution.terms_of_decided {ps : PartialSolution P S V Pr} (h : ps.WF) {p : P}
    {pa : PackageAssignments S V} {g : Nat} {v : V} {t : Term S}
    (hpa : ps.getPA p = some pa) (hd : pa.inter = .decision g v t) :
    ps.terms p = some (Term.exact v) ∧ t = Term.exact v := by
  obtain ⟨i, _, hi⟩ := PartialSolution.getElem_of_getPA hpa
  have hlt := PartialSolution.decided_lt h hi hd
  obtain ⟨g', v', e1, _⟩ := (h.entries i p pa hi).decided hlt
  rw [hd] at e1
  injection e1 with e1 e2 e3
  subst e2; subst e3
  simp only [PartialSolution.terms, PartialSolution.termIntersectionForPackage, hpa, Option.map_some, hd,
    AssignInter.term, and_self]

end Lawful
end Pubgrub
