/-
Property C05, clause "does not overflow" (as far as it can be had): along every well-behaved run over a
finite registry, as long as `resolve` has not returned, the decision level never exceeds the number of
packages of the registry, and the next global index of the partial solution never exceeds `Cmax fw`.
(The Rust code keeps both in `u32`; the model in `Nat`.  The first bound says that `DecisionLevel` cannot
wrap for a registry with fewer than 2^32 packages.)
The bounds are read off the termination invariant `RInvM` (Termination) in `run_live`.
-/
import PubgrubProofs.Termination

set_option linter.unusedSectionVars false

namespace Pubgrub
open VersionSet

variable {P S V M Pr E : Type} [DecidableEq P] [VersionSet S V] [DecidableEq S] [DecidableEq V]
  [LE Pr] [DecidableLE Pr] [LawfulVersionSet S V] [CanonicalEmpty S V]

section
variable {W : World P S V M} {root : P} {rv : V} (fw : FiniteWorld W root rv)

theorem Budget.mono {x : SolverState P S V M Pr × Request P S V M Pr E} {n m : Nat}
    (h : Budget fw x n) (hnm : n ≤ m) : Budget fw x m := by
  unfold Budget at h ⊢
  split
  · trivial
  · rename_i hph
    rw [hph] at h
    simp only at h
    rcases h with ⟨h1, h2⟩ | h
    · exact Or.inl ⟨h1, by omega⟩
    · exact Or.inr (by omega)
  all_goals
    rename_i hph
    rw [hph] at h
    simp only at h
    omega

theorem RInvM.mono {x : SolverState P S V M Pr × Request P S V M Pr E} {n m : Nat}
    (h : RInvM fw x n) (hnm : n ≤ m) : RInvM fw x m :=
  ⟨h.live, h.fetching, h.fuel, h.nofuel, h.budget.mono fw hnm⟩

theorem after_finished (x : SolverState P S V M Pr × Request P S V M Pr E) (hx : x.1.phase = .finished)
    (as : List (Answer P S V M Pr E)) : (Solver.after x as).1.phase = .finished := by
  induction as generalizing x with
  | nil => rw [Solver.after_nil]; exact hx
  | cons a as ih =>
    rw [Solver.after_cons]
    apply ih
    rw [Solver.step_finished x.1 a hx]; exact hx

theorem run_live (hW : W.SetsValid) (debug : Bool) (fuel : Nat) :
    ∀ (as : List (Answer P S V M Pr E)) (x : SolverState P S V M Pr × Request P S V M Pr E) (n : Nat),
    Reachable W debug fuel root rv x → RInvM fw x n → GoodRunFrom W x as →
    (Solver.after x as).1.phase ≠ .finished →
    KInv fw (Solver.after x as).1.st ∧ (Solver.after x as).1.st.ps.WF ∧
    (Solver.after x as).1.st.ps.nextGlobalIndex + rank fw (Solver.after x as).1.st.ps ≤ Cmax fw := by
  intro as
  induction as with
  | nil =>
    intro x n hreach h _ hlive
    rw [Solver.after_nil] at hlive ⊢
    obtain ⟨hk, _, hidx⟩ := h.live hlive
    exact ⟨hk, ((reachable_rinv' W hW debug fuel root rv _ hreach).live hlive).1.wf.wf, hidx⟩
  | cons a as ih =>
    intro x n hreach h hgood hlive
    obtain ⟨s, req⟩ := x
    cases hfin : req.isFinal with
    | true =>
      exfalso
      have hco := reachable_coherent W debug fuel root rv _ hreach
      have hph : s.phase = .finished := Solver.coherent_final hco hfin
      exact hlive (after_finished (s, req) hph (a :: as))
    | false =>
      obtain ⟨hok, _⟩ := hgood.head hfin
      have hreach' : Reachable W debug fuel root rv (Solver.step s a) := Reachable.step hreach hok
      rw [Solver.after_cons] at hlive ⊢
      have hstep := rinvM_step fw CanonicalEmpty.canonEmpty hW s req a n
        (reachable_rinv W hW debug fuel root rv _ hreach)
        (reachable_rinv' W hW debug fuel root rv _ hreach)
        (reachable_rinvT W hW debug fuel root rv _ hreach)
        (reachable_rinvN W hW debug fuel root rv _ hreach) (h.mono fw (Nat.le_succ n)) hok
      exact ih (Solver.step s a) n hreach' hstep hgood.tail hlive

end

theorem counters_bounded (W : World P S V M) (hW : W.SetsValid) (root : P) (rv : V)
    (fw : FiniteWorld W root rv) (debug : Bool) :
    ∃ fuel0 : Nat, ∀ fuel, fuel0 ≤ fuel → ∀ as : List (Answer P S V M Pr E),
      WellBehavedRun W debug fuel root rv as →
      (Solver.after (Solver.start debug fuel root rv) as).1.phase ≠ .finished →
      (Solver.after (Solver.start debug fuel root rv) as).1.st.ps.currentDecisionLevel ≤ fw.pkgs.length ∧
      (Solver.after (Solver.start debug fuel root rv) as).1.st.ps.nextGlobalIndex ≤ Cmax fw := by
  refine ⟨3 * Cmax fw + 3, ?_⟩
  intro fuel hfuel as hrun hlive
  obtain ⟨hk, hw, hidx⟩ := run_live fw hW debug fuel as _ _ Reachable.start
    (rinvM_start fw debug fuel hfuel) (goodRunFrom_of_wellBehavedRun hrun) hlive
  have hlvl := level_lt_Dim fw hw (fun kv hkv => (hk.ps kv hkv).1.1)
  have hd : Dim fw = fw.pkgs.length + 2 := rfl
  constructor
  · omega
  · omega

end Pubgrub
