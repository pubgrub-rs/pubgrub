/-
When `add_version` declines the decision, one of the new dependency incompatibilities (or the merged
one that replaced it) is a trigger for the package.
-/
import PubgrubProofs.PSAddIncompat

set_option linter.unusedSectionVars false

namespace Pubgrub
open VersionSet

section PS
variable {P S V M Pr : Type} [DecidableEq P] [VersionSet S V] [DecidableEq S]
  [LawfulVersionSet S V]

namespace Incompat

theorem relationGo_ne_satisfied (terms : P → Option (Term S)) :
    ∀ (l : List (P × Term S)) (rel : Relation P), rel ≠ .satisfied → relationGo terms rel l ≠ .satisfied := by
  intro l
  induction l with
  | nil => intro rel h; simpa [relationGo] using h
  | cons x rest ih =>
    intro rel h
    obtain ⟨q, t⟩ := x
    unfold relationGo
    split
    · exact ih rel h
    · intro e; cases e
    · rw [if_neg h]; intro e; cases e

theorem relationGo_satisfied_terms (terms : P → Option (Term S)) :
    ∀ (l : List (P × Term S)), relationGo terms .satisfied l = .satisfied →
      ∀ q t, (q, t) ∈ l → ∃ o, terms q = some o ∧ t.relationWith o = .satisfied := by
  intro l
  induction l with
  | nil => intro _ q t h; cases h
  | cons x rest ih =>
    intro h q t hm
    obtain ⟨q0, t0⟩ := x
    unfold relationGo at h
    split at h
    · rename_i hrel
      rcases List.mem_cons.1 hm with e | e
      · injection e with e1 e2; subst e1; subst e2
        cases ho : terms q with
        | none => rw [ho] at hrel; cases hrel
        | some o =>
          rw [ho] at hrel
          simp only [Option.map_some, Option.some.injEq] at hrel
          exact ⟨o, rfl, hrel⟩
      · exact ih h q t e
    · cases h
    · simp only [if_true] at h
      exact absurd h (relationGo_ne_satisfied terms rest _ (by intro e; cases e))

theorem mem_fromDependency_terms {p q : P} (s t : S) (h : p ≠ q) (q' : P) (t' : Term S) :
    (q', t') ∈ (fromDependency (M := M) (V := V) p s (q, t)).terms ↔
      (q', t') = (p, Term.pos s) ∨ (t ≠ (empty : S) ∧ (q', t') = (q, Term.neg t)) := by
  simp only [fromDependency, if_neg h.symm]
  split
  · rename_i he; simp [he]
  · rename_i he; simp [he]

theorem mergeDependents_spec (W : World P S V M) (root : P) (rv : V) (store : List (Incompat P S V M))
    (a b : Nat) (ia ib : Incompat P S V M)
    (ga : ia.Good W root rv store a) (gb : ib.Good W root rv store b)
    (r : Incompat P S V M) (hr : mergeDependents ia ib = .ok (some r)) :
    ∃ p1 p2 s1 s2 t, p1 ≠ p2 ∧ ia.kind = .fromDependencyOf p1 s1 p2 t ∧
      ia.terms = (fromDependency (M := M) p1 s1 (p2, t)).terms ∧
      ib.terms = (fromDependency (M := M) p1 s2 (p2, t)).terms ∧
      LawfulVersionSet.Valid V s1 ∧ LawfulVersionSet.Valid V s2 ∧
      r = fromDependency p1 (union s1 s2) (p2, t) := by
  obtain ⟨p1, p2, s1, s2, t, hne, hka, hkb, rfl⟩ := mergeDependents_ok_some hr
    (fun _ _ _ _ hk => (ga.terms_of_fromDependencyOf hk).2.2.2)
    (fun _ _ _ _ hk => (gb.terms_of_fromDependencyOf hk).2.2.2)
  obtain ⟨_, vs1, _, hta⟩ := ga.terms_of_fromDependencyOf hka
  obtain ⟨_, vs2, _, htb⟩ := gb.terms_of_fromDependencyOf hkb
  exact ⟨p1, p2, s1, s2, t, hne, hka, hta, htb, vs1, vs2, rfl⟩

end Incompat

/-- an incompatibility that will trigger for `p` as long as the term of `p` contains `v` -/
def SemOK (ps : PartialSolution P S V Pr) (p : P) (v : V) (inc : Incompat P S V M) : Prop :=
  (∀ q t, (q, t) ∈ inc.terms → q ≠ p →
    ∃ o, ps.termIntersectionForPackage q = some o ∧ t.relationWith o = .satisfied) ∧
  ∃ tp, inc.get p = some tp ∧ tp.Valid ∧ tp.contains v = true

theorem semOK_merge (W : World P S V M) (root : P) (rv : V) (store : List (Incompat P S V M))
    (ps : PartialSolution P S V Pr) (p : P) (v : V)
    (a b : Nat) (ia ib : Incompat P S V M)
    (ga : ia.Good W root rv store a) (gb : ib.Good W root rv store b)
    (hka : ∃ s q t, ia.kind = .fromDependencyOf p s q t)
    (r : Incompat P S V M) (hr : Incompat.mergeDependents ia ib = .ok (some r))
    (h : SemOK ps p v ia ∨ SemOK ps p v ib) : SemOK ps p v r ∧ p ∈ r.terms.map Prod.fst := by
  obtain ⟨p1, p2, s1, s2, t, hne, ka, ta, tb, vs1, vs2, rfl⟩ :=
    Incompat.mergeDependents_spec W root rv store a b ia ib ga gb r hr
  obtain ⟨s0, q0, t0, hka⟩ := hka
  rw [ka] at hka
  injection hka with e1 _ _ _
  subst e1
  obtain ⟨ga1, ga2⟩ := Incompat.get_fromDependency_terms (M := M) p1 p2 s1 t hne
  obtain ⟨gb1, gb2⟩ := Incompat.get_fromDependency_terms (M := M) p1 p2 s2 t hne
  obtain ⟨gr1, gr2⟩ := Incompat.get_fromDependency_terms (M := M) p1 p2 (union s1 s2) t hne
  rw [← ta] at ga1
  rw [← tb] at gb1
  refine ⟨⟨?_, Term.pos (union s1 s2), gr1, LawfulVersionSet.valid_union _ _ vs1 vs2, ?_⟩, ?_⟩
  · intro q t' hm hq
    rw [Incompat.mem_fromDependency_terms _ _ hne] at hm
    rcases hm with e | ⟨hte, e⟩
    · injection e with e1 _; exact absurd e1 hq
    · injection e with e1 e2; subst e1; subst e2
      have hma : (q, Term.neg t) ∈ ia.terms := by
        rw [ta, Incompat.mem_fromDependency_terms _ _ hne]; exact Or.inr ⟨hte, rfl⟩
      have hmb : (q, Term.neg t) ∈ ib.terms := by
        rw [tb, Incompat.mem_fromDependency_terms _ _ hne]; exact Or.inr ⟨hte, rfl⟩
      rcases h with h | h
      · exact h.1 q _ hma hq
      · exact h.1 q _ hmb hq
  · show contains (union s1 s2) v = true
    rw [LawfulVersionSet.contains_union _ _ _ vs1 vs2, Bool.or_eq_true]
    rcases h with h | h
    · obtain ⟨tp, htp, _, hc⟩ := h.2
      unfold Incompat.get at htp
      rw [ga1] at htp; injection htp with htp; subst htp
      exact Or.inl hc
    · obtain ⟨tp, htp, _, hc⟩ := h.2
      unfold Incompat.get at htp
      rw [gb1] at htp; injection htp with htp; subst htp
      exact Or.inr hc
  · rw [List.mem_map]
    exact ⟨(p1, Term.pos (union s1 s2)),
      (Incompat.mem_fromDependency_terms _ _ hne _ _).2 (Or.inl rfl), rfl⟩

/-- `c` is listed in the index of `p` -/
def MemIndex (idx : List (P × List Nat)) (p : P) (c : Nat) : Prop :=
  ∃ ids, SmallMap.get idx p = some ids ∧ c ∈ ids

theorem MemIndex.updIndex {idx : List (P × List Nat)} {p : P} {c : Nat} (h : MemIndex idx p c)
    (k : P) (f : List Nat → List Nat) (hf : ∀ ids, c ∈ ids → c ∈ f ids) :
    MemIndex (State.updIndex idx k f) p c := by
  obtain ⟨ids, hids, hc⟩ := h
  by_cases hk : p = k
  · subst hk
    refine ⟨_, State.get_updIndex_self idx p f, hf _ ?_⟩
    rw [hids]; exact hc
  · exact ⟨ids, by rw [State.get_updIndex_ne idx k p f hk]; exact hids, hc⟩

theorem MemIndex.foldl {p : P} {c : Nat} (f : List Nat → List Nat) (hf : ∀ ids, c ∈ ids → c ∈ f ids)
    (terms : List (P × Term S)) :
    ∀ (idx : List (P × List Nat)), MemIndex idx p c →
      MemIndex (terms.foldl (fun idx kv => State.updIndex idx kv.1 f) idx) p c := by
  induction terms with
  | nil => intro idx h; exact h
  | cons x rest ih => intro idx h; exact ih _ (h.updIndex x.1 f hf)

theorem MemIndex.foldl_new {p : P} {c : Nat} (f : List Nat → List Nat) (hf : ∀ ids, c ∈ ids → c ∈ f ids)
    (hnew : ∀ ids, c ∈ f ids) (terms : List (P × Term S)) (hp : p ∈ terms.map Prod.fst) :
    ∀ (idx : List (P × List Nat)),
      MemIndex (terms.foldl (fun idx kv => State.updIndex idx kv.1 f) idx) p c := by
  induction terms with
  | nil => cases hp
  | cons x rest ih =>
    intro idx
    simp only [List.foldl_cons]
    by_cases hx : p = x.1
    · apply MemIndex.foldl f hf
      subst hx
      exact ⟨_, State.get_updIndex_self idx x.1 f, hnew _⟩
    · apply ih
      simp only [List.map_cons, List.mem_cons] at hp
      rcases hp with hp | hp
      · exact absurd hp hx
      · exact hp

/-- a stored incompatibility, indexed under `p`, that will trigger for `p` -/
def Cand (st0 : State P S V M Pr) (p : P) (v : V) (st' : State P S V M Pr) (c : Nat) : Prop :=
  st0.store.length ≤ c ∧ MemIndex st'.incompatibilities p c ∧
    ∃ inc, st'.store[c]? = some inc ∧ SemOK st0.ps p v inc

namespace State

theorem cand_step (W : World P S V M) (root : P) (rv : V) {st0 st' st'' : State P S V M Pr} {p : P} {v : V}
    {id' : Nat} (hs : SInv W root rv st') (hlen : st0.store.length ≤ st'.store.length)
    (hm : mergeIncompatibility st' id' = .ok st'') (hid' : st0.store.length ≤ id')
    {self : Incompat P S V M} (hself : st'.store[id']? = some self)
    (hkind : ∃ s q t, self.kind = .fromDependencyOf p s q t) (hkey : p ∈ self.terms.map Prod.fst)
    (h : (∃ c, Cand st0 p v st' c) ∨ SemOK st0.ps p v self) :
    ∃ c, Cand st0 p v st'' c := by
  obtain ⟨_, _, _, inc, hinc, hc⟩ := mergeIncompatibility_spec hm
  rw [hself] at hinc; injection hinc with hinc; subst hinc
  rcases hc with ⟨e1, e2⟩ | ⟨past, pastInc, merged, hpast, hmd, e1, e2⟩
  · rcases h with ⟨c, hc1, hc2, incc, hc3, hc4⟩ | h
    · refine ⟨c, hc1, ?_, incc, by rw [e1]; exact hc3, hc4⟩
      rw [e2]
      exact MemIndex.foldl _ (fun ids hh => List.mem_append_left _ hh) _ _ hc2
    · refine ⟨id', hid', ?_, self, by rw [e1]; exact hself, h⟩
      rw [e2]
      exact MemIndex.foldl_new _ (fun ids hh => List.mem_append_left _ hh)
        (fun ids => List.mem_append_right _ (List.mem_singleton.2 rfl)) _ hkey _
  · have gself := hs.store id' self hself
    have gpast := hs.store past pastInc hpast
    have hnew : ∀ (hh : SemOK st0.ps p v self ∨ SemOK st0.ps p v pastInc),
        ∃ c, Cand st0 p v st'' c := by
      intro hh
      obtain ⟨hsem, hk⟩ := semOK_merge W root rv st'.store st0.ps p v id' past self pastInc gself gpast
        hkind merged hmd hh
      refine ⟨st'.store.length, hlen, ?_, merged, ?_, hsem⟩
      · rw [e2]
        exact MemIndex.foldl_new _ (fun ids hh => List.mem_append_left _ hh)
          (fun ids => List.mem_append_right _ (List.mem_singleton.2 rfl)) _ hk _
      · rw [e1, List.getElem?_append_right (Nat.le_refl _)]; simp
    rcases h with ⟨c, hc1, hc2, incc, hc3, hc4⟩ | h
    · by_cases hcp : c = past
      · subst hcp
        rw [hpast] at hc3; injection hc3 with hc3; subst hc3
        exact hnew (Or.inr hc4)
      · refine ⟨c, hc1, ?_, incc, ?_, hc4⟩
        · rw [e2]
          apply MemIndex.foldl _ (fun ids hh => List.mem_append_left _ hh)
          apply MemIndex.foldl _ _ _ _ hc2
          intro ids hh
          exact List.mem_filter.2 ⟨hh, by simpa using hcp⟩
        · rw [e1, List.getElem?_append_left (List.getElem?_eq_some_iff.1 hc3).1]; exact hc3
    · exact hnew (Or.inl h)

theorem cand_fold (W : World P S V M) (root : P) (rv : V) (st0 : State P S V M Pr) (p : P) (v : V)
    (base : List (Incompat P S V M)) :
    ∀ (ids : List Nat) (st' st'' : State P S V M Pr),
    ids.foldlM (m := R) (fun st id => mergeIncompatibility st id) st' = .ok st'' →
    SInv W root rv st' → st0.store.length ≤ st'.store.length →
    (∀ (j : Nat) x, base[j]? = some x → st'.store[j]? = some x) →
    (∀ id ∈ ids, st0.store.length ≤ id ∧ ∃ self, base[id]? = some self ∧
      (∃ s q t, self.kind = .fromDependencyOf p s q t) ∧ p ∈ self.terms.map Prod.fst) →
    ((∃ c, Cand st0 p v st' c) ∨ (∃ k ∈ ids, ∃ self, base[k]? = some self ∧ SemOK st0.ps p v self)) →
    ∃ c, Cand st0 p v st'' c := by
  intro ids
  induction ids with
  | nil =>
    intro st' st'' hr hs hlen hpre hids h
    simp only [List.foldlM_nil, pure, Except.pure] at hr
    injection hr with hr; subst hr
    rcases h with h | ⟨k, hk, _⟩
    · exact h
    · cases hk
  | cons id' rest ih =>
    intro st' st'' hr hs hlen hpre hids h
    simp only [List.foldlM_cons, bind, Except.bind] at hr
    split at hr
    · cases hr
    rename_i st1 h1
    have hs1 := mergeIncompatibility_inv W root rv h1 hs
    obtain ⟨extra, e1⟩ := mergeIncompatibility_store h1
    have hpre1 : ∀ (j : Nat) x, st'.store[j]? = some x → st1.store[j]? = some x := by
      intro j x hj
      rw [e1, List.getElem?_append_left (List.getElem?_eq_some_iff.1 hj).1]; exact hj
    have hlen1 : st0.store.length ≤ st1.store.length := by
      rw [e1, List.length_append]; exact Nat.le_trans hlen (Nat.le_add_right _ _)
    obtain ⟨hid', self, hself, hkind, hkey⟩ := hids id' List.mem_cons_self
    refine ih st1 st'' hr hs1 hlen1 (fun j x hj => hpre1 j x (hpre j x hj))
      (fun id hid => hids id (List.mem_cons_of_mem _ hid)) ?_
    rcases h with h | ⟨k, hk, selfk, hselfk, hsem⟩
    · exact Or.inl (cand_step W root rv hs hlen h1 hid' (hpre _ _ hself) hkind hkey (Or.inl h))
    · rcases List.mem_cons.1 hk with e | e
      · subst e
        rw [hself] at hselfk; injection hselfk with hselfk; subst hselfk
        exact Or.inl (cand_step W root rv hs hlen h1 hid' (hpre _ _ hself) hkind hkey (Or.inr hsem))
      · exact Or.inr ⟨k, e, selfk, hselfk, hsem⟩

end State

namespace State

theorem foldlM_merge_prefix :
    ∀ (ids : List Nat) (st' st'' : State P S V M Pr),
    ids.foldlM (m := R) (fun st id => mergeIncompatibility st id) st' = .ok st'' →
    ∀ (j : Nat) x, st'.store[j]? = some x → st''.store[j]? = some x := by
  intro ids st' st'' hr
  refine foldlM_ok_inv (fun st'' => ∀ (j : Nat) x, st'.store[j]? = some x → st''.store[j]? = some x) hr
    (fun _ _ hj => hj) ?_
  intro id _ st1 st2 h1 h2 j x hj
  obtain ⟨extra, e⟩ := mergeIncompatibility_store h2
  rw [e, List.getElem?_append_left (List.getElem?_eq_some_iff.1 (h1 j x hj)).1]
  exact h1 j x hj

theorem foldlM_merge_contradicted :
    ∀ (ids : List Nat) (st' st'' : State P S V M Pr),
    ids.foldlM (m := R) (fun st id => mergeIncompatibility st id) st' = .ok st'' →
    st''.contradicted = st'.contradicted := by
  intro ids st' st'' hr
  refine foldlM_ok_inv (fun st'' => st''.contradicted = st'.contradicted) hr rfl ?_
  intro id _ st1 st2 h1 h2
  rw [(mergeIncompatibility_spec h2).2.1, h1]

theorem trigger_declined (W : World P S V M) (hW : W.SetsValid) (root : P) (rv : V)
    {st st1 : State P S V M Pr} {p : P} {v : V} {deps : List (P × S)} {start stop : Nat}
    (hs : SInv W root rv st) (h : PInv st)
    (hadd : st.addIncompatibilityFromDependencies p v deps = .ok (st1, start, stop))
    (hd : W.deps p v = .available deps)
    {cur : Term S} (hcur : st.ps.termIntersectionForPackage p = some cur)
    (hv : cur.contains v = true)
    (hdecl : ∃ i ∈ (st1.store.drop start).take (stop - start),
      i.relation (fun q => if q = p then some (Term.exact v) else st1.ps.termIntersectionForPackage q) =
        .satisfied) :
    ∃ ids id, SmallMap.get st1.incompatibilities p = some ids ∧ id ∈ ids ∧ Trigger st1 p id := by
  obtain ⟨hp1, eps⟩ := addIncompatibilityFromDependencies_pinv hadd h
  have hs1 := addIncompatibilityFromDependencies_inv W hW root rv hadd hs hd
  obtain ⟨h1, rfl, rfl⟩ := addIncompatibilityFromDependencies_spec hadd
  rw [← List.length_map (as := deps)
    (f := fun dep => Incompat.fromDependency (M := M) p (VersionSet.singleton v) dep)] at h1 hdecl
  generalize hnews : deps.map (fun dep => Incompat.fromDependency (M := M) p (VersionSet.singleton v) dep) = news
    at h1 hdecl
  have hnewsj : ∀ (j : Nat) x, news[j]? = some x → ∃ dep, x = Incompat.fromDependency p (VersionSet.singleton v) dep := by
    intro j x hj
    have := List.mem_of_getElem? hj
    rw [← hnews, List.mem_map] at this
    obtain ⟨dep, _, e⟩ := this
    exact ⟨dep, e.symm⟩
  have hsA : SInv W root rv ({ st with store := st.store ++ news } : State P S V M Pr) := by
    refine ⟨?_, hs.root, hs.rv, hs.ps⟩
    apply storeInv_append W root rv _ _ hs.store
    intro k i hi
    have hmem := List.mem_of_getElem? hi
    rw [← hnews, List.mem_map] at hmem
    obtain ⟨d, hdm, rfl⟩ := hmem
    exact Incompat.fromDependency_good W hW root rv _ _ p v deps hd d hdm
  have hpre := foldlM_merge_prefix _ _ _ h1
  rw [Nat.add_sub_cancel_left] at hdecl
  obtain ⟨i, hi, hrel⟩ := hdecl
  obtain ⟨j, hj⟩ := List.getElem?_of_mem hi
  rw [List.getElem?_take] at hj
  split at hj
  · rename_i hjlt
    rw [List.getElem?_drop] at hj
    have hbj : (st.store ++ news)[st.store.length + j]? = some (news[j]) := by
      rw [List.getElem?_append_right (Nat.le_add_right _ _), Nat.add_sub_cancel_left]
      exact List.getElem?_eq_getElem hjlt
    have := hpre _ _ hbj
    rw [hj] at this; injection this with this
    obtain ⟨dep, hdep⟩ := hnewsj j _ (List.getElem?_eq_getElem hjlt)
    have gi := hsA.store _ _ hbj
    rw [← this] at hdep gi hbj
    -- the satisfied incompatibility will trigger
    have hsem : SemOK st.ps p v i := by
      have hall := Incompat.relationGo_satisfied_terms _ i.terms hrel
      have hkey : p ∈ i.terms.map Prod.fst := by rw [hdep]; exact Incompat.fromDependency_key p _ dep
      rw [List.mem_map] at hkey
      obtain ⟨⟨p', tp⟩, hmem, rfl⟩ := hkey
      refine ⟨?_, tp, SmallMap.get_of_mem gi.nodup hmem, gi.sets _ _ hmem, ?_⟩
      · intro q t hm hq
        obtain ⟨o, ho, hsat⟩ := hall q t hm
        simp only [if_neg hq] at ho
        exact ⟨o, eps ▸ ho, hsat⟩
      · obtain ⟨o, ho, hsat⟩ := hall _ tp hmem
        simp only [if_true, Option.some.injEq] at ho
        subst ho
        rw [Term.contains_eq_eval]
        exact Term.relationWith_satisfied_sound tp _ (gi.sets _ _ hmem) (Term.valid_exact v) hsat (some v)
          ((Term.eval_exact v _).2 rfl)
    obtain ⟨c, hc1, ⟨ids, hids, hcm⟩, incc, hc3, hsemc⟩ := cand_fold W root rv st p v (st.store ++ news)
      _ _ _ h1 hsA (by simp) (fun _ _ hh => hh) (by
        intro id hid
        rw [List.mem_range'_1] at hid
        refine ⟨hid.1, ?_⟩
        have hlt : id - st.store.length < news.length := by omega
        obtain ⟨dep', hdep'⟩ := hnewsj _ _ (List.getElem?_eq_getElem hlt)
        refine ⟨news[id - st.store.length], ?_, ?_, ?_⟩
        · rw [List.getElem?_append_right hid.1]; exact List.getElem?_eq_getElem hlt
        · rw [hdep']; exact ⟨_, _, _, rfl⟩
        · rw [hdep']; exact Incompat.fromDependency_key p _ dep')
      (Or.inr ⟨st.store.length + j, by rw [List.mem_range'_1]; omega, i, hbj, hsem⟩)
    obtain ⟨tp, htp, htpv, htpc⟩ := hsemc.2
    refine ⟨ids, c, hids, hcm, ?_, incc, hc3, ?_, tp, cur, htp, eps ▸ hcur, ?_⟩
    · have hcc := foldlM_merge_contradicted _ _ _ h1
      simp only at hcc
      rw [hcc]
      cases hg : SmallMap.get st.contradicted c with
      | none => rfl
      | some lvl =>
        have := h.cache _ (SmallMap.mem_of_get hg)
        simp only at this
        omega
    · intro q t hm hq
      rw [eps]; exact hsemc.1 q t hm hq
    · exact Term.relationWith_ne_contradicted_of_common tp cur v htpv
        (PartialSolution.termIntersection_valid hs.ps hcur) htpc hv
  · cases hj

theorem pending_declined (W : World P S V M) (hW : W.SetsValid) (root : P) (rv : V)
    {st st1 : State P S V M Pr} {p : P} {v : V} {deps : List (P × S)} {start stop : Nat}
    (hs : SInv W root rv st) (h : PInv st)
    (hadd : st.addIncompatibilityFromDependencies p v deps = .ok (st1, start, stop))
    (hd : W.deps p v = .available deps)
    (hpos : st.ps.InflightPos p) {cur : Term S} (hcur : st.ps.termIntersectionForPackage p = some cur)
    (hv : cur.contains v = true)
    (hdecl : ∃ i ∈ (st1.store.drop start).take (stop - start),
      i.relation (fun q => if q = p then some (Term.exact v) else st1.ps.termIntersectionForPackage q) =
        .satisfied) :
    Pending st1 p := by
  obtain ⟨ids, id, hids, hmem, htr⟩ := trigger_declined W hW root rv hs h hadd hd hcur hv hdecl
  exact Or.inr ⟨(addIncompatibilityFromDependencies_pinv hadd h).2 ▸ hpos, ids, hids, id, hmem, htr⟩

end State

end PS
end Pubgrub
