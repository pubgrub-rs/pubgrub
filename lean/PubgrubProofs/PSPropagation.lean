/-
`State.backtrack`, `conflictResolution`, `propagateIncompats` and `unitPropagationLoop` preserve the
strengthened I-PS together with any property of the partial solution that `addDerivation` keeps and
`backtrack` establishes; I-Q is such a property.
-/
import PubgrubProofs.PSStateInv

set_option linter.unusedSectionVars false

namespace Pubgrub
open VersionSet

section PS
variable {P S V M Pr : Type} [DecidableEq P] [VersionSet S V] [DecidableEq S]
  [LawfulVersionSet S V]

/-- a property of the partial solution that unit propagation maintains: `addDerivation` keeps it and
`backtrack`, which empties the queue, establishes it -/
structure PartialSolution.Kept (M : Type) (Q : PartialSolution P S V Pr → Prop) : Prop where
  addDerivation : ∀ {ps ps' : PartialSolution P S V Pr} {p : P} {cause : Nat}
    {store : List (Incompat P S V M)}, ps.WF' → Q ps → ps.addDerivation p cause store = .ok ps' → Q ps'
  backtrack : ∀ {ps ps' : PartialSolution P S V Pr} {dl : Nat}, ps.WF' → dl ≤ ps.currentDecisionLevel →
    ps.backtrack dl = .ok ps' → Q ps'

theorem PartialSolution.kept_qInv : PartialSolution.Kept M (fun ps : PartialSolution P S V Pr => ps.QInv none) :=
  ⟨fun h hq hr => addDerivation_qInv h hq hr, fun h hdl hr => backtrack_qInv h hdl hr⟩

theorem PInv.cacheInsert {st : State P S V M Pr} (h : PInv st) {id : Nat} (hid : id < st.store.length)
    (lvl : Nat) : PInv { st with contradicted := SmallMap.insert st.contradicted id lvl } := by
  refine ⟨h.wf, ?_⟩
  intro kv hkv
  rcases SmallMap.mem_insert_sub hkv with rfl | hkv
  · exact hid
  · exact h.cache kv hkv

theorem PInv.derive {st : State P S V M Pr} (h : PInv st) {id : Nat} (hid : id < st.store.length)
    {q : P} {ps : PartialSolution P S V Pr} (hps : st.ps.addDerivation q id st.store = .ok ps)
    (buffer : List P) (lvl : Nat) :
    PInv { st with buffer := buffer, ps := ps, contradicted := SmallMap.insert st.contradicted id lvl } := by
  refine ⟨PartialSolution.addDerivation_wf' h.wf hps, ?_⟩
  intro kv hkv
  rcases SmallMap.mem_insert_sub hkv with rfl | hkv
  · exact hid
  · exact h.cache kv hkv

namespace State
variable {Q : PartialSolution P S V Pr → Prop}

theorem backtrack_kept (hQ : PartialSolution.Kept M Q) {st st' : State P S V M Pr} {incompat : Nat}
    {changed : Bool} {dl : Nat} (h : PInv st) (hdl : dl ≤ st.ps.currentDecisionLevel)
    (hr : st.backtrack incompat changed dl = .ok st') : PInv st' ∧ Q st'.ps := by
  obtain ⟨ps, hps, hc⟩ := backtrack_spec hr
  have hq := hQ.backtrack h.wf hdl hps
  have h1 : PInv ({ st with ps := ps, contradicted := SmallMap.retainVals st.contradicted (fun l => l ≤ dl) } :
      State P S V M Pr) :=
    ⟨(PartialSolution.backtrack_wf' h.wf hdl hps).1, fun kv hkv => h.cache kv (List.mem_filter.1 hkv).1⟩
  rcases hc with ⟨-, hr⟩ | rfl
  · obtain ⟨h2, e⟩ := mergeIncompatibility_pinv hr h1
    exact ⟨h2, e ▸ hq⟩
  · exact ⟨h1, hq⟩

theorem conflictResolution_kept (hQ : PartialSolution.Kept M Q) :
    ∀ (fuel : Nat) (st : State P S V M Pr) (cur : Nat) (changed : Bool)
      {st' : State P S V M Pr} {r : Except Nat (P × Nat)},
    conflictResolution fuel st cur changed = .ok (st', r) → PInv st →
    PInv st' ∧ ((∃ x, r = .ok x) ∨ Q st.ps → Q st'.ps) := by
  intro fuel
  induction fuel with
  | zero => intro st cur changed st' r hr; simp [conflictResolution] at hr
  | succ fuel ih =>
    intro st cur changed st' r hr h
    unfold conflictResolution at hr
    simp only [bind, Except.bind, pure, Except.pure] at hr
    split at hr
    · cases hr
    rename_i inc hinc
    split at hr
    · cases hr
      exact ⟨h, fun hx => hx.elim (fun ⟨_, hx⟩ => nomatch hx) id⟩
    · split at hr
      · cases hr
      rename_i ps hss
      split at hr
      · rename_i prev hsearch
        split at hr
        · cases hr
        rename_i st1 hb
        cases hr
        have hlev : prev ≤ st.ps.currentDecisionLevel := by
          apply PartialSolution.satisfierSearch_level h.wf (inc := inc) (store := st.store) (pkg := ps.1)
          rw [hss]
          obtain ⟨a, b⟩ := ps
          simp only at hsearch
          rw [hsearch]
        obtain ⟨h1, h2⟩ := backtrack_kept hQ h hlev hb
        exact ⟨h1, fun _ => h2⟩
      · split at hr
        · cases hr
        split at hr
        · cases hr
        obtain ⟨h1, h2⟩ := ih _ _ _ hr ⟨h.wf, fun kv hkv => by
          simp only [List.length_append, List.length_singleton]
          exact Nat.lt_succ_of_lt (h.cache kv hkv)⟩
        exact ⟨h1, h2⟩

theorem propagateIncompats_kept
    (hQ : ∀ {ps ps' : PartialSolution P S V Pr} {p : P} {cause : Nat} {store : List (Incompat P S V M)},
      ps.WF' → Q ps → ps.addDerivation p cause store = .ok ps' → Q ps') :
    ∀ (ids : List Nat) (st : State P S V M Pr) {st' : State P S V M Pr} {r : Option Nat},
    propagateIncompats st ids = .ok (st', r) → PInv st → PInv st' ∧ (Q st.ps → Q st'.ps) := by
  intro ids
  induction ids with
  | nil =>
    intro st st' r hr h
    simp only [propagateIncompats] at hr
    cases hr; exact ⟨h, fun hq => hq⟩
  | cons id rest ih =>
    intro st st' r hr h
    unfold propagateIncompats at hr
    split at hr
    · exact ih _ hr h
    split at hr
    · cases hr
    rename_i inc hinc
    have hid := storeGet_lt hinc
    split at hr
    · cases hr; exact ⟨h, fun hq => hq⟩
    · split at hr
      · cases hr
      rename_i ps hps
      obtain ⟨h1, h2⟩ := ih _ hr (h.derive hid hps _ _)
      exact ⟨h1, fun hq => h2 (hQ h.wf hq hps)⟩
    · obtain ⟨h1, h2⟩ := ih _ hr (h.cacheInsert hid _)
      exact ⟨h1, h2⟩
    · exact ih _ hr h

theorem unitPropagationLoop_kept (hQ : PartialSolution.Kept M Q) :
    ∀ (fuel : Nat) (st : State P S V M Pr) {st' : State P S V M Pr} {r : Option Nat},
    unitPropagationLoop fuel st = .ok (st', r) → PInv st → PInv st' ∧ (Q st.ps → Q st'.ps) := by
  intro fuel
  induction fuel with
  | zero => intro st st' r hr; simp [unitPropagationLoop] at hr
  | succ fuel ih =>
    intro st st' r hr h
    unfold unitPropagationLoop at hr
    split at hr
    · cases hr; exact ⟨h, fun hq => hq⟩
    simp only at hr
    split at hr
    · cases hr
    have h0 : PInv ({ st with buffer := st.buffer.dropLast } : State P S V M Pr) := ⟨h.wf, h.cache⟩
    split at hr
    · cases hr
    · rename_i st1 hp
      obtain ⟨h1, hq1⟩ := propagateIncompats_kept hQ.addDerivation _ _ hp h0
      obtain ⟨h2, h3⟩ := ih _ hr h1
      exact ⟨h2, fun hq => h3 (hq1 hq)⟩
    · rename_i st1 conflictId hp
      obtain ⟨h1, hq1⟩ := propagateIncompats_kept hQ.addDerivation _ _ hp h0
      split at hr
      · cases hr
      · rename_i st2 terminal hc
        cases hr
        obtain ⟨h2, hq2⟩ := conflictResolution_kept hQ _ _ _ _ hc h1
        exact ⟨h2, fun hq => hq2 (Or.inr (hq1 hq))⟩
      · rename_i st2 packageAlmost rootCause hc
        obtain ⟨h2, hq2⟩ := conflictResolution_kept hQ _ _ _ _ hc h1
        split at hr
        · cases hr
        rename_i ps hps
        obtain ⟨inc, t, hi, _⟩ := PartialSolution.addDerivation_spec hps
        obtain ⟨h3, h4⟩ := ih _ hr (h2.derive (List.getElem?_eq_some_iff.1 hi).1 hps _ _)
        exact ⟨h3, fun _ => h4 (hQ.addDerivation h2.wf (hq2 (Or.inl ⟨_, rfl⟩)) hps)⟩

theorem backtrack_pinv {st st' : State P S V M Pr} {incompat : Nat} {changed : Bool} {dl : Nat}
    (h : PInv st) (hdl : dl ≤ st.ps.currentDecisionLevel)
    (hr : st.backtrack incompat changed dl = .ok st') : PInv st' ∧ st'.ps.QInv none :=
  backtrack_kept PartialSolution.kept_qInv h hdl hr

theorem conflictResolution_pinv :
    ∀ (fuel : Nat) (st : State P S V M Pr) (cur : Nat) (changed : Bool)
      {st' : State P S V M Pr} {r : Except Nat (P × Nat)},
    conflictResolution fuel st cur changed = .ok (st', r) → PInv st →
    PInv st' ∧ ∀ x, r = .ok x → st'.ps.QInv none := fun fuel st cur changed _ _ hr h =>
  have ⟨h1, h2⟩ := conflictResolution_kept PartialSolution.kept_qInv fuel st cur changed hr h
  ⟨h1, fun x hx => h2 (Or.inl ⟨x, hx⟩)⟩

theorem propagateIncompats_pinv {o : Option P} :
    ∀ (ids : List Nat) (st : State P S V M Pr) {st' : State P S V M Pr} {r : Option Nat},
    propagateIncompats st ids = .ok (st', r) → PInv st →
    PInv st' ∧ (st.ps.QInv o → st'.ps.QInv o) :=
  propagateIncompats_kept fun h hq hr => PartialSolution.addDerivation_qInv h hq hr

theorem unitPropagationLoop_pinv :
    ∀ (fuel : Nat) (st : State P S V M Pr) {st' : State P S V M Pr} {r : Option Nat},
    unitPropagationLoop fuel st = .ok (st', r) → PInv st →
    PInv st' ∧ (r = none → st.ps.QInv none → st'.ps.QInv none) := fun fuel st _ _ hr h =>
  have ⟨h1, h2⟩ := unitPropagationLoop_kept PartialSolution.kept_qInv fuel st hr h
  ⟨h1, fun _ => h2⟩

end State
end PS
end Pubgrub
