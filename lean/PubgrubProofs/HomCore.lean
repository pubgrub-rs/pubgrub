/-
Homomorphisms of version sets: commutation lemmas for `PubgrubModel/Core.lean`.
-/
import PubgrubProofs.HomPartialSolution

set_option linter.unusedSectionVars false
set_option linter.unnecessarySeqFocus false

namespace Pubgrub
open VersionSet

section MergeHalves
variable {P S V M Pr : Type} [DecidableEq P] [VersionSet S V] [DecidableEq S]

/-- first half of `merge_incompatibility` (`mergeIncompatibility_eq` joins the halves) -/
def State.mergeHead (st : State P S V M Pr) (id : Nat) : R (State P S V M Pr × Nat) := do
  let inc ← storeGet st.store id
  match inc.asDependency with
    | none => pure (st, id)
    | some key =>
      let depsLookup := (SmallMap.get st.mergedDependencies key).getD []
      match ← State.findMerge st.store inc depsLookup with
      | some (past, merged) =>
        let new := st.store.length
        let store := st.store ++ [merged]
        let idx := merged.terms.foldl (fun idx kv => State.updIndex idx kv.1 (fun ids => ids.filter (· ≠ past)))
          st.incompatibilities
        let depsLookup' := depsLookup.map fun x => if x = past then new else x
        pure ({ st with store := store, incompatibilities := idx,
                        mergedDependencies := SmallMap.insert st.mergedDependencies key depsLookup' }, new)
      | none =>
        pure ({ st with mergedDependencies := SmallMap.insert st.mergedDependencies key (depsLookup ++ [id]) }, id)

/-- second half of `merge_incompatibility` -/
def State.mergeTail (st : State P S V M Pr) (id : Nat) : R (State P S V M Pr) := do
  let inc ← storeGet st.store id
  if st.debug && inc.terms.any (fun kv => kv.2 = (Term.any : Term S)) then
    throw (.panic "merge_incompatibility: assert_ne!(term, Term::any())")
  let idx := inc.terms.foldl (fun idx kv => State.updIndex idx kv.1 (fun ids => ids ++ [id])) st.incompatibilities
  pure { st with incompatibilities := idx }

theorem State.mergeIncompatibility_eq (st : State P S V M Pr) (id : Nat) :
    st.mergeIncompatibility id = (st.mergeHead id >>= fun x => State.mergeTail x.1 x.2) := by
  unfold State.mergeIncompatibility State.mergeHead State.mergeTail
  cases storeGet st.store id with
  | error e => rfl
  | ok inc =>
    simp only [except_ok_bind]
    cases inc.asDependency with
    | none => rfl
    | some key =>
      simp only []
      cases State.findMerge st.store inc ((SmallMap.get st.mergedDependencies key).getD []) with
      | error e => rfl
      | ok o =>
        cases o with
        | none => rfl
        | some x => rfl

end MergeHalves

section CoreLemmas
variable {P S V S' V' M Pr : Type} [DecidableEq P] {_ : VersionSet S V} {_ : VersionSet S' V'}
  [DecidableEq S] [DecidableEq S']

@[simp] theorem State.mapH_rootPackage (h : VSetHom S V S' V') (st : State P S V M Pr) :
    (State.mapH h st).rootPackage = st.rootPackage := rfl
@[simp] theorem State.mapH_rootVersion (h : VSetHom S V S' V') (st : State P S V M Pr) :
    (State.mapH h st).rootVersion = h.ι st.rootVersion := rfl
@[simp] theorem State.mapH_incompatibilities (h : VSetHom S V S' V') (st : State P S V M Pr) :
    (State.mapH h st).incompatibilities = st.incompatibilities := rfl
@[simp] theorem State.mapH_contradicted (h : VSetHom S V S' V') (st : State P S V M Pr) :
    (State.mapH h st).contradicted = st.contradicted := rfl
@[simp] theorem State.mapH_mergedDependencies (h : VSetHom S V S' V') (st : State P S V M Pr) :
    (State.mapH h st).mergedDependencies = st.mergedDependencies := rfl
@[simp] theorem State.mapH_ps (h : VSetHom S V S' V') (st : State P S V M Pr) :
    (State.mapH h st).ps = PartialSolution.mapH h st.ps := rfl
@[simp] theorem State.mapH_store (h : VSetHom S V S' V') (st : State P S V M Pr) :
    (State.mapH h st).store = st.store.map (Incompat.mapH h) := rfl
@[simp] theorem State.mapH_buffer (h : VSetHom S V S' V') (st : State P S V M Pr) :
    (State.mapH h st).buffer = st.buffer := rfl
@[simp] theorem State.mapH_debug (h : VSetHom S V S' V') (st : State P S V M Pr) :
    (State.mapH h st).debug = st.debug := rfl

theorem State.mapH_mk (h : VSetHom S V S' V') (a : P) (b : V) (c : List (P × List Nat)) (d : List (Nat × Nat))
    (e : List ((P × P) × List Nat)) (f : PartialSolution P S V Pr) (g : List (Incompat P S V M))
    (i : List P) (j : Bool) :
    State.mapH h ⟨a, b, c, d, e, f, g, i, j⟩ =
      ⟨a, h.ι b, c, d, e, PartialSolution.mapH h f, g.map (Incompat.mapH h), i, j⟩ := rfl

theorem foldl_keys_mapVals {K T T' σ : Type} (g : T → T') (F : σ → K → σ) (l : List (K × T)) (init : σ) :
    (l.map fun kv => (kv.1, g kv.2)).foldl (fun acc kv => F acc kv.1) init =
      l.foldl (fun acc kv => F acc kv.1) init := by
  rw [List.foldl_map]

@[simp] theorem State.init_mapH (h : VSetHom S V S' V') (debug : Bool) (root : P) (rv : V) :
    (State.init debug root (h.ι rv) : State P S' V' M Pr) = State.mapH h (State.init debug root rv) := by
  simp [State.init, State.mapH]

theorem State.findMerge_mapH (h : VSetHom S V S' V') (store : List (Incompat P S V M))
    (inc : Incompat P S V M) (ids : List Nat) :
    State.findMerge (store.map (Incompat.mapH h)) (Incompat.mapH h inc) ids =
      (State.findMerge store inc ids).map (Option.map fun x => (x.1, Incompat.mapH h x.2)) := by
  induction ids with
  | nil => rfl
  | cons past rest ih =>
    simp only [State.findMerge, storeGet_map]
    cases storeGet store past with
    | error e => rfl
    | ok pastInc =>
      simp only [exceptMap_ok, except_ok_bind, Incompat.mergeDependents_mapH]
      cases inc.mergeDependents pastInc with
      | error e => rfl
      | ok o =>
        cases o with
        | none => simpa using ih
        | some merged => rfl

theorem State.mergeHead_mapH (h : VSetHom S V S' V') (st : State P S V M Pr) (id : Nat) :
    (State.mapH h st).mergeHead id =
      (st.mergeHead id).map fun x => (State.mapH h x.1, x.2) := by
  unfold State.mergeHead
  simp only [State.mapH_store, storeGet_map]
  cases storeGet st.store id with
  | error e => rfl
  | ok inc =>
    simp only [exceptMap_ok, except_ok_bind, Incompat.asDependency_mapH, State.mapH_mergedDependencies]
    cases inc.asDependency with
    | none => rfl
    | some key =>
      simp only [State.findMerge_mapH]
      cases State.findMerge st.store inc ((SmallMap.get st.mergedDependencies key).getD []) with
      | error e => rfl
      | ok o =>
        cases o with
        | none => rfl
        | some x =>
          obtain ⟨past, merged⟩ := x
          simp [State.mapH, List.foldl_map]

theorem State.mergeTail_mapH (h : VSetHom S V S' V') (st : State P S V M Pr) (id : Nat) :
    (State.mapH h st).mergeTail id = (st.mergeTail id).map (State.mapH h) := by
  unfold State.mergeTail
  simp only [State.mapH_store, storeGet_map]
  cases storeGet st.store id with
  | error e => rfl
  | ok inc =>
    simp only [exceptMap_ok, except_ok_bind, State.mapH_debug, Incompat.mapH_terms, List.any_map,
      Function.comp_def, Term.mapH_eq_any_iff]
    split
    · rfl
    · simp [State.mapH, List.foldl_map]

theorem State.mergeIncompatibility_mapH (h : VSetHom S V S' V') (st : State P S V M Pr) (id : Nat) :
    (State.mapH h st).mergeIncompatibility id = (st.mergeIncompatibility id).map (State.mapH h) := by
  rw [State.mergeIncompatibility_eq, State.mergeIncompatibility_eq]
  apply except_bind_comm (fun x : State P S V M Pr × Nat => (State.mapH h x.1, x.2))
  · exact State.mergeHead_mapH h st id
  · intro x
    exact State.mergeTail_mapH h x.1 x.2

theorem State.mapH_withStore (h : VSetHom S V S' V') (st : State P S V M Pr) (l : List (Incompat P S V M)) :
    ({ State.mapH h st with store := (st.store.map (Incompat.mapH h)) ++ l.map (Incompat.mapH h) } :
        State P S' V' M Pr) = State.mapH h { st with store := st.store ++ l } := by
  simp [State.mapH]

theorem State.addIncompatibility_mapH (h : VSetHom S V S' V') (st : State P S V M Pr)
    (inc : Incompat P S V M) :
    (State.mapH h st).addIncompatibility (Incompat.mapH h inc) =
      (st.addIncompatibility inc).map (State.mapH h) := by
  unfold State.addIncompatibility
  have := State.mapH_withStore h st [inc]
  simp only [List.map_cons, List.map_nil] at this
  simp only [State.mapH_store, List.length_map]
  rw [show ({ State.mapH h st with store := (st.store.map (Incompat.mapH h)) ++ [Incompat.mapH h inc] } :
        State P S' V' M Pr) = State.mapH h { st with store := st.store ++ [inc] } from this]
  exact State.mergeIncompatibility_mapH h _ _

theorem State.addIncompatibilityFromDependencies_mapH (h : VSetHom S V S' V') (st : State P S V M Pr)
    (p : P) (v : V) (deps : List (P × S)) :
    (State.mapH h st).addIncompatibilityFromDependencies p (h.ι v) (deps.map fun kv => (kv.1, h.f kv.2)) =
      (st.addIncompatibilityFromDependencies p v deps).map fun x => (State.mapH h x.1, x.2) := by
  unfold State.addIncompatibilityFromDependencies
  simp only [State.mapH_store, List.length_map, List.length_append, List.map_map]
  have hnews : (List.map ((fun dep => Incompat.fromDependency (M := M) p (singleton (h.ι v) : S') dep) ∘
        fun kv : P × S => (kv.1, h.f kv.2)) deps) =
      (deps.map fun dep => Incompat.fromDependency (M := M) p (singleton v : S) dep).map (Incompat.mapH h) := by
    simp only [List.map_map]
    congr 1
    funext dep
    simp only [Function.comp, ← h.map_singleton, Incompat.fromDependency_mapH]
  rw [hnews, State.mapH_withStore]
  apply except_bind_comm (State.mapH h)
  · have := foldlM_map_comm (State.mapH (M := M) (Pr := Pr) h) (id : Nat → Nat)
      (fun (st : State P S V M Pr) id => State.mergeIncompatibility st id)
      (fun (st : State P S' V' M Pr) id => State.mergeIncompatibility st id)
      (fun s a => State.mergeIncompatibility_mapH h s a)
    simpa using this _ _
  · intro a
    rfl

theorem State.backtrack_mapH (h : VSetHom S V S' V') (st : State P S V M Pr) (incompat : Nat)
    (changed : Bool) (dl : Nat) :
    (State.mapH h st).backtrack incompat changed dl =
      (st.backtrack incompat changed dl).map (State.mapH h) := by
  unfold State.backtrack
  simp only [State.mapH_ps, PartialSolution.backtrack_mapH]
  cases st.ps.backtrack dl with
  | error e => rfl
  | ok ps =>
    simp only [exceptMap_ok, except_ok_bind]
    cases changed with
    | false => rfl
    | true =>
      simp only [if_true]
      exact State.mergeIncompatibility_mapH (P := P) h
        { st with ps := ps, contradicted := SmallMap.retainVals st.contradicted (fun l => l ≤ dl) } incompat

theorem State.conflictResolution_mapH (h : VSetHom S V S' V') (fuel : Nat) (st : State P S V M Pr)
    (current : Nat) (changed : Bool) :
    State.conflictResolution fuel (State.mapH h st) current changed =
      (State.conflictResolution fuel st current changed).map fun x => (State.mapH h x.1, x.2) := by
  induction fuel generalizing st current changed with
  | zero => rfl
  | succ fuel ih =>
    simp only [State.conflictResolution, State.mapH_store, storeGet_map]
    cases storeGet st.store current with
    | error e => rfl
    | ok inc =>
      simp only [exceptMap_ok, except_ok_bind, State.mapH_rootPackage, State.mapH_rootVersion,
        Incompat.isTerminal_mapH, State.mapH_ps, PartialSolution.satisfierSearch_mapH]
      split
      · rfl
      cases st.ps.satisfierSearch inc st.store with
      | error e => rfl
      | ok x =>
        obtain ⟨package, search⟩ := x
        cases search with
        | differentDecisionLevels prev =>
          simp only [except_ok_bind, State.backtrack_mapH]
          cases st.backtrack current changed prev <;> rfl
        | sameDecisionLevels sc =>
          simp only [except_ok_bind]
          cases storeGet st.store sc with
          | error e => rfl
          | ok causeInc =>
            simp only [exceptMap_ok, except_ok_bind, Incompat.priorCause_mapH]
            cases Incompat.priorCause current sc inc causeInc package with
            | error e => rfl
            | ok prior =>
              simp only [exceptMap_ok, except_ok_bind, List.length_map]
              have key := ih { st with store := st.store ++ [prior] } st.store.length true
              simpa [State.mapH] using key

theorem State.propagateIncompats_mapH (h : VSetHom S V S' V') (st : State P S V M Pr) (ids : List Nat) :
    State.propagateIncompats (State.mapH h st) ids =
      (State.propagateIncompats st ids).map fun x => (State.mapH h x.1, x.2) := by
  induction ids generalizing st with
  | nil => rfl
  | cons id rest ih =>
    simp only [State.propagateIncompats, State.mapH_contradicted, State.mapH_store, storeGet_map,
      State.mapH_ps]
    split
    · exact ih st
    cases storeGet st.store id with
    | error e => rfl
    | ok inc =>
      simp only [exceptMap_ok, PartialSolution.relation_mapH]
      cases st.ps.relation inc with
      | satisfied => rfl
      | almostSatisfied p =>
        simp only [PartialSolution.addDerivation_mapH]
        cases st.ps.addDerivation p id st.store with
        | error e => rfl
        | ok ps =>
          simp only [exceptMap_ok, State.mapH_buffer, PartialSolution.mapH_currentDecisionLevel]
          exact ih { st with buffer := (if st.buffer.contains p then st.buffer else st.buffer ++ [p]), ps := ps,
                             contradicted := SmallMap.insert st.contradicted id ps.currentDecisionLevel }
      | contradicted p =>
        simp only [PartialSolution.mapH_currentDecisionLevel]
        exact ih { st with contradicted := SmallMap.insert st.contradicted id st.ps.currentDecisionLevel }
      | inconclusive => exact ih st

theorem State.unitPropagationLoop_mapH (h : VSetHom S V S' V') (fuel : Nat) (st : State P S V M Pr) :
    State.unitPropagationLoop fuel (State.mapH h st) =
      (State.unitPropagationLoop fuel st).map fun x => (State.mapH h x.1, x.2) := by
  induction fuel generalizing st with
  | zero => rfl
  | succ fuel ih =>
    simp only [State.unitPropagationLoop, State.mapH_buffer, State.mapH_incompatibilities]
    cases st.buffer.getLast? with
    | none => rfl
    | some current =>
      simp only []
      cases SmallMap.get st.incompatibilities current with
      | none => rfl
      | some ids =>
        simp only []
        have hp : ∀ s' : State P S' V' M Pr, s' = State.mapH h { st with buffer := st.buffer.dropLast } →
            State.propagateIncompats s' ids.reverse =
              (State.propagateIncompats { st with buffer := st.buffer.dropLast } ids.reverse).map
                fun x => (State.mapH h x.1, x.2) := by
          intro s' hs'
          rw [hs']
          exact State.propagateIncompats_mapH h _ _
        rw [hp]
        swap
        · rfl
        cases State.propagateIncompats { st with buffer := st.buffer.dropLast } ids.reverse with
        | error e => rfl
        | ok x =>
          obtain ⟨st1, o⟩ := x
          cases o with
          | none => exact ih st1
          | some conflictId =>
            simp only [exceptMap_ok, State.conflictResolution_mapH]
            cases State.conflictResolution fuel st1 conflictId false with
            | error e => rfl
            | ok y =>
              obtain ⟨st2, r⟩ := y
              cases r with
              | error terminal => rfl
              | ok pr =>
                obtain ⟨packageAlmost, rootCause⟩ := pr
                simp only [exceptMap_ok, State.mapH_ps, State.mapH_store, PartialSolution.addDerivation_mapH]
                cases st2.ps.addDerivation packageAlmost rootCause st2.store with
                | error e => rfl
                | ok ps =>
                  simp only [exceptMap_ok, State.mapH_contradicted, PartialSolution.mapH_currentDecisionLevel]
                  exact ih { st2 with buffer := [packageAlmost], ps := ps, contradicted := SmallMap.insert st2.contradicted rootCause ps.currentDecisionLevel }

theorem State.unitPropagation_mapH (h : VSetHom S V S' V') (fuel : Nat) (st : State P S V M Pr) (p : P) :
    (State.mapH h st).unitPropagation fuel p =
      (st.unitPropagation fuel p).map fun x => (State.mapH h x.1, x.2) := by
  unfold State.unitPropagation
  exact State.unitPropagationLoop_mapH h fuel { st with buffer := [p] }

theorem State.collectIds_mapH (h : VSetHom S V S' V') (store : List (Incompat P S V M)) (fuel : Nat)
    (stack all shared : List Nat) :
    State.collectIds (store.map (Incompat.mapH h)) fuel stack all shared =
      State.collectIds store fuel stack all shared := by
  induction fuel generalizing stack all shared with
  | zero => rfl
  | succ fuel ih =>
    simp only [State.collectIds, storeGet_map]
    cases stack.getLast? with
    | none => rfl
    | some i =>
      simp only []
      cases storeGet store i with
      | error e => rfl
      | ok inc =>
        simp only [exceptMap_ok, Incompat.causes_mapH, ih]

theorem State.buildNode_mapH (h : VSetHom S V S' V') (store : List (Incompat P S V M)) (shared : List Nat)
    (pre : List (Nat × DerivationTree P S V M)) (id : Nat) :
    State.buildNode (store.map (Incompat.mapH h)) shared
        (pre.map fun kv => (kv.1, DerivationTree.mapH h kv.2)) id =
      (State.buildNode store shared pre id).map (DerivationTree.mapH h) := by
  unfold State.buildNode
  simp only [storeGet_map]
  cases storeGet store id with
  | error e => rfl
  | ok inc =>
    obtain ⟨terms, kind⟩ := inc
    cases kind with
    | derivedFrom id1 id2 =>
      simp only [exceptMap_ok, except_ok_bind, Incompat.mapH, Kind.mapH, SmallMap.get_mapVals]
      cases SmallMap.get pre id1 with
      | none => rfl
      | some c1 =>
        cases SmallMap.get pre id2 with
        | none => rfl
        | some c2 => rfl
    | notRoot p v => rfl
    | noVersions p s => rfl
    | fromDependencyOf p s q t => rfl
    | custom p s m => rfl

theorem State.buildDerivationTree_mapH (h : VSetHom S V S' V') (st : State P S V M Pr) (incompat : Nat) :
    (State.mapH h st).buildDerivationTree incompat =
      (st.buildDerivationTree incompat).map (DerivationTree.mapH h) := by
  unfold State.buildDerivationTree
  simp only [State.mapH_store, State.collectIds_mapH, List.length_map]
  cases State.collectIds st.store (2 * st.store.length + 2) [incompat] [] [] with
  | error e => rfl
  | ok x =>
    obtain ⟨all, shared⟩ := x
    simp only [except_ok_bind]
    apply except_bind_comm (fun pre : List (Nat × DerivationTree P S V M) =>
      pre.map fun kv => (kv.1, DerivationTree.mapH h kv.2))
    · have := foldlM_map_comm
        (fun pre : List (Nat × DerivationTree P S V M) => pre.map fun kv => (kv.1, DerivationTree.mapH h kv.2))
        (id : Nat → Nat)
        (fun pre id => do
          let t ← State.buildNode st.store shared pre id
          pure (SmallMap.insert pre id t))
        (fun pre id => do
          let t ← State.buildNode (st.store.map (Incompat.mapH h)) shared pre id
          pure (SmallMap.insert pre id t))
        (by
          intro pre id
          simp only [id_eq, State.buildNode_mapH]
          cases State.buildNode st.store shared pre id with
          | error e => rfl
          | ok t => simp)
        (State.sortIds all) []
      simpa using this
    · intro pre
      simp

end CoreLemmas
end Pubgrub
