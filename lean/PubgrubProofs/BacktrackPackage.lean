/-
What `backtrack` does to the assignments of one package (`btG`): which derivations are kept, and that
satisfied terms and terms before a global index survive when the levels allow it.
-/
import PubgrubProofs.SatisfierSearch

set_option linter.unusedSectionVars false

namespace Pubgrub
open VersionSet

theorem filterMapM_total {α β : Type} (f : α → R (Option β)) :
    ∀ (l : List α), (∀ x ∈ l, ∃ o, f x = .ok o) → ∃ l', l.filterMapM f = .ok l' := by
  intro l
  induction l with
  | nil => intro _; exact ⟨[], rfl⟩
  | cons a l ih =>
    intro h
    obtain ⟨o, ho⟩ := h a List.mem_cons_self
    obtain ⟨l', hl'⟩ := ih (fun x hx => h x (List.mem_cons_of_mem _ hx))
    rw [List.filterMapM_cons]
    simp only [bind, Except.bind, ho, hl', pure, Except.pure]
    cases o with
    | none => exact ⟨_, rfl⟩
    | some b => exact ⟨_, rfl⟩

section
variable {P S V M Pr : Type} [DecidableEq P] [VersionSet S V] [DecidableEq S] [LawfulVersionSet S V]

namespace PartialSolution

theorem popWhileAbove_split (dl : Nat) (l : List (DatedDerivation S)) :
    ∃ suf, l = popWhileAbove dl l ++ suf ∧ ∀ x ∈ suf, dl < x.decisionLevel := by
  unfold popWhileAbove
  split
  · exact ⟨[], rfl, by intro x hx; cases hx⟩
  · rename_i a as
    refine ⟨((a :: as).reverse.takeWhile fun dd => Decidable.decide (dd.decisionLevel > dl)).reverse, ?_, ?_⟩
    · rw [← List.reverse_append, List.takeWhile_append_dropWhile, List.reverse_reverse]
    · intro x hx
      rw [List.mem_reverse] at hx
      have := List.all_eq_true.1 (List.all_takeWhile (l := (a :: as).reverse)
        (p := fun dd => Decidable.decide (dd.decisionLevel > dl))) x hx
      simpa using this

theorem popWhileAbove_sublist (dl : Nat) (l : List (DatedDerivation S)) : (popWhileAbove dl l).Sublist l := by
  obtain ⟨suf, hsuf, _⟩ := popWhileAbove_split dl l
  conv => rhs; rw [hsuf]
  exact List.sublist_append_left _ _

theorem popWhileAbove_le (dl : Nat) (l : List (DatedDerivation S))
    (hs : (l.map (·.decisionLevel)).Pairwise (· ≤ ·)) :
    ∀ x ∈ popWhileAbove dl l, x.decisionLevel ≤ dl := by
  intro x hx
  obtain ⟨y, hy⟩ := getLast?_of_mem hx
  have hyl := popWhileAbove_last dl l y hy
  have hs' : ((popWhileAbove dl l).map (·.decisionLevel)).Pairwise (· ≤ ·) :=
    List.Pairwise.sublist ((popWhileAbove_sublist dl l).map _) hs
  have hl' : ((popWhileAbove dl l).map (·.decisionLevel)).getLast? = some y.decisionLevel := by
    rw [List.getLast?_map, hy]; rfl
  rcases pairwise_getLast hs' hl' x.decisionLevel (List.mem_map.2 ⟨x, hx, rfl⟩) with e | e
  · omega
  · omega

theorem mem_popWhileAbove_of_le (dl : Nat) (l : List (DatedDerivation S)) {x : DatedDerivation S}
    (hx : x ∈ l) (hle : x.decisionLevel ≤ dl) : x ∈ popWhileAbove dl l := by
  obtain ⟨suf, hsuf, hs⟩ := popWhileAbove_split dl l
  rw [hsuf] at hx
  rcases List.mem_append.1 hx with h | h
  · exact h
  · have := hs x h; omega

/-- the entry after a backtrack that cuts it -/
def _root_.Pubgrub.PackageAssignments.cut (pa : PackageAssignments S V) (dl : Nat) (last : DatedDerivation S) :
    PackageAssignments S V :=
  { pa with dated := popWhileAbove dl pa.dated, highest := last.decisionLevel,
            inter := .derivations last.accumulated }

theorem sat_btG_cases (dl : Nat) (p : P) {pa : PackageAssignments S V} (hx : pa.WFX) :
    (dl < pa.smallest ∧ btF dl (p, pa) = .ok none) ∨
    (pa.smallest ≤ dl ∧ pa.highest ≤ dl ∧ btF dl (p, pa) = .ok (some (p, pa))) ∨
    (pa.smallest ≤ dl ∧ dl < pa.highest ∧ ∃ last, (popWhileAbove dl pa.dated).getLast? = some last ∧
      btF dl (p, pa) = .ok (some (p, pa.cut dl last))) := by
  unfold btF
  simp only
  by_cases h1 : pa.smallest > dl
  · left; rw [if_pos h1]; exact ⟨h1, rfl⟩
  · right
    rw [if_neg h1]
    by_cases h2 : pa.highest ≤ dl
    · left; rw [if_pos h2]; exact ⟨by omega, h2, rfl⟩
    · right
      rw [if_neg h2]
      obtain ⟨f, hf, hfl⟩ := hx.head
      have hfm : f ∈ popWhileAbove dl pa.dated :=
        mem_popWhileAbove_of_le dl _ (List.mem_of_mem_head? hf) (by omega)
      obtain ⟨last, hlast⟩ := getLast?_of_mem hfm
      refine ⟨by omega, by omega, last, hlast, ?_⟩
      simp only [hlast, unwrapOr, bind, Except.bind, pure, Except.pure]
      rfl

theorem btG_eq_some {dl : Nat} {p : P} {pa : PackageAssignments S V} {y : P × PackageAssignments S V}
    (hx : pa.WFX) (h : btG dl (p, pa) = some y) :
    y.1 = p ∧ ((pa.highest ≤ dl ∧ y.2 = pa) ∨
      (pa.smallest ≤ dl ∧ dl < pa.highest ∧ ∃ last, (popWhileAbove dl pa.dated).getLast? = some last ∧
        y.2 = pa.cut dl last)) := by
  unfold btG at h
  rcases sat_btG_cases dl p hx with ⟨_, e⟩ | ⟨_, h2, e⟩ | ⟨h1, h2, last, hl, e⟩
  · rw [e] at h; cases h
  · rw [e] at h; injection h with h; subst h; exact ⟨rfl, Or.inl ⟨h2, rfl⟩⟩
  · rw [e] at h; injection h with h; subst h; exact ⟨rfl, Or.inr ⟨h1, h2, last, hl, rfl⟩⟩

theorem backtrack_safe {ps : PartialSolution P S V Pr} (h : ps.WF') (dl : Nat) :
    Safe (ps.backtrack dl) (fun ps' =>
      ps' = { ps with currentDecisionLevel := dl, assignments := ps.assignments.filterMap (btG dl), queue := [],
                      changed := dl - 1, hasEverBacktracked := true }) := by
  rw [backtrack_eq]
  obtain ⟨asg, hasg⟩ := filterMapM_total (btF (P := P) (S := S) (V := V) dl) ps.assignments (by
    intro x hx
    obtain ⟨p, pa⟩ := x
    rcases sat_btG_cases dl p (h.wfx _ hx) with ⟨_, e⟩ | ⟨_, _, e⟩ | ⟨_, _, _, _, e⟩ <;> exact ⟨_, e⟩)
  refine Safe.bind_ok hasg ?_
  have := filterMapM_ok_eq _ _ _ hasg
  subst this
  exact Safe.ok rfl

theorem btG_dated {dl : Nat} {p : P} {pa : PackageAssignments S V} {y : P × PackageAssignments S V}
    (hx : pa.WFX) (h : btG dl (p, pa) = some y) : y.2.dated.Sublist pa.dated := by
  rcases (btG_eq_some hx h).2 with ⟨_, e⟩ | ⟨_, _, last, _, e⟩
  · rw [e]; exact List.Sublist.refl _
  · rw [e]; exact popWhileAbove_sublist dl _

theorem btG_events {dl : Nat} {p : P} {pa : PackageAssignments S V} {y : P × PackageAssignments S V}
    (hx : pa.WFX) (h : btG dl (p, pa) = some y) : ∀ e ∈ y.2.events, e ∈ pa.events := by
  rcases (btG_eq_some hx h).2 with ⟨_, e⟩ | ⟨_, _, last, _, e⟩
  · rw [e]; exact fun _ h => h
  · rw [e]
    intro ev hev
    rw [PackageAssignments.events_derivations (t := last.accumulated) rfl, List.mem_map] at hev
    obtain ⟨dd, hdd, rfl⟩ := hev
    exact PackageAssignments.mem_events_dated ((popWhileAbove_sublist dl _).subset hdd)

theorem btG_decided {dl : Nat} {p : P} {pa : PackageAssignments S V} {y : P × PackageAssignments S V}
    (hx : pa.WFX) (h : btG dl (p, pa) = some y) {g : Nat} {v : V} {t : Term S}
    (hd : y.2.inter = .decision g v t) : y.2 = pa := by
  rcases (btG_eq_some hx h).2 with ⟨_, e⟩ | ⟨_, _, last, _, e⟩
  · exact e
  · rw [e] at hd; cases hd

theorem btG_levels {dl dl0 n i : Nat} {p : P} {pa : PackageAssignments S V} {y : P × PackageAssignments S V}
    (hw : pa.WFAt dl0 n i) (hx : pa.WFX) (h : btG dl (p, pa) = some y) :
    ∀ dd ∈ y.2.dated, dd.decisionLevel ≤ dl := by
  rcases (btG_eq_some hx h).2 with ⟨h1, e⟩ | ⟨_, _, last, _, e⟩
  · rw [e]; intro dd hdd; exact Nat.le_trans (hx.le_highest dd hdd) h1
  · rw [e]; exact popWhileAbove_le dl _ hw.levels

theorem _root_.Pubgrub.PackageAssignments.WFAt.head_le {dl n i : Nat} {pa : PackageAssignments S V}
    (hw : pa.WFAt dl n i) {f dd : DatedDerivation S} (hf : pa.dated.head? = some f) (hdd : dd ∈ pa.dated) :
    f.decisionLevel ≤ dd.decisionLevel ∧ f.globalIndex ≤ dd.globalIndex := by
  have hl := hw.levels
  have hi := hw.indices
  cases hd : pa.dated with
  | nil => rw [hd] at hf; cases hf
  | cons a as =>
    rw [hd] at hf hl hi hdd
    injection hf with hf; subst hf
    rw [List.map_cons, List.pairwise_cons] at hl hi
    rcases List.mem_cons.1 hdd with e | e
    · subst e; exact ⟨Nat.le_refl _, Nat.le_refl _⟩
    · exact ⟨hl.1 _ (List.mem_map.2 ⟨dd, e, rfl⟩), Nat.le_of_lt (hi.1 _ (List.mem_map.2 ⟨dd, e, rfl⟩))⟩

theorem btG_survive {dl dl0 n i : Nat} {p : P} {pa : PackageAssignments S V} (hw : pa.WFAt dl0 n i)
    (hx : pa.WFX) (hs : pa.Shrink) {tr : Term S} (hsat : pa.SatBy tr dl) :
    ∃ pa', btG dl (p, pa) = some (p, pa') ∧ pa'.inter.term.Imp tr := by
  obtain ⟨f, hf, hfl⟩ := hx.head
  have hsm : pa.smallest ≤ dl := by
    rcases hsat with ⟨dd, hdd, hle, _⟩ | ⟨hle, _⟩
    · have := (hw.head_le hf hdd).1; omega
    · have := hw.range; omega
  unfold btG
  rcases sat_btG_cases dl p hx with ⟨h1, _⟩ | ⟨_, h2, e⟩ | ⟨_, h2, last, hl, e⟩
  · omega
  · rw [e]
    refine ⟨pa, rfl, ?_⟩
    rcases hsat with ⟨dd, hdd, _, himp⟩ | ⟨_, himp⟩
    · exact Term.Imp.trans (PackageAssignments.term_imp_dated hw hs hdd) himp
    · exact himp
  · rw [e]
    refine ⟨pa.cut dl last, rfl, ?_⟩
    rcases hsat with ⟨dd, hdd, hle, himp⟩ | ⟨hle, _⟩
    · have hdm := mem_popWhileAbove_of_le dl _ hdd hle
      have hs' : (popWhileAbove dl pa.dated).Pairwise (fun a b => b.accumulated.Imp a.accumulated) :=
        List.Pairwise.sublist (popWhileAbove_sublist dl _) hs
      show last.accumulated.Imp tr
      rcases pairwise_getLast hs' hl dd hdm with e' | e'
      · subst e'; exact himp
      · exact Term.Imp.trans e' himp
    · omega

theorem btG_termBefore {dl dl0 n i : Nat} {p : P} {pa : PackageAssignments S V} (hw : pa.WFAt dl0 n i)
    (hx : pa.WFX) {g : Nat} (hev : ∀ e ∈ pa.events, e.1 < g → e.2.1 ≤ dl) {t : Term S}
    (ht : pa.termBefore g = some t) :
    ∃ pa', btG dl (p, pa) = some (p, pa') ∧ pa'.termBefore g = some t := by
  obtain ⟨f, hf, hfl⟩ := hx.head
  have hfm := List.mem_of_mem_head? hf
  -- the first derivation is before `g`, so the package is not removed
  have hfg : f.globalIndex < g := by
    rcases PackageAssignments.termBefore_eq_some ht with ⟨gd, v, hinter, hlt⟩ | ⟨dd, hdd, hlt, _⟩
    · exact Nat.lt_trans ((hw.of_decision hinter).2.2.2.1 f hfm) hlt
    · exact Nat.lt_of_le_of_lt (hw.head_le hf hdd).2 hlt
  have hsm : pa.smallest ≤ dl := by
    have := hev _ (PackageAssignments.mem_events_dated hfm) hfg
    dsimp only at this; omega
  unfold btG
  rcases sat_btG_cases dl p hx with ⟨h1, _⟩ | ⟨_, h2, e⟩ | ⟨_, h2, last, hl, e⟩
  · omega
  · rw [e]; exact ⟨pa, rfl, ht⟩
  · rw [e]
    refine ⟨pa.cut dl last, rfl, ?_⟩
    -- the decision and the derivations that are cut off are not before `g`
    obtain ⟨suf, hsuf, hsufl⟩ := popWhileAbove_split dl pa.dated
    have hfilter : (popWhileAbove dl pa.dated).filter (fun dd => Decidable.decide (dd.globalIndex < g)) =
        pa.dated.filter (fun dd => Decidable.decide (dd.globalIndex < g)) := by
      have : suf.filter (fun dd => Decidable.decide (dd.globalIndex < g)) = [] := by
        rw [List.filter_eq_nil_iff]
        intro dd hdd hlt
        have hdm : dd ∈ pa.dated := by rw [hsuf]; exact List.mem_append_right _ hdd
        have := hev _ (PackageAssignments.mem_events_dated hdm) (of_decide_eq_true hlt)
        have := hsufl dd hdd
        dsimp only at *
        omega
      conv => rhs; rw [hsuf]
      rw [List.filter_append, this, List.append_nil]
    rw [PackageAssignments.termBefore_eq_dated] at ht
    · rw [PackageAssignments.termBefore_eq_dated (pa := pa.cut dl last) (fun _ _ _ h => by cases h)]
      show (((popWhileAbove dl pa.dated).filter _).getLast?).map _ = some t
      rw [hfilter]; exact ht
    · intro gd v t' hinter hlt
      have := hev _ (PackageAssignments.mem_events_decision hinter) hlt
      dsimp only at this; omega

end PartialSolution
end

end Pubgrub
