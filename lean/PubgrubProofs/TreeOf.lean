/-
`IsTreeOf store sh id t`: `t` is *the* tree of the arena entry `id` (leaves from the kind, derived
nodes from the trees of the two causes, labelled `some id` exactly when `sh id`).  The relation is
functional, every tree in the `precomputed` map of `build_derivation_tree` satisfies it, and
everything else (checkability, sharing) is derived from it.
-/
import PubgrubProofs.CollectIds
import PubgrubProofs.TreeDefs
import PubgrubProofs.IncompatSound

set_option linter.unusedSectionVars false

namespace Pubgrub
open VersionSet

variable {P S V M Pr : Type} [DecidableEq P] [VersionSet S V] [DecidableEq S]

/-- the leaf of an external kind -/
def Kind.toExternal : Kind P S V M → Option (External P S V M)
  | .notRoot p v => some (.notRoot p v)
  | .noVersions p s => some (.noVersions p s)
  | .fromDependencyOf p s q t => some (.fromDependencyOf p s q t)
  | .custom p s m => some (.custom p s m)
  | .derivedFrom _ _ => none

theorem Kind.causes_of_toExternal (inc : Incompat P S V M) (e : External P S V M)
    (h : inc.kind.toExternal = some e) : inc.causes = none := by
  unfold Incompat.causes
  generalize inc.kind = k at h
  cases k with
  | derivedFrom a b => cases h
  | _ => rfl

theorem Incompat.KindTrue.external [LawfulVersionSet S V] {W : World P S V M} {root : P} {rv : V}
    {store : List (Incompat P S V M)} {id : Nat} {inc : Incompat P S V M}
    (g : inc.KindTrue W root rv store id) {e : External P S V M} (hke : inc.kind.toExternal = some e) :
    e.TrueIn W root rv ∧ e.terms = inc.terms := by
  unfold Incompat.KindTrue at g
  generalize inc.kind = k at g hke
  cases k <;> cases hke
  · exact ⟨⟨g.1, g.2.1⟩, g.2.2.symm⟩
  · exact ⟨g.1, g.2.symm⟩
  · exact ⟨g.1, g.2.2.2.symm⟩
  · obtain ⟨v, h1, h2, h3⟩ := g
    exact ⟨⟨v, h1, h2⟩, h3.symm⟩

theorem Incompat.KindTrue.derived [LawfulVersionSet S V] {W : World P S V M} {root : P} {rv : V}
    {store : List (Incompat P S V M)} {id : Nat} {inc : Incompat P S V M}
    (g : inc.KindTrue W root rv store id) {a b : Nat} (hk : inc.kind = .derivedFrom a b) :
    a < id ∧ b < id ∧ ∃ ia ib pivot r, store[a]? = some ia ∧ store[b]? = some ib ∧
      Incompat.priorCause a b ia ib pivot = .ok r ∧ inc.terms = r.terms := by
  simpa only [Incompat.KindTrue, hk] using g

/-- `t` is the tree of entry `id` -/
inductive IsTreeOf (store : List (Incompat P S V M)) (sh : Nat → Bool) :
    Nat → DerivationTree P S V M → Prop
  | external (id : Nat) (inc : Incompat P S V M) (e : External P S V M) :
      store[id]? = some inc → inc.kind.toExternal = some e → IsTreeOf store sh id (.external e)
  | derived (id : Nat) (inc : Incompat P S V M) (a b : Nat) (c1 c2 : DerivationTree P S V M) :
      store[id]? = some inc → inc.kind = .derivedFrom a b →
      IsTreeOf store sh a c1 → IsTreeOf store sh b c2 →
      IsTreeOf store sh id (.derived inc.terms (if sh id then some id else none) c1 c2)

theorem IsTreeOf.functional {store : List (Incompat P S V M)} {sh : Nat → Bool} {id : Nat}
    {t1 t2 : DerivationTree P S V M} (h1 : IsTreeOf store sh id t1) (h2 : IsTreeOf store sh id t2) :
    t1 = t2 := by
  induction h1 generalizing t2 with
  | external id inc e hs hk =>
    cases h2 with
    | external _ inc' e' hs' hk' => cases hs.symm.trans hs'; cases hk.symm.trans hk'; rfl
    | derived _ inc' a b c1 c2 hs' hk' _ _ => cases hs.symm.trans hs'; rw [hk'] at hk; cases hk
  | derived id inc a b c1 c2 hs hk _ _ ih1 ih2 =>
    cases h2 with
    | external _ inc' e' hs' hk' => cases hs.symm.trans hs'; rw [hk] at hk'; cases hk'
    | derived _ inc' a' b' c1' c2' hs' hk' ha' hb' =>
      cases hs.symm.trans hs'; cases hk.symm.trans hk'
      rw [ih1 ha', ih2 hb']

theorem IsTreeOf.derivedNodes {store : List (Incompat P S V M)} {sh : Nat → Bool} {id : Nat}
    {t : DerivationTree P S V M} (h : IsTreeOf store sh id t) (k : Nat) (t' : DerivationTree P S V M)
    (hk : (some k, t') ∈ t.derivedNodes) :
    IsTreeOf store sh k t' ∧ sh k = true ∧
      ∃ inc a b, store[k]? = some inc ∧ inc.kind = .derivedFrom a b ∧ t'.terms = inc.terms := by
  induction h with
  | external id inc e hs hke => cases hk
  | derived id inc a b c1 c2 hs hkd ha hb ih1 ih2 =>
    rcases List.mem_cons.1 hk with hk | hk
    · have hd := IsTreeOf.derived (sh := sh) id inc a b c1 c2 hs hkd ha hb
      by_cases hsh : sh id = true
      · rw [if_pos hsh] at hk hd
        cases hk
        exact ⟨hd, hsh, inc, a, b, hs, hkd, rfl⟩
      · rw [if_neg hsh] at hk; cases hk
    · exact (List.mem_append.1 hk).elim ih1 ih2

/-- in the tree of `j`, the nodes labelled `some k` are the occurrences of `k` (for a shared derived `k`) -/
theorem IsTreeOf.count_eq_occ {store : List (Incompat P S V M)} (hlt : CausesBelow store)
    {sh : Nat → Bool} (k : Nat) (hsh : sh k = true)
    (inck : Incompat P S V M) (ak bk : Nat) (hsk : store[k]? = some inck)
    (hkk : inck.kind = .derivedFrom ak bk)
    {j : Nat} {t : DerivationTree P S V M} (h : IsTreeOf store sh j t) :
    (t.derivedNodes.filter fun n => n.1 = some k).length = treeOcc store k j := by
  induction h with
  | external id inc e hs hke =>
    rw [treeOcc_leaf store k id inc hs (Kind.causes_of_toExternal inc e hke)]
    have : id ≠ k := by
      rintro rfl
      cases hs.symm.trans hsk
      rw [hkk] at hke; cases hke
    simp [DerivationTree.derivedNodes, TreeAux.ind, this]
  | derived id inc a b c1 c2 hs hkd ha hb ih1 ih2 =>
    have hc : inc.causes = some (a, b) := by simp [Incompat.causes, hkd]
    rw [treeOcc_derived store hlt k id inc a b hs hc, ← ih1, ← ih2]
    simp only [DerivationTree.derivedNodes, List.filter_cons, List.filter_append]
    by_cases hik : id = k
    · subst hik; simp [hsh, TreeAux.ind]; omega
    · have : ¬ ((if sh id = true then some id else none) = some k) := by
        split <;> simp [hik]
      simp [this, hik, TreeAux.ind]

theorem buildNode_isTreeOf (store : List (Incompat P S V M)) (shared : List Nat)
    (pre : List (Nat × DerivationTree P S V M))
    (hpre : ∀ k t, SmallMap.get pre k = some t → IsTreeOf store (fun i => shared.contains i) k t)
    (id : Nat) (t : DerivationTree P S V M) (h : State.buildNode store shared pre id = .ok t) :
    IsTreeOf store (fun i => shared.contains i) id t := by
  unfold State.buildNode at h
  cases hs : store[id]? with
  | none => simp only [storeGet, hs, unwrapOr, bind, Except.bind] at h; cases h
  | some inc =>
    simp only [storeGet, hs, unwrapOr, bind, Except.bind] at h
    split at h
    · next a b hk =>
      cases h1 : SmallMap.get pre a with
      | none => rw [h1] at h; cases h
      | some c1 =>
        cases h2 : SmallMap.get pre b with
        | none => rw [h1, h2] at h; cases h
        | some c2 =>
          rw [h1, h2] at h
          cases h
          exact .derived id inc a b c1 c2 hs hk (hpre _ _ h1) (hpre _ _ h2)
    all_goals next hk =>
      cases h
      exact .external id inc _ hs (hk ▸ rfl)

theorem buildDerivationTree_spec (st : State P S V M Pr) (id : Nat) (tree : DerivationTree P S V M)
    (h : st.buildDerivationTree id = .ok tree) :
    ∃ all shared, State.collectIds st.store (2 * st.store.length + 2) [id] [] [] = .ok (all, shared) ∧
      IsTreeOf st.store (fun i => shared.contains i) id tree := by
  unfold State.buildDerivationTree at h
  cases hc : State.collectIds st.store (2 * st.store.length + 2) [id] [] [] with
  | error e => rw [hc] at h; cases h
  | ok as =>
    obtain ⟨all, shared⟩ := as
    rw [hc] at h
    refine ⟨all, shared, rfl, ?_⟩
    simp only [bind, Except.bind] at h
    split at h
    · cases h
    · next pre hfold =>
      -- every tree in `precomputed` is the tree of its key
      have hinv := foldlM_ok_inv
        (fun pre => ∀ k t, SmallMap.get pre k = some t → IsTreeOf st.store (fun i => shared.contains i) k t)
        hfold (fun _ _ h => by cases h) ?_
      · cases hg : SmallMap.get pre id with
        | none => rw [hg] at h; cases h
        | some t => rw [hg] at h; cases h; exact hinv _ _ hg
      · intro a _ b b' hb hf
        cases hn : State.buildNode st.store shared b a with
        | error e => rw [hn] at hf; cases hf
        | ok t =>
          rw [hn] at hf
          cases hf
          intro k t' hk
          rw [SmallMap.get_insert] at hk
          split at hk
          · next hka => cases hk; exact hka ▸ buildNode_isTreeOf _ _ _ hb _ _ hn
          · exact hb _ _ hk
end Pubgrub
