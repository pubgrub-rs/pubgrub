/-
`Range V` over any linear order embeds, by mapping the bounds along a strictly monotone `ι : V → V'`,
into `Range V'`, and the embedding is a version-set homomorphism (PubgrubProofs/HomDefs.lean): all nine
methods of the model's `Range` (PubgrubModel/Range.lean, instance in PubgrubModel/VersionSet.lean) only
compare bounds, and strictly monotone maps preserve and reflect `<`, `≤`, `=`.  No well-formedness is
needed: the commutation holds for arbitrary segment lists.  Then a dense linear order without end
points containing `V`: `Dense V := V ×ₗ ℚ` with `ι v = (v, 0)`.
-/
import PubgrubProofs.HomDefs
import PubgrubProofs.VSetInstances
import Mathlib.Data.Prod.Lex
import Mathlib.Algebra.Order.Field.Basic
import Mathlib.Algebra.Order.Field.Rat

set_option linter.unusedSectionVars false

namespace Pubgrub
open VersionSet

namespace Range
variable {V V' : Type} [LinearOrder V] [LinearOrder V']

def mapBound (ι : V → V') : Bound V → Bound V'
  | .unb => .unb
  | .incl v => .incl (ι v)
  | .excl v => .excl (ι v)

/-- the image of a segment list -/
def mapR (ι : V → V') (r : Range V) : Range V' :=
  r.map fun seg => (mapBound ι seg.1, mapBound ι seg.2)

open Pubgrub.Bound

section
variable (ι : V → V')

@[simp] theorem mapBound_unb : mapBound ι (unb : Bound V) = unb := rfl
@[simp] theorem mapBound_incl (v : V) : mapBound ι (incl v) = incl (ι v) := rfl
@[simp] theorem mapBound_excl (v : V) : mapBound ι (excl v) = excl (ι v) := rfl
@[simp] theorem mapR_nil : mapR ι ([] : Range V) = [] := rfl
@[simp] theorem mapR_cons (s : Seg V) (t : Range V) :
    mapR ι (s :: t) = (mapBound ι s.1, mapBound ι s.2) :: mapR ι t := rfl
@[simp] theorem mapR_append (a b : Range V) : mapR ι (a ++ b) = mapR ι a ++ mapR ι b := by
  simp [mapR]

end

section Cmp
variable {ι : V → V'} (hι : StrictMono ι)
include hι

theorem dlt (a b : V) : decide (ι a < ι b) = decide (a < b) := by simp [hι.lt_iff_lt]
theorem dle (a b : V) : decide (ι a ≤ ι b) = decide (a ≤ b) := by simp [hι.le_iff_le]
theorem deq (a b : V) : (ι a = ι b) = (a = b) := by simp [hι.injective.eq_iff]
theorem mapBound_inj (a b : Bound V) (h : mapBound ι a = mapBound ι b) : a = b := by
  cases a <;> cases b <;> simp_all [hι.injective.eq_iff]

theorem mapR_inj (a b : Range V) (h : mapR ι a = mapR ι b) : a = b := by
  induction a generalizing b with
  | nil => cases b <;> simp_all
  | cons s t ih =>
    cases b with
    | nil => simp at h
    | cons s' t' =>
      simp only [mapR_cons, List.cons.injEq, Prod.mk.injEq] at h
      obtain ⟨⟨h1, h2⟩, h3⟩ := h
      have := mapBound_inj hι _ _ h1
      have := mapBound_inj hι _ _ h2
      have := ih _ h3
      cases s; cases s'; simp_all

/- The four bound predicates, by the case analysis of their definitions: each case compares the two
versions by `<` or `≤`, or is constant. -/

theorem validSegment_map : ∀ a b : Bound V,
    validSegment (mapBound ι a) (mapBound ι b) = validSegment a b
  | incl _, incl _ => dle hι _ _
  | incl _, excl _ => dlt hι _ _
  | excl _, incl _ => dlt hι _ _
  | excl _, excl _ => dlt hι _ _
  | unb, _ => rfl
  | incl _, unb => rfl
  | excl _, unb => rfl

theorem endBeforeStartWithGap_map : ∀ a b : Bound V,
    endBeforeStartWithGap (mapBound ι a) (mapBound ι b) = endBeforeStartWithGap a b
  | _, unb => rfl
  | unb, incl _ => rfl
  | unb, excl _ => rfl
  | incl _, incl _ => dlt hι _ _
  | incl _, excl _ => dlt hι _ _
  | excl _, incl _ => dlt hι _ _
  | excl _, excl _ => dle hι _ _

theorem leftStartIsSmaller_map : ∀ a b : Bound V,
    leftStartIsSmaller (mapBound ι a) (mapBound ι b) = leftStartIsSmaller a b
  | unb, _ => rfl
  | incl _, unb => rfl
  | excl _, unb => rfl
  | incl _, incl _ => dle hι _ _
  | excl _, excl _ => dle hι _ _
  | incl _, excl _ => dle hι _ _
  | excl _, incl _ => dlt hι _ _

theorem leftEndIsSmaller_map : ∀ a b : Bound V,
    leftEndIsSmaller (mapBound ι a) (mapBound ι b) = leftEndIsSmaller a b
  | _, unb => rfl
  | unb, incl _ => rfl
  | unb, excl _ => rfl
  | incl _, incl _ => dle hι _ _
  | excl _, excl _ => dle hι _ _
  | excl _, incl _ => dle hι _ _
  | incl _, excl _ => dlt hι _ _

theorem withinBounds_map (v : V) (s e : Bound V) :
    withinBounds (ι v) (mapBound ι s, mapBound ι e) = withinBounds v (s, e) := by
  cases s <;> cases e <;> simp only [withinBounds, mapBound, dlt hι, dle hι]

theorem flipB_map (a : Bound V) : flipB (mapBound ι a) = mapBound ι (flipB a) := by
  cases a <;> rfl

theorem negateSegments_map (s : Bound V) (t : Range V) :
    negateSegments (mapBound ι s) (mapR ι t) = mapR ι (negateSegments s t) := by
  induction t generalizing s with
  | nil => cases s <;> simp [negateSegments]
  | cons x t ih =>
    obtain ⟨v1, v2⟩ := x
    simp only [mapR_cons, negateSegments, flipB_map hι, ih]

theorem complement_map (r : Range V) : complement (mapR ι r) = mapR ι (complement r) := by
  have hn := negateSegments_map hι
  match r with
  | [] => rfl
  | (unb, unb) :: _ => rfl
  | (incl v, unb) :: _ => rfl
  | (excl v, unb) :: _ => rfl
  | (unb, incl v) :: t => simpa [complement] using hn (excl v) t
  | (unb, excl v) :: t => simpa [complement] using hn (incl v) t
  | (incl a, incl b) :: t => simpa [complement] using hn unb ((incl a, incl b) :: t)
  | (incl a, excl b) :: t => simpa [complement] using hn unb ((incl a, excl b) :: t)
  | (excl a, incl b) :: t => simpa [complement] using hn unb ((excl a, incl b) :: t)
  | (excl a, excl b) :: t => simpa [complement] using hn unb ((excl a, excl b) :: t)

theorem contains_map (r : Range V) (v : V) : contains (mapR ι r) (ι v) = contains r v := by
  induction r with
  | nil => rfl
  | cons s t ih =>
    obtain ⟨s, e⟩ := s
    simp only [contains, mapR_cons, List.any_cons, withinBounds_map hι] at ih ⊢
    rw [ih]

theorem unionEnd_map (a b : Bound V) :
    unionEnd (mapBound ι a) (mapBound ι b) = mapBound ι (unionEnd a b) := by
  cases a <;> cases b <;>
    simp only [unionEnd, mapBound_incl, mapBound_excl, mapBound_unb, hι.injective.eq_iff, gt_iff_lt,
      hι.lt_iff_lt, apply_ite (mapBound ι)]

theorem interStart_map (a b : Bound V) :
    interStart (mapBound ι a) (mapBound ι b) = mapBound ι (interStart a b) := by
  cases a <;> cases b <;>
    simp only [interStart, mapBound_incl, mapBound_excl, mapBound_unb, hι.le_iff_le, apply_ite (mapBound ι)]

theorem unionAccum_map (acc : Option (Seg V)) (s : Seg V) :
    unionAccum (acc.map fun seg => (mapBound ι seg.1, mapBound ι seg.2))
        (mapBound ι s.1, mapBound ι s.2)
      = (mapR ι (unionAccum acc s).1,
          (mapBound ι (unionAccum acc s).2.1, mapBound ι (unionAccum acc s).2.2)) := by
  cases acc with
  | none => rfl
  | some a =>
    simp only [unionAccum, Option.map_some, endBeforeStartWithGap_map hι, unionEnd_map hι]
    split_ifs <;> rfl

/- The sweeps: in every branch each test and each bound produced commutes with the embedding, so both
sides take the same branch. -/

theorem unionGo_map (acc : Option (Seg V)) (a b : Range V) :
    unionGo (acc.map fun seg => (mapBound ι seg.1, mapBound ι seg.2)) (mapR ι a) (mapR ι b)
      = mapR ι (unionGo acc a b) := by
  fun_induction unionGo acc a b <;>
    simp_all only [mapR_cons, mapR_nil, mapR_append, unionGo, leftStartIsSmaller_map hι,
      unionAccum_map hι, if_true, if_false, Bool.false_eq_true, Option.map_some, Option.map_none]

theorem union_map (a b : Range V) : union (mapR ι a) (mapR ι b) = mapR ι (union a b) :=
  unionGo_map hι none a b

theorem intersection_map (a b : Range V) :
    intersection (mapR ι a) (mapR ι b) = mapR ι (intersection a b) := by
  fun_induction intersection a b <;>
    simp_all only [mapR_cons, mapR_nil, intersection, leftEndIsSmaller_map hι, validSegment_map hι,
      interStart_map hι, if_true, if_false, Bool.false_eq_true, Bool.not_eq_true]

theorem isDisjoint_map (a b : Range V) :
    isDisjoint (mapR ι a) (mapR ι b) = isDisjoint a b := by
  fun_induction isDisjoint a b <;>
    simp_all only [mapR_cons, mapR_nil, isDisjoint, validSegment_map hι, if_true, if_false,
      Bool.false_eq_true, Bool.not_eq_true]

theorem subsetGo_map (ss : Range V) (c : Seg V) (cs : Range V) :
    subsetGo (mapR ι ss) (mapBound ι c.1, mapBound ι c.2) (mapR ι cs) = subsetGo ss c cs := by
  fun_induction subsetGo ss c cs with
  | case1 c cs => simp [subsetGo]
  | case2 s ss c h1 =>
    simp only [mapR_cons, mapR_nil]
    rw [subsetGo, if_pos (by simpa [validSegment_map hι] using h1)]
  | case3 s ss c h1 c' cs' ih =>
    simp only [mapR_cons] at ih ⊢
    rw [subsetGo, if_pos (by simpa [validSegment_map hι] using h1)]
    exact ih
  | case4 s ss c cs h1 h2 =>
    cases cs <;> simp only [mapR_cons, mapR_nil] <;>
    rw [subsetGo, if_neg (by simpa [validSegment_map hι] using h1),
      if_pos (by simpa [leftStartIsSmaller_map hι] using h2)]
  | case5 s ss c cs h1 h2 h3 =>
    cases cs <;> simp only [mapR_cons, mapR_nil] <;>
    rw [subsetGo, if_neg (by simpa [validSegment_map hι] using h1),
      if_neg (by simpa [leftStartIsSmaller_map hι] using h2),
      if_pos (by simpa [leftEndIsSmaller_map hι] using h3)]
  | case6 s ss c cs h1 h2 h3 ih =>
    cases cs <;> simp only [mapR_cons, mapR_nil] at ih ⊢ <;>
    rw [subsetGo, if_neg (by simpa [validSegment_map hι] using h1),
      if_neg (by simpa [leftStartIsSmaller_map hι] using h2),
      if_neg (by simpa [leftEndIsSmaller_map hι] using h3), ih]

theorem subsetOf_map (a b : Range V) : subsetOf (mapR ι a) (mapR ι b) = subsetOf a b := by
  cases b with
  | nil => cases a <;> rfl
  | cons c cs => exact subsetGo_map hι a c cs

theorem checkInvariants_map (r : Range V) :
    checkInvariants (mapR ι r) = checkInvariants r := by
  fun_induction checkInvariants r with
  | case1 => rfl
  | case2 s e => simp [checkInvariants, validSegment_map hι]
  | case3 s e s' e' t ih =>
    simp only [mapR_cons] at ih ⊢
    simp only [checkInvariants, validSegment_map hι, endBeforeStartWithGap_map hι, ih]

end Cmp

/-- the embedding is a homomorphism of version sets -/
def hom (ι : V → V') (hι : StrictMono ι) : VSetHom (Range V) V (Range V') V' where
  f := mapR ι
  ι := ι
  f_inj := mapR_inj hι
  ι_inj := fun _ _ h => hι.injective h
  map_empty := rfl
  map_full := rfl
  map_singleton := fun _ => rfl
  map_complement := fun a => (complement_map hι a).symm
  map_intersection := fun a b => (intersection_map hι a b).symm
  map_union := fun a b => (union_map hι a b).symm
  map_isDisjoint := isDisjoint_map hι
  map_subsetOf := subsetOf_map hι
  map_contains := contains_map hι

theorem wf_mapR (ι : V → V') (hι : StrictMono ι) (r : Range V) : WF (mapR ι r) ↔ WF r := by
  simp only [WF, checkInvariants_map hι]

theorem mapR_eq_empty (ι : V → V') (r : Range V) : mapR ι r = Range.empty ↔ r = Range.empty := by
  cases r <;> simp [Range.empty]

end Range

/-- a dense linear order without end points containing `V` -/
def Dense (V : Type) : Type := V ×ₗ ℚ

namespace Dense
variable {V : Type} [LinearOrder V]

instance : LinearOrder (Dense V) := inferInstanceAs (LinearOrder (V ×ₗ ℚ))
instance : DenselyOrdered (Dense V) := inferInstanceAs (DenselyOrdered (V ×ₗ ℚ))
instance : NoMinOrder (Dense V) := inferInstanceAs (NoMinOrder (V ×ₗ ℚ))
instance : NoMaxOrder (Dense V) := inferInstanceAs (NoMaxOrder (V ×ₗ ℚ))
instance [Nonempty V] : Nonempty (Dense V) := ⟨toLex (Classical.arbitrary V, (0 : ℚ))⟩

def ι : V → Dense V := fun v => toLex (v, (0 : ℚ))
def back : Dense V → Option V := fun d =>
  if (ofLex (show V ×ₗ ℚ from d)).2 = 0 then some (ofLex (show V ×ₗ ℚ from d)).1 else none

theorem ι_strictMono : StrictMono (ι : V → Dense V) := by
  intro a b h
  exact (Prod.Lex.toLex_lt_toLex (α := V) (β := ℚ)).2 (Or.inl h)
theorem back_ι (v : V) : back (ι v) = some v := by
  simp [back, ι]
theorem ι_of_back (d : Dense V) (v : V) (h : back d = some v) : ι v = d := by
  unfold back at h
  split_ifs at h with h0
  cases h
  show toLex (_, (0 : ℚ)) = (show V ×ₗ ℚ from d)
  rw [← h0]
  rfl

end Dense

def Range.denseHom {V : Type} [LinearOrder V] : VSetHom (Range V) V (Range (Dense V)) (Dense V) :=
  Range.hom Dense.ι Dense.ι_strictMono

end Pubgrub
