/-
The invariant `XInv` (ids in the index and in `merged_dependencies` are valid; every package with an
assignment or in the propagation buffer, and every key of an indexed incompatibility, has an index
entry; in debug mode no stored term is `Term.any`), and its preservation by `merge_incompatibility`,
which does not panic.
-/
import PubgrubProofs.NoPanicPredicates

set_option linter.unusedSectionVars false

namespace Pubgrub
open VersionSet

section
variable {P S V M Pr : Type} [DecidableEq P] [VersionSet S V] [DecidableEq S] [DecidableEq V]
  [LawfulVersionSet S V]

/-- every key of the incompatibility has an entry in the index -/
def KeysIndexed (idx : List (P × List Nat)) (inc : Incompat P S V M) : Prop :=
  ∀ kv ∈ inc.terms, (SmallMap.get idx kv.1).isSome = true

/-- the index lists only valid ids, of incompatibilities all of whose keys have an index entry -/
def IdxOK (idx : List (P × List Nat)) (store : List (Incompat P S V M)) : Prop :=
  ∀ p ids, SmallMap.get idx p = some ids → ∀ id ∈ ids,
    ∃ inc, store[id]? = some inc ∧ KeysIndexed idx inc

/-- the additional invariant of the solver state behind `no_panic` -/
structure XInv (st : State P S V M Pr) : Prop where
  idx : IdxOK st.incompatibilities st.store
  md : ∀ key ids, SmallMap.get st.mergedDependencies key = some ids → ∀ id ∈ ids, id < st.store.length
  asg : ∀ p pa, st.ps.getPA p = some pa → (SmallMap.get st.incompatibilities p).isSome = true
  buf : ∀ p ∈ st.buffer, (SmallMap.get st.incompatibilities p).isSome = true
  noAny : st.debug = true → UnionCanon S V ∧ ∀ inc ∈ st.store, inc.NoAny

namespace State

theorem isSome_updIndex (idx : List (P × List Nat)) (k q : P) (f : List Nat → List Nat)
    (h : (SmallMap.get idx q).isSome = true) : (SmallMap.get (updIndex idx k f) q).isSome = true := by
  by_cases hq : q = k
  · subst hq; rw [get_updIndex_self]; rfl
  · rw [get_updIndex_ne idx k q f hq]; exact h

theorem isSome_foldl_updIndex (f : List Nat → List Nat) (terms : List (P × Term S)) (q : P) :
    ∀ idx : List (P × List Nat), (SmallMap.get idx q).isSome = true →
      (SmallMap.get (terms.foldl (fun idx kv => updIndex idx kv.1 f) idx) q).isSome = true := by
  induction terms with
  | nil => intro idx h; exact h
  | cons x rest ih => intro idx h; exact ih _ (isSome_updIndex idx x.1 q f h)

theorem isSome_foldl_updIndex_new (f : List Nat → List Nat) (terms : List (P × Term S)) (q : P)
    (hq : q ∈ terms.map Prod.fst) :
    ∀ idx : List (P × List Nat),
      (SmallMap.get (terms.foldl (fun idx kv => updIndex idx kv.1 f) idx) q).isSome = true := by
  induction terms with
  | nil => cases hq
  | cons x rest ih =>
    intro idx
    simp only [List.foldl_cons]
    by_cases hx : q = x.1
    · apply isSome_foldl_updIndex
      subst hx; rw [get_updIndex_self]; rfl
    · apply ih
      simp only [List.map_cons, List.mem_cons] at hq
      rcases hq with hq | hq
      · exact absurd hq hx
      · exact hq

theorem mem_foldl_updIndex (f : List Nat → List Nat) (newId : Nat → Prop)
    (hf : ∀ ids id, id ∈ f ids → id ∈ ids ∨ newId id) (terms : List (P × Term S)) (q : P) :
    ∀ (idx : List (P × List Nat)) (ids' : List Nat),
      SmallMap.get (terms.foldl (fun idx kv => updIndex idx kv.1 f) idx) q = some ids' →
      ∀ id ∈ ids', newId id ∨ ∃ ids, SmallMap.get idx q = some ids ∧ id ∈ ids := by
  induction terms with
  | nil => intro idx ids' h id hid; exact Or.inr ⟨ids', h, hid⟩
  | cons x rest ih =>
    intro idx ids' h id hid
    simp only [List.foldl_cons] at h
    rcases ih _ ids' h id hid with hn | ⟨ids1, h1, hid1⟩
    · exact Or.inl hn
    · by_cases hq : q = x.1
      · subst hq
        rw [get_updIndex_self] at h1
        injection h1 with h1; subst h1
        rcases hf _ _ hid1 with h2 | h2
        · right
          cases hg : SmallMap.get idx x.1 with
          | none => rw [hg] at h2; simp at h2
          | some ids0 => rw [hg] at h2; exact ⟨ids0, rfl, h2⟩
        · exact Or.inl h2
      · rw [get_updIndex_ne idx x.1 q f hq] at h1
        exact Or.inr ⟨ids1, h1, hid1⟩

theorem idxOK_foldl {store store' : List (Incompat P S V M)} {idx : List (P × List Nat)}
    (f : List Nat → List Nat) (terms : List (P × Term S)) (newId : Nat → Prop)
    (hpre : ∀ (i : Nat) (inc : Incompat P S V M), store[i]? = some inc → store'[i]? = some inc)
    (hidx : IdxOK idx store)
    (hf : ∀ ids id, id ∈ f ids → id ∈ ids ∨ newId id)
    (hnew : ∀ id, newId id → ∃ inc, store'[id]? = some inc ∧
      ∀ kv ∈ inc.terms, kv.1 ∈ terms.map Prod.fst ∨ (SmallMap.get idx kv.1).isSome = true) :
    IdxOK (terms.foldl (fun idx kv => updIndex idx kv.1 f) idx) store' := by
  intro p ids' hget id hid
  rcases mem_foldl_updIndex f newId hf terms p idx ids' hget id hid with hn | ⟨ids, hg, hm⟩
  · obtain ⟨inc, hinc, hk⟩ := hnew id hn
    refine ⟨inc, hinc, ?_⟩
    intro kv hkv
    rcases hk kv hkv with h1 | h1
    · exact isSome_foldl_updIndex_new f terms kv.1 h1 idx
    · exact isSome_foldl_updIndex f terms kv.1 idx h1
  · obtain ⟨inc, hinc, hk⟩ := hidx p ids hg id hm
    refine ⟨inc, hpre id inc hinc, ?_⟩
    intro kv hkv
    exact isSome_foldl_updIndex f terms kv.1 idx (hk kv hkv)

theorem getElem?_append_of_some {α : Type} {l : List α} (extra : List α) {i : Nat} {a : α} (h : l[i]? = some a) :
    (l ++ extra)[i]? = some a := by
  rw [List.getElem?_append_left (List.getElem?_eq_some_iff.1 h).1]; exact h

theorem findMerge_total (W : World P S V M) (root : P) (rv : V) {store : List (Incompat P S V M)}
    (hs : StoreInv W root rv store) {id : Nat} {inc : Incompat P S V M} (hinc : store[id]? = some inc) :
    ∀ ids : List Nat, (∀ x ∈ ids, x < store.length) → ∃ r, findMerge store inc ids = .ok r := by
  intro ids
  induction ids with
  | nil => intro _; exact ⟨_, rfl⟩
  | cons a rest ih =>
    intro h
    have ha : a < store.length := h a List.mem_cons_self
    obtain ⟨pastInc, hpast⟩ : ∃ pi, store[a]? = some pi := ⟨store[a], List.getElem?_eq_getElem ha⟩
    obtain ⟨r, hr⟩ := Incompat.mergeDependents_ok W root rv store id a inc pastInc (hs id inc hinc)
      (hs a pastInc hpast)
    unfold findMerge
    simp only [bind, Except.bind, pure, Except.pure, storeGet_some hpast, hr]
    cases r with
    | some merged => exact ⟨_, rfl⟩
    | none => exact ih (fun x hx => h x (List.mem_cons_of_mem _ hx))

end State

theorem XInv.storeAppend {st : State P S V M Pr} (h : XInv st) (extra : List (Incompat P S V M))
    (hx : st.debug = true → ∀ inc ∈ extra, inc.NoAny) :
    XInv ({ st with store := st.store ++ extra } : State P S V M Pr) := by
  refine ⟨?_, ?_, h.asg, h.buf, ?_⟩
  · intro p ids hg id hid
    obtain ⟨inc, hinc, hk⟩ := h.idx p ids hg id hid
    exact ⟨inc, State.getElem?_append_of_some extra hinc, hk⟩
  · intro key ids hg id hid
    have := h.md key ids hg id hid
    simp only [List.length_append]; omega
  · intro hd
    obtain ⟨hU, hall⟩ := h.noAny hd
    refine ⟨hU, ?_⟩
    intro inc hm
    rcases List.mem_append.1 hm with hm | hm
    · exact hall inc hm
    · exact hx hd inc hm

namespace State

theorem mergeIncompatibility_np (W : World P S V M) (root : P) (rv : V) {st : State P S V M Pr} {id : Nat}
    {inc : Incompat P S V M} (hs : SInv W root rv st) (hx : XInv st) (hinc : st.store[id]? = some inc) :
    NoPanic (mergeIncompatibility st id) (fun st' => XInv st' ∧
      (∀ q, (SmallMap.get st.incompatibilities q).isSome = true →
        (SmallMap.get st'.incompatibilities q).isSome = true) ∧
      (inc.asDependency = none → KeysIndexed st'.incompatibilities inc)) := by
  -- the second half of the function, on a state that satisfies the invariant
  have phase2 : ∀ (st1 : State P S V M Pr) (id1 : Nat) (inc1 : Incompat P S V M), XInv st1 →
      st1.store[id1]? = some inc1 →
      XInv ({ st1 with incompatibilities :=
        inc1.terms.foldl (fun idx kv => updIndex idx kv.1 (fun ids => ids ++ [id1])) st1.incompatibilities } :
          State P S V M Pr) ∧
      (∀ q, (SmallMap.get st1.incompatibilities q).isSome = true →
        (SmallMap.get (inc1.terms.foldl (fun idx kv => updIndex idx kv.1 (fun ids => ids ++ [id1]))
          st1.incompatibilities) q).isSome = true) ∧
      KeysIndexed (inc1.terms.foldl (fun idx kv => updIndex idx kv.1 (fun ids => ids ++ [id1]))
        st1.incompatibilities) inc1 := by
    intro st1 id1 inc1 hx1 hinc1
    have hmono := fun q => isSome_foldl_updIndex (S := S) (fun ids => ids ++ [id1]) inc1.terms q st1.incompatibilities
    refine ⟨⟨?_, hx1.md, ?_, ?_, hx1.noAny⟩, hmono, ?_⟩
    · refine idxOK_foldl _ inc1.terms (fun x => x = id1) (fun i inc h => h) hx1.idx ?_ ?_
      · intro ids x hxm
        rcases List.mem_append.1 hxm with h | h
        · exact Or.inl h
        · exact Or.inr (List.mem_singleton.1 h)
      · intro x hxe
        subst hxe
        exact ⟨inc1, hinc1, fun kv hkv => Or.inl (List.mem_map.2 ⟨kv, hkv, rfl⟩)⟩
    · intro p pa hpa; exact hmono p (hx1.asg p pa hpa)
    · intro p hp; exact hmono p (hx1.buf p hp)
    · intro kv hkv
      exact isSome_foldl_updIndex_new _ inc1.terms kv.1 (List.mem_map.2 ⟨kv, hkv, rfl⟩) _
  have noAny1 : ∀ (st1 : State P S V M Pr) (id1 : Nat) (inc1 : Incompat P S V M), XInv st1 →
      st1.store[id1]? = some inc1 →
      (st1.debug && inc1.terms.any (fun kv => decide (kv.2 = (Term.any : Term S)))) = false := by
    intro st1 id1 inc1 hx1 hinc1
    cases hd : st1.debug with
    | false => rfl
    | true =>
      rw [Bool.true_and]
      exact ((hx1.noAny hd).2 inc1 (List.mem_of_getElem? hinc1)).any_false
  unfold mergeIncompatibility
  simp only [bind, Except.bind, pure, Except.pure, throw, throwThe, MonadExceptOf.throw, storeGet_some hinc]
  cases hdep : inc.asDependency with
  | none =>
    simp only [noAny1 st id inc hx hinc]
    obtain ⟨h1, h2, h3⟩ := phase2 st id inc hx hinc
    exact ⟨h1, h2, fun _ => h3⟩
  | some key =>
    simp only
    have hvalid : ∀ x ∈ (SmallMap.get st.mergedDependencies key).getD [], x < st.store.length := by
      intro x hxm
      cases hg : SmallMap.get st.mergedDependencies key with
      | none => rw [hg] at hxm; simp at hxm
      | some ids => rw [hg] at hxm; exact hx.md key ids hg x hxm
    obtain ⟨r, hr⟩ := findMerge_total W root rv hs.store hinc _ hvalid
    rw [hr]
    cases r with
    | none =>
      simp only
      have hx1 : XInv ({ st with mergedDependencies := (SmallMap.insert st.mergedDependencies key
          ((SmallMap.get st.mergedDependencies key).getD [] ++ [id])) } : State P S V M Pr) := by
        refine ⟨hx.idx, ?_, hx.asg, hx.buf, hx.noAny⟩
        intro key' ids hg x hxm
        simp only [SmallMap.get_insert] at hg
        split at hg
        · injection hg with hg; subst hg
          rcases List.mem_append.1 hxm with h | h
          · exact hvalid x h
          · rw [List.mem_singleton.1 h]; exact (List.getElem?_eq_some_iff.1 hinc).1
        · exact hx.md key' ids hg x hxm
      simp only [noAny1 _ id inc hx1 hinc]
      obtain ⟨h1, h2, h3⟩ := phase2 _ id inc hx1 hinc
      exact ⟨h1, h2, fun h => by cases h⟩
    | some pm =>
      obtain ⟨past, merged⟩ := pm
      simp only
      obtain ⟨pastInc, hpast, hm⟩ := State.findMerge_ok hr
      have gm := Incompat.mergeDependents_good W root rv st.store id past inc pastInc (hs.store id inc hinc)
        (hs.store past pastInc hpast) merged hm st.store.length
      -- the merged incompatibility is a dependency: no `Term.any`
      have hna : merged.NoAny := by
        obtain ⟨p1, p2, s1, s2, t, _, _, _, _, _, _, hmk⟩ :=
          Incompat.mergeDependents_spec W root rv st.store id past inc pastInc (hs.store id inc hinc)
            (hs.store past pastInc hpast) merged hm
        rw [hmk]; exact Incompat.noAny_fromDependency _ _ _
      have hmono := fun q => isSome_foldl_updIndex (S := S) (fun ids => ids.filter (· ≠ past)) merged.terms q
        st.incompatibilities
      have hx1 : XInv ({ st with
          store := st.store ++ [merged],
          incompatibilities := merged.terms.foldl
            (fun idx kv => updIndex idx kv.1 (fun ids => ids.filter (· ≠ past))) st.incompatibilities,
          mergedDependencies := (SmallMap.insert st.mergedDependencies key
            (((SmallMap.get st.mergedDependencies key).getD []).map
              fun x => if x = past then st.store.length else x)) } : State P S V M Pr) := by
        refine ⟨?_, ?_, ?_, ?_, ?_⟩
        · refine idxOK_foldl _ merged.terms (fun _ => False)
            (fun i inc h => getElem?_append_of_some [merged] h) hx.idx ?_ ?_
          · intro ids x hxm
            exact Or.inl (List.mem_filter.1 hxm).1
          · intro x hf; exact hf.elim
        · intro key' ids hg x hxm
          simp only [List.length_append, List.length_cons, List.length_nil]
          simp only [SmallMap.get_insert] at hg
          split at hg
          · injection hg with hg; subst hg
            rw [List.mem_map] at hxm
            obtain ⟨y, hy, rfl⟩ := hxm
            split
            · omega
            · have := hvalid y hy; omega
          · have := hx.md key' ids hg x hxm; omega
        · intro p pa hpa; exact hmono p (hx.asg p pa hpa)
        · intro p hp; exact hmono p (hx.buf p hp)
        · intro hd
          obtain ⟨hU, hall⟩ := hx.noAny hd
          refine ⟨hU, ?_⟩
          intro inc' hm'
          rcases List.mem_append.1 hm' with hm' | hm'
          · exact hall inc' hm'
          · rw [List.mem_singleton.1 hm']; exact hna
      have hnew : (st.store ++ [merged])[st.store.length]? = some merged := by
        rw [List.getElem?_append_right (Nat.le_refl _)]; simp
      simp only [storeGet_some hnew, noAny1 _ st.store.length merged hx1 hnew]
      obtain ⟨h1, h2, h3⟩ := phase2 _ st.store.length merged hx1 hnew
      exact ⟨h1, fun q hq => h2 q (hmono q hq), fun h => by cases h⟩

end State
end
end Pubgrub
