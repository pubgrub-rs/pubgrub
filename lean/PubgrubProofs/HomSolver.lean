/-
The solver commutes with injective version-set homomorphisms (definitions: PubgrubProofs/HomDefs.lean).
Every function of the model (PubgrubModel/Term.lean, SmallMap.lean, Incompat.lean, PartialSolution.lean,
Tree.lean, Core.lean, Solver.lean) that touches a version set does so through the nine methods of the
class `VersionSet` and through `DecidableEq S` / `DecidableEq V` tests; so each such function `g`
has a commutation lemma `g (map args) = map (g args)` (for functions into `R := Except Fault`, `Option`,
`Bool`, `Nat`, lists of ids: the obvious mapped form), proved bottom-up in the import order of the model
in HomTerm, HomIncompat, HomPartialSolution, HomCore, HomStep.  Here: runs, traces and reachability.
-/
import PubgrubProofs.HomStep

set_option linter.unusedSectionVars false

namespace Pubgrub
open VersionSet

variable {P S V S' V' M Pr E : Type} [DecidableEq P] [VersionSet S V] [VersionSet S' V']
  [DecidableEq S] [DecidableEq V] [DecidableEq S'] [DecidableEq V'] [LE Pr] [DecidableLE Pr]

theorem start_mapH (h : VSetHom S V S' V') (debug : Bool) (fuel : Nat) (root : P) (rv : V) :
    Solver.start (M := M) (Pr := Pr) (E := E) debug fuel root (h.ι rv) =
      (SolverState.mapH h (Solver.start (S := S) (M := M) (Pr := Pr) (E := E) debug fuel root rv).1,
       Request.mapH h (Solver.start (S := S) (M := M) (Pr := Pr) (E := E) debug fuel root rv).2) := by
  simp [Solver.start, SolverState.mapH, Phase.mapH, Request.mapH]

theorem step_mapH (h : VSetHom S V S' V') (s : SolverState P S V M Pr) (a : Answer P S V M Pr E) :
    Solver.step (SolverState.mapH h s) (Answer.mapH h a) =
      (SolverState.mapH h (Solver.step s a).1, Request.mapH h (Solver.step s a).2) := by
  exact step_mapH_prodMap h s a

theorem after_mapH (h : VSetHom S V S' V') (x : SolverState P S V M Pr × Request P S V M Pr E)
    (as : List (Answer P S V M Pr E)) :
    Solver.after (SolverState.mapH h x.1, Request.mapH h x.2) (as.map (Answer.mapH h)) =
      (SolverState.mapH h (Solver.after x as).1, Request.mapH h (Solver.after x as).2) := by
  induction as generalizing x with
  | nil => rfl
  | cons a as ih =>
    obtain ⟨s, r⟩ := x
    simp only [List.map_cons, Solver.after, step_mapH]
    exact ih (Solver.step s a)

theorem trace_mapH (h : VSetHom S V S' V') (debug : Bool) (fuel : Nat) (root : P) (rv : V)
    (as : List (Answer P S V M Pr E)) :
    Solver.trace debug fuel root (h.ι rv) (as.map (Answer.mapH h)) =
      (Solver.trace debug fuel root rv as).map (Request.mapH h) := by
  have hrun : ∀ (x : SolverState P S V M Pr × Request P S V M Pr E) (as : List (Answer P S V M Pr E)),
      Solver.runFrom (SolverState.mapH h x.1, Request.mapH h x.2) (as.map (Answer.mapH h)) =
        (Solver.runFrom x as).map (Request.mapH h) := by
    intro x as
    induction as generalizing x with
    | nil => rfl
    | cons a as ih =>
      obtain ⟨s, r⟩ := x
      simp only [List.map_cons, Solver.runFrom, step_mapH]
      rw [ih (Solver.step s a)]
  simp only [Solver.trace, List.map_cons, start_mapH, hrun]

theorem isFinal_mapH (h : VSetHom S V S' V') (r : Request P S V M Pr E) :
    (Request.mapH h r).isFinal = r.isFinal := by
  cases r <;> rfl

omit [DecidableEq P] [DecidableEq S] [DecidableEq V] [DecidableEq S'] [DecidableEq V'] in
theorem World.mapH_deps (h : VSetHom S V S' V') (back : V' → Option V)
    (hback : ∀ v, back (h.ι v) = some v) (W : World P S V M) (p : P) (v : V) :
    (World.mapH h back W).deps p (h.ι v) = DepsAnswer.mapH h (W.deps p v) := by
  show (match back (h.ι v) with | some v => DepsAnswer.mapH h (W.deps p v) | none => .available []) = _
  rw [hback]

theorem answerOK_mapH (h : VSetHom S V S' V') (back : V' → Option V)
    (hback : ∀ v, back (h.ι v) = some v) (W : World P S V M)
    (r : Request P S V M Pr E) (a : Answer P S V M Pr E) (hok : AnswerOK W r a) :
    AnswerOK (World.mapH h back W) (Request.mapH h r) (Answer.mapH h a) := by
  cases r with
  | chooseVersion p s =>
    cases a with
    | version v =>
      cases v with
      | none =>
        intro v' hv'
        obtain ⟨v, hv, rfl⟩ := List.mem_map.1 hv'
        exact (h.map_contains s v).trans (hok v hv)
      | some v => exact List.mem_map_of_mem hok
    | _ => exact True.intro
  | getDependencies p v =>
    cases a with
    | unavailable m => exact (World.mapH_deps h back hback W p v).trans (congrArg (DepsAnswer.mapH h) hok)
    | available ds => exact (World.mapH_deps h back hback W p v).trans (congrArg (DepsAnswer.mapH h) hok)
    | _ => exact True.intro
  | _ => cases a <;> exact True.intro

theorem answerWellBehaved_mapH (h : VSetHom S V S' V')
    (r : Request P S V M Pr E) (a : Answer P S V M Pr E) (hwb : AnswerWellBehaved r a) :
    AnswerWellBehaved (Request.mapH h r) (Answer.mapH h a) := by
  cases a with
  | error e => cases r <;> exact hwb.elim
  | version v =>
    cases v with
    | none => cases r <;> exact True.intro
    | some v =>
      cases r with
      | chooseVersion p s => exact (h.map_contains s v).trans hwb
      | _ => exact True.intro
  | _ => cases r <;> exact True.intro

theorem reachable_mapH (h : VSetHom S V S' V') (back : V' → Option V)
    (hback : ∀ v, back (h.ι v) = some v) (W : World P S V M) (debug : Bool) (fuel : Nat) (root : P)
    (rv : V) (x : SolverState P S V M Pr × Request P S V M Pr E)
    (hx : Reachable W debug fuel root rv x) :
    Reachable (World.mapH h back W) debug fuel root (h.ι rv)
      (SolverState.mapH h x.1, Request.mapH h x.2) := by
  induction hx with
  | start =>
    have := start_mapH (M := M) (Pr := Pr) (E := E) (P := P) h debug fuel root rv
    simp only [← this]
    exact Reachable.start
  | step hr hok ih =>
    rename_i s req a
    have := step_mapH (E := E) h s a
    simp only [← this]
    exact Reachable.step ih (answerOK_mapH h back hback W req a hok)

theorem reachableWB_mapH (h : VSetHom S V S' V') (back : V' → Option V)
    (hback : ∀ v, back (h.ι v) = some v) (W : World P S V M) (debug : Bool) (fuel : Nat) (root : P)
    (rv : V) (x : SolverState P S V M Pr × Request P S V M Pr E)
    (hx : ReachableWB W debug fuel root rv x) :
    ReachableWB (World.mapH h back W) debug fuel root (h.ι rv)
      (SolverState.mapH h x.1, Request.mapH h x.2) := by
  induction hx with
  | start =>
    have := start_mapH (M := M) (Pr := Pr) (E := E) (P := P) h debug fuel root rv
    simp only [← this]
    exact ReachableWB.start
  | step hr hok hwb ih =>
    rename_i s req a
    have := step_mapH (E := E) h s a
    simp only [← this]
    exact ReachableWB.step ih (answerOK_mapH h back hback W req a hok) (answerWellBehaved_mapH h req a hwb)

end Pubgrub
