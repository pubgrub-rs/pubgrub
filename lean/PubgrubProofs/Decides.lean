/-
Properties C02 ("whether a solution is found never depends on the prioritize / choose_version strategy,
only on the registry") and C05 ("resolve returns Ok or NoSolution after a bounded number of provider
calls") together: within `N` provider calls `resolve` returns (the first final request of the
trace), and what it returns is decided by the registry alone: `Ok(sel)` with `sel` a solution when a
solution exists, `NoSolution` when none exists.
`protocolError` is the model's reaction to an ill-typed answer (or to a `pick` answer that is not a maximal
queued package), a third alternative in the statements; a Rust provider cannot produce it (Typed.lean).
Proof of `resolve_returns`: the run is final after the budget of `run_rinvM`; let `k` be the least index
at which it is final; `as.take k` is still a good run (`GoodRunFrom` only looks at prefixes), so `run_rinvM`
gives "not `outOfFuel`" at `k` and `run_reachableWB` gives `ReachableWB` at `k` or `protocolError`; then
`wellBehaved_outcomes`, `solution_valid`, `noSolution_sound`.
-/
import PubgrubProofs.Termination
import PubgrubProofs.RangeTermination
import PubgrubProofs.OwnInvariant

set_option linter.unusedSectionVars false

namespace Pubgrub
open VersionSet

theorem exists_least_true (p : Nat → Bool) : ∀ n, p n = true →
    ∃ k, k ≤ n ∧ p k = true ∧ ∀ j, j < k → p j = false := by
  intro n
  induction n using Nat.strong_induction_on with
  | _ n ih =>
    intro hn
    by_cases h : ∃ j, j < n ∧ p j = true
    · obtain ⟨j, hj, hpj⟩ := h
      obtain ⟨k, hk, h1, h2⟩ := ih j hj hpj
      exact ⟨k, by omega, h1, h2⟩
    · refine ⟨n, Nat.le_refl n, hn, ?_⟩
      intro j hj
      cases hp : p j with
      | false => rfl
      | true => exact absurd ⟨j, hj, hp⟩ h

section Lawful
variable {P S V M Pr E : Type} [DecidableEq P] [VersionSet S V] [DecidableEq S] [DecidableEq V]
  [LE Pr] [DecidableLE Pr] [LawfulVersionSet S V] [CanonicalEmpty S V]

/-- what `resolve` returned is what the registry decides -/
def DecidedBy (W : World P S V M) (root : P) (rv : V) (r : Request P S V M Pr E) : Prop :=
  (∃ sel, r = .solution sel ∧ IsSolution W root rv (fun p => SmallMap.get sel p)) ∨
  ((∃ t, r = .noSolution t) ∧ ¬ ∃ σ : P → Option V, IsSolution W root rv σ) ∨
  (∃ m, r = .protocolError m)


theorem GoodRunFrom.take {W : World P S V M} {x : SolverState P S V M Pr × Request P S V M Pr E}
    {as : List (Answer P S V M Pr E)} (h : GoodRunFrom W x as) (n : Nat) :
    GoodRunFrom W x (as.take n) := by
  intro k a hk hfin
  rw [List.getElem?_take] at hk
  split at hk
  · rename_i hkn
    have hmin : min k n = k := Nat.min_eq_left (Nat.le_of_lt hkn)
    rw [List.take_take, hmin] at hfin ⊢
    exact h k a hk hfin
  · cases hk

theorem decidedBy_of_final (W : World P S V M) (hW : W.SetsValid) (root : P) (rv : V) (debug : Bool)
    (fuel : Nat) (x : SolverState P S V M Pr × Request P S V M Pr E)
    (hr : ReachableWB W debug fuel root rv x ∨ ∃ m, x.2 = .protocolError m)
    (hfin : x.2.isFinal = true) (hnf : x.2 ≠ .fault .outOfFuel) : DecidedBy W root rv x.2 := by
  rcases hr with hr | hm
  · obtain ⟨s, req⟩ := x
    rcases wellBehaved_outcomes W hW debug fuel root rv s req hr hfin with ⟨sel, h1⟩ | ⟨t, h1⟩ | h1 | h1
    · subst h1
      exact Or.inl ⟨sel, rfl, (solution_valid W hW debug fuel root rv s sel hr).1⟩
    · subst h1
      exact Or.inr (Or.inl ⟨⟨t, rfl⟩, noSolution_sound W hW debug fuel root rv s t
        (c04_reachable_of_wb W debug fuel root rv _ hr)⟩)
    · exact absurd h1 hnf
    · exact Or.inr (Or.inr h1)
  · exact Or.inr (Or.inr hm)

/-- C05 + C02: within `N` provider calls `resolve` returns, and the result is decided by the registry -/
theorem resolve_returns (W : World P S V M) (hW : W.SetsValid) (root : P) (rv : V)
    (fw : FiniteWorld W root rv) (debug : Bool) :
    ∃ N fuel0 : Nat, ∀ fuel, fuel0 ≤ fuel → ∀ as : List (Answer P S V M Pr E), N ≤ as.length →
      WellBehavedRun W debug fuel root rv as →
      ∃ k, k ≤ N ∧
        (Solver.after (Solver.start debug fuel root rv) (as.take k)).2.isFinal = true ∧
        (∀ j, j < k → (Solver.after (Solver.start debug fuel root rv) (as.take j)).2.isFinal = false) ∧
        DecidedBy W root rv (Solver.after (Solver.start debug fuel root rv) (as.take k)).2 := by
  refine ⟨Kc2 fw * Cmax fw + fw.pkgs.length + 6, 3 * Cmax fw + 3, ?_⟩
  intro fuel hfuel as hlen hrun
  have hgood := goodRunFrom_of_wellBehavedRun hrun
  have hstart := rinvM_start (Pr := Pr) (E := E) (M := M) fw debug fuel hfuel
  -- final after the first `N` answers
  have hN : (Solver.after (Solver.start debug fuel root rv)
      (as.take (Kc2 fw * Cmax fw + fw.pkgs.length + 6))).2.isFinal = true :=
    (run_rinvM fw hW debug fuel _ _ _ Reachable.start hstart (hgood.take _)).2
      (by rw [List.length_take]; omega)
  obtain ⟨k, hk, hfin, hmin⟩ := exists_least_true
    (fun k => (Solver.after (Solver.start debug fuel root rv) (as.take k)).2.isFinal) _ hN
  refine ⟨k, hk, hfin, hmin, ?_⟩
  have hgk := hgood.take k
  exact decidedBy_of_final W hW root rv debug fuel _
    (run_reachableWB W debug fuel root rv _ _ ReachableWB.start hgk) hfin
    (run_rinvM fw hW debug fuel _ _ _ Reachable.start hstart hgk).1

/-- C02, strategy independence: two well-behaved runs over the same registry — whatever their
strategies, tie-breakings, fuels, debug flags — cannot return one `Ok` and the other `NoSolution` -/
theorem strategy_independent (W : World P S V M) (hW : W.SetsValid) (root : P) (rv : V)
    (debug debug' : Bool) (fuel fuel' : Nat) (s s' : SolverState P S V M Pr) (sel : List (P × V))
    (t : DerivationTree P S V M)
    (h : ReachableWB (E := E) W debug fuel root rv (s, .solution sel))
    (h' : ReachableWB (E := E) W debug' fuel' root rv (s', .noSolution t)) : False := by
  have h1 := (solution_valid W hW debug fuel root rv s sel h).1
  exact noSolution_sound W hW debug' fuel' root rv s' t (c04_reachable_of_wb W debug' fuel' root rv _ h')
    ⟨_, h1⟩

end Lawful

section AnyOrder
variable {P V M Pr E : Type} [DecidableEq P] [LinearOrder V] [LE Pr] [DecidableLE Pr]

theorem range_resolve_returns (W : World P (Range V) V M) (hW : W.RangesWF) (root : P) (rv : V)
    (fr : FiniteRegistry W root) (debug : Bool) :
    ∃ N fuel0 : Nat, ∀ fuel, fuel0 ≤ fuel → ∀ as : List (Answer P (Range V) V M Pr E), N ≤ as.length →
      WellBehavedRun W debug fuel root rv as →
      ∃ k, k ≤ N ∧
        (Solver.after (Solver.start debug fuel root rv) (as.take k)).2.isFinal = true ∧
        (∀ j, j < k → (Solver.after (Solver.start debug fuel root rv) (as.take j)).2.isFinal = false) ∧
        ((∃ sel, (Solver.after (Solver.start debug fuel root rv) (as.take k)).2 = .solution sel ∧
            IsSolution W root rv (fun p => SmallMap.get sel p)) ∨
         ((∃ t, (Solver.after (Solver.start debug fuel root rv) (as.take k)).2 = .noSolution t) ∧
            ¬ ∃ σ : P → Option V, IsSolution W root rv σ) ∨
         (∃ m, (Solver.after (Solver.start debug fuel root rv) (as.take k)).2 = .protocolError m)) := by
  have : Nonempty V := ⟨rv⟩
  have hW' := World.setsValid_mapH W hW
  obtain ⟨N, fuel0, hN⟩ := resolve_returns (Pr := Pr) (E := E) _ hW' root (Range.denseHom.ι rv)
    (fr.finiteWorld W hW root rv) debug
  refine ⟨N, fuel0, ?_⟩
  intro fuel hfuel as hlen hwb
  obtain ⟨k, hk, hfin, hmin, hdec⟩ := hN fuel hfuel (as.map (Answer.mapH Range.denseHom))
    (by simpa using hlen) (WellBehavedRun.image W debug fuel root rv as hwb)
  simp only [← List.map_take, after_image, isFinal_mapH] at hfin hmin hdec
  refine ⟨k, hk, hfin, hmin, ?_⟩
  generalize (Solver.after (Solver.start debug fuel root rv) (as.take k)).2 = r at hdec ⊢
  rcases hdec with ⟨sel', hs, hsol⟩ | ⟨⟨t', ht⟩, hno⟩ | ⟨m, hm⟩
  · obtain ⟨sel, rfl⟩ := Request.mapH_solution _ _ _ hs
    have he : sel' = sel.map fun kv => (kv.1, Range.denseHom.ι kv.2) := by
      simp only [Request.mapH, Request.solution.injEq] at hs
      exact hs.symm
    subst he
    have hfun : (fun p => SmallMap.get (sel.map fun kv => (kv.1, Range.denseHom.ι kv.2)) p) =
        fun p => (SmallMap.get sel p).map Range.denseHom.ι := by
      funext p; exact SmallMap.get_mapVals _ sel p
    rw [hfun] at hsol
    exact Or.inl ⟨sel, rfl, IsSolution.pull Range.denseHom Dense.back Dense.back_ι W root rv _ hsol⟩
  · refine Or.inr (Or.inl ⟨Request.mapH_noSolution _ _ _ ht, ?_⟩)
    rintro ⟨σ, hσ⟩
    exact hno ⟨_, IsSolution.push Range.denseHom Dense.back Dense.back_ι W root rv σ hσ⟩
  · exact Or.inr (Or.inr ⟨m, Request.mapH_protocolError _ _ _ hm⟩)

theorem range_strategy_independent (W : World P (Range V) V M) (hW : W.RangesWF) (root : P) (rv : V)
    (debug debug' : Bool) (fuel fuel' : Nat) (s s' : SolverState P (Range V) V M Pr) (sel : List (P × V))
    (t : DerivationTree P (Range V) V M)
    (h : ReachableWB (E := E) W debug fuel root rv (s, .solution sel))
    (h' : ReachableWB (E := E) W debug' fuel' root rv (s', .noSolution t)) : False := by
  have h1 := (range_solution_valid W hW debug fuel root rv s sel h).1
  have : Nonempty V := ⟨rv⟩
  have hr' := reachable_of_wb _ debug' fuel' root _ _
    (range_reachableWB_image W debug' fuel' root rv s' _ h')
  exact noSolution_sound _ (World.setsValid_mapH W hW) debug' fuel' root _ _ _ hr'
    ⟨_, IsSolution.push Range.denseHom Dense.back Dense.back_ι W root rv _ h1⟩

end AnyOrder
end Pubgrub
