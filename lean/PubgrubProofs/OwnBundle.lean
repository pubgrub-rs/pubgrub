/-
The semantic state invariants (`State.OwnSemG`: owned clauses of decided packages are excluded at every
level from the decision level up, with a set of waived obligations; `State.CacheSem`; `State.RootC`),
the generic transport lemma for changes of the partial solution, and two of its instances (cache
insertion, derivation).
-/
import PubgrubProofs.OwnTermsAt

namespace Pubgrub
open VersionSet

section Defs
variable {P S V M Pr : Type} [DecidableEq P] [VersionSet S V] [DecidableEq S]

/-- Inv-Own, semantic form, with waived obligations: for every decided package `p` and every level `l`
from its decision level up, every indexed incompatibility owned by `p` is excluded (`SContra`) by the
terms of level `l`; at the current level the obligations `(p, id)` with `waive p id` are waived -/
def State.OwnSemG (st : State P S V M Pr) (waive : P → Nat → Prop) : Prop :=
  ∀ (p : P) (pa : PackageAssignments S V) (g : Nat) (v : V) (t : Term S),
    st.ps.getPA p = some pa → pa.inter = .decision g v t →
    ∀ l, pa.highest ≤ l → l ≤ st.ps.currentDecisionLevel →
    ∀ id ∈ st.indexOf p, ∀ inc : Incompat P S V M, st.store[id]? = some inc → inc.OwnedBy p →
      (l = st.ps.currentDecisionLevel → ¬ waive p id) → inc.SContra (st.ps.termsAt l)

/-- the cache, semantic form: a cached `(id, l0)` is excluded by the terms of every level from `l0` up -/
def State.CacheSem (st : State P S V M Pr) : Prop :=
  ∀ (id l0 : Nat), (id, l0) ∈ st.contradicted → l0 ≤ st.ps.currentDecisionLevel ∧
    ∀ inc : Incompat P S V M, st.store[id]? = some inc →
      ∀ l, l0 ≤ l → l ≤ st.ps.currentDecisionLevel → inc.SContra (st.ps.termsAt l)

/-- the `notRoot` incompatibility is excluded at every level: the root package carries a positive
term inside `{root version}` from level 0 on -/
def State.RootC (st : State P S V M Pr) (root : P) (rv : V) : Prop :=
  st.store[0]? = some (Incompat.notRoot root rv) ∧
  ∀ l, l ≤ st.ps.currentDecisionLevel →
    (Incompat.notRoot root rv : Incompat P S V M).SContra (st.ps.termsAt l)

/-- the index only mentions stored incompatibilities -/
def State.IdxBound (st : State P S V M Pr) : Prop :=
  ∀ p id, id ∈ st.indexOf p → id < st.store.length

def noWaive : P → Nat → Prop := fun _ _ => False

end Defs

section Lawful
variable {P S V M Pr : Type} [DecidableEq P] [VersionSet S V] [DecidableEq S] [LawfulVersionSet S V]

/-- the bundle carried through the functions of `Core` -/
structure Sem (W : World P S V M) (root : P) (rv : V) (st : State P S V M Pr)
    (waive : P → Nat → Prop) : Prop where
  sinv : SInv W root rv st
  pinv : PInv st
  own : st.OwnSemG waive
  cache : st.CacheSem
  rootc : st.RootC root rv
  idxb : st.IdxBound

theorem Sem.transport (W : World P S V M) (root : P) (rv : V) {st st' : State P S V M Pr}
    {waive waive' : P → Nat → Prop} (h : Sem W root rv st waive)
    (hstore : st'.store = st.store) (hidx : st'.incompatibilities = st.incompatibilities)
    (hroot : st'.rootPackage = st.rootPackage) (hrv : st'.rootVersion = st.rootVersion)
    (hvalid : st'.ps.TermsValid) (hpinv : PInv st')
    (H : ∀ l, l ≤ st'.ps.currentDecisionLevel →
      TermsLE (st'.ps.termsAt l) (st.ps.termsAt (min l st.ps.currentDecisionLevel)))
    (Hown : ∀ (p : P) (pa' : PackageAssignments S V) (g : Nat) (v : V) (t : Term S),
      st'.ps.getPA p = some pa' → pa'.inter = .decision g v t →
      ∀ l, pa'.highest ≤ l → l ≤ st'.ps.currentDecisionLevel →
      ∀ id ∈ st.indexOf p, ∀ inc : Incompat P S V M, st.store[id]? = some inc → inc.OwnedBy p →
      (l = st'.ps.currentDecisionLevel → ¬ waive' p id) →
        (∃ pa g0 v0 t0, st.ps.getPA p = some pa ∧ pa.inter = .decision g0 v0 t0 ∧
          pa.highest ≤ min l st.ps.currentDecisionLevel ∧
          (min l st.ps.currentDecisionLevel = st.ps.currentDecisionLevel → ¬ waive p id)) ∨
        inc.SContra (st'.ps.termsAt l))
    (Hcache : ∀ id l0, (id, l0) ∈ st'.contradicted → l0 ≤ st'.ps.currentDecisionLevel ∧
      ((id, l0) ∈ st.contradicted ∨
        ∀ inc : Incompat P S V M, st.store[id]? = some inc →
          ∀ l, l0 ≤ l → l ≤ st'.ps.currentDecisionLevel → inc.SContra (st'.ps.termsAt l))) :
    Sem W root rv st' waive' := by
  refine ⟨⟨hstore ▸ h.sinv.store, hroot ▸ h.sinv.root, hrv ▸ h.sinv.rv, hvalid⟩, hpinv, ?_, ?_, ?_, ?_⟩
  · intro p pa' g v t hpa' hd l hl1 hl2 id hid inc hinc hown hw
    have hid' : id ∈ st.indexOf p := by
      unfold State.indexOf at hid ⊢; rw [hidx] at hid; exact hid
    rw [hstore] at hinc
    rcases Hown p pa' g v t hpa' hd l hl1 hl2 id hid' inc hinc hown hw with
      ⟨pa, g0, v0, t0, e1, e2, e3, e4⟩ | hc
    · exact (h.own p pa g0 v0 t0 e1 e2 _ e3 (Nat.min_le_right _ _) id hid' inc hinc hown e4).mono
        (H l hl2)
    · exact hc
  · intro id l0 hm
    obtain ⟨hl0, hc⟩ := Hcache id l0 hm
    refine ⟨hl0, ?_⟩
    intro inc hinc l hl1 hl2
    rw [hstore] at hinc
    rcases hc with hc | hc
    · obtain ⟨hl0', hcs⟩ := h.cache id l0 hc
      exact (hcs inc hinc _ (Nat.le_min.2 ⟨hl1, hl0'⟩) (Nat.min_le_right _ _)).mono (H l hl2)
    · exact hc inc hinc l hl1 hl2
  · refine ⟨hstore ▸ h.rootc.1, ?_⟩
    intro l hl
    exact (h.rootc.2 _ (Nat.min_le_right _ _)).mono (H l hl)
  · intro p id hid
    rw [hstore]
    apply h.idxb p id
    unfold State.indexOf at hid ⊢; rw [hidx] at hid; exact hid

theorem Sem.reWaive (W : World P S V M) (root : P) (rv : V) {st : State P S V M Pr}
    {waive waive' : P → Nat → Prop} (h : Sem W root rv st waive)
    (hw : ∀ p id, id ∈ st.indexOf p → waive p id → waive' p id) : Sem W root rv st waive' :=
  ⟨h.sinv, h.pinv, fun p pa g v t e1 e2 l l1 l2 id hid inc hinc ho hw' =>
    h.own p pa g v t e1 e2 l l1 l2 id hid inc hinc ho (fun e hwv => hw' e (hw p id hid hwv)),
    h.cache, h.rootc, h.idxb⟩

theorem Sem.setBuffer (W : World P S V M) (root : P) (rv : V) {st : State P S V M Pr}
    {waive : P → Nat → Prop} (h : Sem W root rv st waive) (b : List P) :
    Sem W root rv { st with buffer := b } waive :=
  ⟨⟨h.sinv.store, h.sinv.root, h.sinv.rv, h.sinv.ps⟩, ⟨h.pinv.wf, h.pinv.cache⟩, h.own, h.cache, h.rootc,
    h.idxb⟩

theorem min_eq_of_le' {a b : Nat} (h : a ≤ b) : min a b = a := Nat.min_eq_left h

theorem Sem.discharge (W : World P S V M) (root : P) (rv : V) {st : State P S V M Pr}
    {cur : P} {id : Nat} {rest : List Nat}
    (h : Sem W root rv st (fun p i => p = cur ∧ i ∈ id :: rest))
    (hd : ∀ pa g v t inc, st.ps.getPA cur = some pa → pa.inter = .decision g v t →
      st.store[id]? = some inc → inc.OwnedBy cur → id ∈ st.indexOf cur →
      inc.SContra (st.ps.termsAt st.ps.currentDecisionLevel)) :
    Sem W root rv st (fun p i => p = cur ∧ i ∈ rest) := by
  refine ⟨h.sinv, h.pinv, ?_, h.cache, h.rootc, h.idxb⟩
  intro p pa g v t e1 e2 l l1 l2 i hi inc hinc ho hwv
  by_cases hc : l = st.ps.currentDecisionLevel ∧ p = cur ∧ i = id
  · obtain ⟨rfl, rfl, rfl⟩ := hc
    exact hd pa g v t inc e1 e2 hinc ho hi
  · apply h.own p pa g v t e1 e2 l l1 l2 i hi inc hinc ho
    rintro hl ⟨hp, hmem⟩
    rcases List.mem_cons.1 hmem with rfl | hmem
    · exact hc ⟨hl, hp, rfl⟩
    · exact hwv hl ⟨hp, hmem⟩

theorem Sem.cacheInsert (W : World P S V M) (root : P) (rv : V) {st : State P S V M Pr}
    {cur : P} {id : Nat} {rest : List Nat} {inc : Incompat P S V M}
    (h : Sem W root rv st (fun p i => p = cur ∧ i ∈ id :: rest))
    (hinc : st.store[id]? = some inc) (hc : inc.SContra st.ps.terms) :
    Sem W root rv
      { st with contradicted := SmallMap.insert st.contradicted id st.ps.currentDecisionLevel }
      (fun p i => p = cur ∧ i ∈ rest) := by
  rw [← PartialSolution.termsAt_top h.pinv.wf.wf (Nat.le_refl _)] at hc
  have h1 := Sem.discharge W root rv h (fun pa g v t inc' _ _ hinc' _ _ => by
    rw [hinc] at hinc'; injection hinc' with e; subst e; exact hc)
  refine ⟨⟨h.sinv.store, h.sinv.root, h.sinv.rv, h.sinv.ps⟩,
    h.pinv.cacheInsert (List.getElem?_eq_some_iff.1 hinc).1 _, h1.own, ?_, h.rootc, h.idxb⟩
  intro i l0 hm
  rcases SmallMap.mem_insert_sub hm with e | hm
  · injection e with e1 e2; subst e1 e2
    refine ⟨Nat.le_refl _, fun inc' hinc' l hl1 hl2 => ?_⟩
    rw [hinc] at hinc'; injection hinc' with e; subst e
    rw [Nat.le_antisymm hl2 hl1]; exact hc
  · exact h.cache i l0 hm

theorem PartialSolution.addDerivation_decided {ps ps' : PartialSolution P S V Pr} {q : P} {cause : Nat}
    {store : List (Incompat P S V M)} (h : ps.WF')
    (hr : ps.addDerivation q cause store = .ok ps') {p : P} {pa' : PackageAssignments S V}
    {g : Nat} {v : V} {t : Term S} (hpa' : ps'.getPA p = some pa') (hd : pa'.inter = .decision g v t) :
    ps.getPA p = some pa' := by
  by_cases hp : p = q
  · subst hp
    exfalso
    obtain ⟨inc, t1, _, _, hcase⟩ := PartialSolution.addDerivation_spec hr
    rcases hcase with ⟨idx, pa, t0, hidx, hpa, ht0, rfl⟩ | ⟨hpa, rfl⟩
    · have hget := PartialSolution.getElem_of_indexOf_getPA hidx hpa
      simp only [PartialSolution.getPA] at hpa'
      rw [SmallMap.get_set_same_key h.wf.keys hget, if_pos rfl] at hpa'
      injection hpa' with hpa'; subst hpa'
      cases hd
    · simp only [PartialSolution.getPA] at hpa hpa'
      rw [SmallMap.get_append_none hpa] at hpa'
      simp only [SmallMap.get, if_true] at hpa'
      injection hpa' with hpa'; subst hpa'
      cases hd
  · rw [PartialSolution.addDerivation_getPA_ne h.wf hr hp] at hpa'; exact hpa'

theorem Sem.addDerivation (W : World P S V M) (root : P) (rv : V) {st : State P S V M Pr}
    {waive : P → Nat → Prop} {q : P} {id : Nat} {ps' : PartialSolution P S V Pr}
    (h : Sem W root rv st waive) (hps : st.ps.addDerivation q id st.store = .ok ps') :
    Sem W root rv { st with ps := ps' } waive := by
  have hw := h.pinv.wf
  have hlev := PartialSolution.addDerivation_level hps
  have hw' := PartialSolution.addDerivation_wf' hw hps
  refine Sem.transport W root rv h (st' := { st with ps := ps' }) rfl rfl rfl rfl
    (PartialSolution.addDerivation_termsValid W root rv h.sinv.store h.sinv.ps hps) ⟨hw', h.pinv.cache⟩ ?_ ?_ ?_
  · intro l hl
    show TermsLE (ps'.termsAt l) _
    have hl' : l ≤ st.ps.currentDecisionLevel := hlev ▸ hl
    rw [Nat.min_eq_left hl']
    by_cases hlt : l < st.ps.currentDecisionLevel
    · exact TermsLE.of_eq (PartialSolution.termsAt_addDerivation_lt hw hps hlt)
    · have : l = st.ps.currentDecisionLevel := Nat.le_antisymm hl' (Nat.le_of_not_lt hlt)
      subst this
      rw [PartialSolution.termsAt_top hw.wf (Nat.le_refl _),
        PartialSolution.termsAt_top hw'.wf (Nat.le_of_eq hlev)]
      exact PartialSolution.termsLE_addDerivation W root rv h.sinv.store hw h.sinv.ps hps
  · intro p pa' g v t hpa' hd l hl1 hl2 i hi inc' hinc' hown hwv
    have hl2' : l ≤ st.ps.currentDecisionLevel := hlev ▸ hl2
    refine Or.inl ⟨pa', g, v, t, PartialSolution.addDerivation_decided hw hps hpa' hd, hd, ?_, ?_⟩
    · rw [Nat.min_eq_left hl2']; exact hl1
    · intro hmin
      rw [Nat.min_eq_left hl2'] at hmin
      exact hwv (by show l = ps'.currentDecisionLevel; rw [hlev]; exact hmin)
  · intro i l0 hm
    exact ⟨by show l0 ≤ ps'.currentDecisionLevel; rw [hlev]; exact (h.cache i l0 hm).1, Or.inl hm⟩

theorem Sem.derive (W : World P S V M) (root : P) (rv : V) {st : State P S V M Pr}
    {cur q : P} {id : Nat} {rest : List Nat} {ps' : PartialSolution P S V Pr} (b : List P)
    (h : Sem W root rv st (fun p i => p = cur ∧ i ∈ id :: rest))
    (hps : st.ps.addDerivation q id st.store = .ok ps') :
    Sem W root rv
      { st with buffer := b, ps := ps',
                contradicted := SmallMap.insert st.contradicted id ps'.currentDecisionLevel }
      (fun p i => p = cur ∧ i ∈ rest) := by
  obtain ⟨inc, tq, o', hinc, hget, hnew, hsub, _⟩ :=
    PartialSolution.terms_addDerivation_self h.pinv.wf h.sinv.ps hps
  have htqv := Incompat.get_valid W root rv h.sinv.store hinc hget
  -- the examined incompatibility is excluded by the new terms
  have hc : inc.SContra ps'.terms :=
    ⟨q, tq, o', SmallMap.mem_of_get hget, hnew, (Term.disj_negate tq).mono (hsub htqv)⟩
  exact Sem.setBuffer W root rv
    (Sem.cacheInsert W root rv (Sem.addDerivation W root rv h hps) (st := { st with ps := ps' }) hinc hc) b

end Lawful
end Pubgrub
