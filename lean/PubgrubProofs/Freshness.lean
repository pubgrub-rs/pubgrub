/-
Properties C12 ("choose_version(p, set) is only called with … the set last passed to prioritize for p")
and C14 ("every such package's most recent priority was reported for its current set of allowed
versions", hence the package asked about has a maximal most-recently-reported priority), as statements
about the callback trace (`Solver.trace`).  The freshness invariant `FInv` holds along the run relative
to `lastPrio`, the map of the most recent `prioritize` answers.
-/
import PubgrubProofs.PSInvariant
import PubgrubProofs.Protocol
import PubgrubProofs.FreshRunInv

set_option linter.unusedSectionVars false

namespace Pubgrub
open VersionSet

variable {P S V M Pr E : Type} [DecidableEq P] [VersionSet S V] [DecidableEq S] [DecidableEq V]
  [LE Pr] [DecidableLE Pr] [LawfulVersionSet S V]

/-- the most recent `prioritize(q, ·)` call among the first `k` requests of a run and its answer:
the set it carried and the priority reported -/
def lastPrio (tr : List (Request P S V M Pr E)) (as : List (Answer P S V M Pr E)) (k : Nat) (q : P) :
    Option (S × Pr) :=
  ((List.range k).reverse.findSome? fun j =>
    match (tr[j]? : Option (Request P S V M Pr E)), (as[j]? : Option (Answer P S V M Pr E)) with
    | some (Request.prioritize q' s), some (Answer.priority pr) => if q' = q then some (s, pr) else none
    | _, _ => none)

/-- all answers of a run are consistent with the world -/
def AnswersOK (W : World P S V M) (debug : Bool) (fuel : Nat) (root : P) (rv : V)
    (as : List (Answer P S V M Pr E)) : Prop :=
  ∀ (k : Nat) (a : Answer P S V M Pr E), as[k]? = some a →
    ∃ r, (Solver.trace debug fuel root rv as)[k]? = some r ∧ AnswerOK W r a

theorem lastPrio_zero (tr : List (Request P S V M Pr E)) (as : List (Answer P S V M Pr E)) :
    lastPrio tr as 0 = fun _ => none := rfl

theorem lastPrio_succ (tr : List (Request P S V M Pr E)) (as : List (Answer P S V M Pr E)) (k : Nat)
    (r : Request P S V M Pr E) (a : Answer P S V M Pr E) (htr : tr[k]? = some r) (has : as[k]? = some a) :
    lastPrio tr as (k + 1) = lpNext (lastPrio tr as k) r a := by
  funext q
  unfold lastPrio
  rw [List.range_succ, List.reverse_append, List.reverse_singleton, List.singleton_append,
    List.findSome?_cons, htr, has]
  -- only a `prioritize` request answered by a priority is looked at, on both sides
  cases r <;> first | rfl | (cases a <;> first | rfl | skip)
  next q' s pr =>
    dsimp only [lpNext]
    by_cases hq : q' = q
    · simp only [if_pos hq]
    · simp only [if_neg hq]

theorem step_chooseVersion (s : SolverState P S V M Pr) (a : Answer P S V M Pr E) (p : P) (set : S)
    (h : (Solver.step s a).2 = .chooseVersion p set) :
    ∃ acc, s.phase = .picking acc ∧ a = .picked (some p) := by
  revert h
  apply Solver.step_cases
    (motive := fun x => x.2 = .chooseVersion p set → ∃ acc, s.phase = .picking acc ∧ a = .picked (some p)) s a
  case popped => intro acc _ _ _ hph e _ _ _ h; cases h; exact ⟨acc, hph, e⟩
  case stop => intro _ r hr _ h; cases (h : r = _); cases hr
  case propagated => intro _ L _ _ _ _ h; cases L <;> cases h
  case prioritized => intro _ rest _ _ _ _ h; cases rest <;> cases h
  all_goals intros; rename_i h; cases h

theorem reachable_take (W : World P S V M) (debug : Bool) (fuel : Nat) (root : P) (rv : V)
    (as : List (Answer P S V M Pr E)) (hok : AnswersOK W debug fuel root rv as) (k : Nat)
    (hk : k ≤ as.length) :
    Reachable W debug fuel root rv (Solver.after (Solver.start debug fuel root rv) (as.take k)) := by
  induction k with
  | zero => simp only [List.take_zero, Solver.after_nil]; exact Reachable.start
  | succ k ih =>
    have hk' : k < as.length := hk
    rw [Solver.take_succ_snoc as k hk', Solver.after_snoc]
    obtain ⟨r, hr, har⟩ := hok k as[k] (List.getElem?_eq_getElem hk')
    rw [Solver.trace_eq, Solver.traceFrom_getElem?_eq_some] at hr
    obtain ⟨_, hr⟩ := hr
    subst hr
    exact Reachable.step (s := (Solver.after (Solver.start debug fuel root rv) (as.take k)).1)
      (req := (Solver.after (Solver.start debug fuel root rv) (as.take k)).2) (ih (Nat.le_of_lt hk')) har

theorem fresh_take (W : World P S V M) (hW : W.SetsValid) (debug : Bool) (fuel : Nat) (root : P) (rv : V)
    (as : List (Answer P S V M Pr E)) (hok : AnswersOK W debug fuel root rv as) (k : Nat)
    (hk : k ≤ as.length) :
    FInv (lastPrio (Solver.trace debug fuel root rv as) as k)
      (Solver.after (Solver.start debug fuel root rv) (as.take k)) := by
  induction k with
  | zero =>
    rw [lastPrio_zero]
    simp only [List.take_zero, Solver.after_nil]
    exact finv_start debug fuel root rv
  | succ k ih =>
    have hk' : k < as.length := hk
    have hreach := reachable_take W debug fuel root rv as hok k (Nat.le_of_lt hk')
    obtain ⟨r, hr, har⟩ := hok k as[k] (List.getElem?_eq_getElem hk')
    have hr' := hr
    rw [Solver.trace_eq, Solver.traceFrom_getElem?_eq_some] at hr'
    obtain ⟨_, hr'⟩ := hr'
    subst hr'
    rw [lastPrio_succ _ _ k _ _ hr (List.getElem?_eq_getElem hk'), Solver.take_succ_snoc as k hk',
      Solver.after_snoc]
    exact finv_step W root rv _ _ _ _
      (reachable_rinv W hW debug fuel root rv _ hreach)
      (reachable_rinv' W hW debug fuel root rv _ hreach)
      (reachable_coherent W debug fuel root rv _ hreach)
      (ih (Nat.le_of_lt hk')) har

/-- C12: the set passed to `choose_version` is the set last passed to `prioritize` for that package -/
theorem choose_set_is_prioritized_set (W : World P S V M) (hW : W.SetsValid) (debug : Bool) (fuel : Nat)
    (root : P) (rv : V) (as : List (Answer P S V M Pr E)) (hok : AnswersOK W debug fuel root rv as)
    (k : Nat) (p : P) (s : S)
    (hk : (Solver.trace debug fuel root rv as)[k]? = some (.chooseVersion p s)) :
    ∃ pr, lastPrio (Solver.trace debug fuel root rv as) as k p = some (s, pr) := by
  rw [Solver.trace_eq, Solver.traceFrom_getElem?_eq_some] at hk
  obtain ⟨hle, hreq⟩ := hk
  exact (fresh_take W hW debug fuel root rv as hok k hle).chooseReq p s hreq

/-- C14 in full: when `choose_version(p, ·)` is requested at position `k` (so position `k-1` is the pop
of the queue), every package `q` that has a positive requirement `set_q` and no selected version at that
moment had its most recent priority reported for exactly `set_q`, and that priority is at most the most
recently reported priority of `p` -/
theorem choose_has_maximal_last_priority (W : World P S V M) (hW : W.SetsValid) (debug : Bool)
    (fuel : Nat) (root : P) (rv : V) (as : List (Answer P S V M Pr E))
    (hok : AnswersOK W debug fuel root rv as) (k : Nat) (p : P) (s : S)
    (hk : (Solver.trace debug fuel root rv as)[k + 1]? = some (.chooseVersion p s))
    (q : P) (pa : PackageAssignments S V) (setq : S)
    (hq : (Solver.after (Solver.start debug fuel root rv) (as.take k)).1.st.ps.getPA q = some pa)
    (hpos : pa.inter = .derivations (.pos setq)) :
    ∃ prq prp, lastPrio (Solver.trace debug fuel root rv as) as k q = some (setq, prq) ∧
      (∃ sp, lastPrio (Solver.trace debug fuel root rv as) as k p = some (sp, prp)) ∧ prq ≤ prp := by
  rw [Solver.trace_eq, Solver.traceFrom_getElem?_eq_some] at hk
  obtain ⟨hle, hreq⟩ := hk
  have hk' : k < as.length := hle
  have hreach := reachable_take W debug fuel root rv as hok k (Nat.le_of_lt hk')
  have hfr := fresh_take W hW debug fuel root rv as hok k (Nat.le_of_lt hk')
  have hi := reachable_rinv' W hW debug fuel root rv _ hreach
  rw [Solver.take_succ_snoc as k hk', Solver.after_snoc] at hreq
  generalize hx : Solver.after (Solver.start debug fuel root rv) (as.take k) = x at *
  obtain ⟨sx, rx⟩ := x
  simp only at hreq hq
  obtain ⟨acc, hph, hak⟩ := step_chooseVersion sx as[k] p s hreq
  obtain ⟨hpinv, _⟩ := hi.live (by simp only; rw [hph]; intro e; cases e)
  obtain ⟨⟨L, hL, hLk⟩, hrx⟩ := hi.picking acc hph
  simp only at hrx hL
  subst hrx
  rw [hak] at hreq
  obtain ⟨prp, hprp, hmax⟩ := choose_is_maximal W hW debug fuel root rv sx _ p hreach s
    (Solver.step sx (.picked (some p))).1 (by rw [← hreq])
  obtain ⟨prq, hprq, hle'⟩ := hmax q pa setq hq hpos
  have he := hfr.picking acc hph
  obtain ⟨sp, hlp, _⟩ := he.settled hL hLk hprp
  obtain ⟨sq, hlq, hall⟩ := he.settled hL hLk hprq
  obtain ⟨i, _, hiq⟩ := PartialSolution.getElem_of_getPA hq
  have := hall i pa setq hiq hpos
  subst this
  exact ⟨prq, prp, hlq, ⟨sp, hlp⟩, hle'⟩

end Pubgrub
