/-
`protocolError` is an outcome of the model only: `Solver.step` answers with it when the provider's
answer does not fit the pending request (a Rust provider cannot do that: the callbacks are typed),
when the `pick` pseudo-answer (which package the priority queue popped) is not a maximal queued package
or is `none` although the queue is not empty (the real heap cannot do that), or when an answer arrives
after `resolve` has returned.  For typed answers `protocolError` is unreachable, and the outcome
theorems lose their third alternative.
-/
import PubgrubProofs.Decides

set_option linter.unusedSectionVars false

namespace Pubgrub
open VersionSet

section
variable {P S V M Pr E : Type} [DecidableEq P] [LE Pr] [DecidableLE Pr]

/-- the answer fits the request: the right callback's return type, and for the `pick` pseudo-request a
maximal queued package (or `none` exactly when the queue is empty) -/
def AnswerTyped : Request P S V M Pr E → Answer P S V M Pr E → Prop
  | .shouldCancel, .ok => True
  | .shouldCancel, .error _ => True
  | .prioritize _ _, .priority _ => True
  | .pick q, .picked none => q = []
  | .pick q, .picked (some p) => Solver.isMaximal q p = true
  | .chooseVersion _ _, .version _ => True
  | .chooseVersion _ _, .error _ => True
  | .getDependencies _ _, .unavailable _ => True
  | .getDependencies _ _, .available _ => True
  | .getDependencies _ _, .error _ => True
  | _, _ => False
end

section Core
variable {P S V M Pr E : Type} [DecidableEq P] [VersionSet S V] [DecidableEq S] [DecidableEq V]
  [LE Pr] [DecidableLE Pr]

namespace Solver

/-- in phase `picking acc` the pending request is `pick` of exactly the queue `step` will inspect -/
def PickCoherent (x : SR P S V M Pr E) : Prop :=
  ∀ acc, x.1.phase = .picking acc → x.2 = .pick (x.1.st.ps.afterPrioritize acc).queue

theorem pickCoherent_start (debug : Bool) (fuel : Nat) (root : P) (rv : V) :
    PickCoherent (start (M := M) (Pr := Pr) (E := E) (S := S) debug fuel root rv) := by
  intro acc h; simp [start] at h

theorem StepTo.pickCoherent {s : SolverState P S V M Pr} {a : Answer P S V M Pr E} {x : SR P S V M Pr E}
    (h : StepTo s a x) : PickCoherent x := by
  induction h
  case finished h => intro acc hacc; rw [h] at hacc; cases hacc
  case nothingToPrioritize | lastPriority => intro acc hacc; cases hacc; rfl
  all_goals (intro acc hacc; cases hacc)

theorem pickCoherent_step (s : SolverState P S V M Pr) (a : Answer P S V M Pr E) :
    PickCoherent (step s a) :=
  (step_spec s a).pickCoherent

theorem fits_of_typed {s : SolverState P S V M Pr} {req : Request P S V M Pr E} {a : Answer P S V M Pr E}
    (hco : Coherent (s, req)) (hfin : req.isFinal = false) (ht : AnswerTyped req a) :
    Fits s.phase a := by
  simp only [Coherent] at hco
  split at hco <;> rename_i hph <;> rw [hph]
  · subst hco; cases a <;> trivial
  · subst hco; cases a <;> trivial
  · obtain ⟨q, rfl⟩ := hco; cases a <;> trivial
  · obtain ⟨set, rfl, rfl⟩ := hco; cases a <;> trivial
  · subst hco; cases a <;> trivial
  · rw [hfin] at hco; cases hco

end Solver

/-- unfold `step` in a known phase and close every leaf -/
local macro "typed_leaf" h:ident : tactic =>
  `(tactic| (unfold Solver.step; simp only [$h:ident]; repeat' split
             all_goals (simp_all [Solver.finish, Solver.loopAgain]; done)))

open Solver in
/-- the typed-answer lemma from the two coherence invariants alone (no world, no lawfulness): the four
leaves of `step` that answer `protocolError` are excluded one by one -/
theorem step_typed_core (s : SolverState P S V M Pr) (req : Request P S V M Pr E)
    (a : Answer P S V M Pr E) (hco : Solver.Coherent (s, req)) (hpc : Solver.PickCoherent (s, req))
    (hfin : req.isFinal = false) (ht : AnswerTyped req a) (m : String) :
    (Solver.step s a).2 ≠ .protocolError m := by
  have h := step_spec s a
  generalize step s a = x at h
  induction h
  case finished h =>
    have hr : req.isFinal = true := by simpa only [Coherent, h] using hco
    rw [hfin] at hr; cases hr
  case mismatch hfit => exact absurd (fits_of_typed hco hfin ht) hfit
  case pickNoneNonempty hph hq =>
    have hreq : req = .pick (s.st.ps.afterPrioritize _).queue := hpc _ hph
    subst hreq
    have ht : _ = [] := ht
    rw [ht] at hq; cases hq
  case pickNotMaximal hph hq =>
    have hreq : req = .pick (s.st.ps.afterPrioritize _).queue := hpc _ hph
    subst hreq
    have ht : isMaximal _ _ = true := ht
    rw [ht] at hq; cases hq
  all_goals (intro hm; cases hm)

theorem reachable_pickCoherent (W : World P S V M) (debug : Bool) (fuel : Nat) (root : P) (rv : V)
    (x : SolverState P S V M Pr × Request P S V M Pr E) (h : Reachable W debug fuel root rv x) :
    Solver.Coherent x ∧ Solver.PickCoherent x := by
  induction h with
  | start => exact ⟨Solver.coherent_start debug fuel root rv, Solver.pickCoherent_start debug fuel root rv⟩
  | step _ _ _ => exact ⟨Solver.coherent_step _ _, Solver.pickCoherent_step _ _⟩

/-- the request at the first final index of a run with typed answers is not `protocolError`
(arbitrary answers otherwise: no world, no lawfulness) -/
theorem typed_first_final_ne (debug : Bool) (fuel : Nat) (root : P) (rv : V)
    (as : List (Answer P S V M Pr E))
    (ht : ∀ (k : Nat) (a : Answer P S V M Pr E), as[k]? = some a →
      ∃ r, (Solver.trace debug fuel root rv as)[k]? = some r ∧ (r.isFinal = false → AnswerTyped r a))
    (k : Nat)
    (hfin : (Solver.after (Solver.start debug fuel root rv) (as.take k)).2.isFinal = true)
    (hmin : ∀ j, j < k → (Solver.after (Solver.start debug fuel root rv) (as.take j)).2.isFinal = false)
    (m : String) :
    (Solver.after (Solver.start debug fuel root rv) (as.take k)).2 ≠ .protocolError m := by
  cases k with
  | zero => simp [Solver.after_nil, Solver.start, Request.isFinal] at hfin
  | succ j =>
    have hj : j < as.length := by
      by_contra hge
      -- past the end of `as` the run stands still, so `j` would be final already
      have := hmin j (by omega)
      rw [List.take_of_length_le (by omega)] at hfin this
      rw [hfin] at this; cases this
    rw [Solver.take_succ_snoc _ _ hj, Solver.after_snoc]
    obtain ⟨r, hr, htr⟩ := ht j as[j] (List.getElem?_eq_getElem hj)
    rw [Solver.trace_eq, Solver.traceFrom_getElem?_eq_some] at hr
    obtain ⟨-, hr⟩ := hr
    have hnf := hmin j (by omega)
    have hco := Solver.coherent_run (E := E) (M := M) (Pr := Pr) (S := S) debug fuel root rv (as.take j)
    have hpc := Solver.after_induction (fun _ _ _ => Solver.pickCoherent_step _ _) _
      (Solver.pickCoherent_start (E := E) (M := M) (Pr := Pr) (S := S) debug fuel root rv) (as.take j)
    generalize Solver.after (Solver.start (E := E) (M := M) (Pr := Pr) (S := S) debug fuel root rv)
      (as.take j) = x at hr hnf hco hpc ⊢
    obtain ⟨s, req⟩ := x
    simp only at hr hnf
    subst hr
    exact step_typed_core s req _ hco hpc hnf (htr hnf) m

end Core

section Lawful
variable {P S V M Pr E : Type} [DecidableEq P] [VersionSet S V] [DecidableEq S] [DecidableEq V]
  [LE Pr] [DecidableLE Pr] [LawfulVersionSet S V]

theorem step_typed_no_protocolError (W : World P S V M) (debug : Bool) (fuel : Nat) (root : P) (rv : V)
    (s : SolverState P S V M Pr) (req : Request P S V M Pr E) (a : Answer P S V M Pr E)
    (h : Reachable W debug fuel root rv (s, req)) (hfin : req.isFinal = false)
    (ht : AnswerTyped req a) (m : String) : (Solver.step s a).2 ≠ .protocolError m :=
  have hc := reachable_pickCoherent W debug fuel root rv _ h
  step_typed_core s req a hc.1 hc.2 hfin ht m

/-- a run all of whose answers (while `resolve` has not returned) are typed -/
def TypedRun (debug : Bool) (fuel : Nat) (root : P) (rv : V) (as : List (Answer P S V M Pr E)) : Prop :=
  ∀ (k : Nat) (a : Answer P S V M Pr E), as[k]? = some a →
    ∃ r, (Solver.trace debug fuel root rv as)[k]? = some r ∧ (r.isFinal = false → AnswerTyped r a)

/-- what `resolve` returned is what the registry decides (no `protocolError` alternative) -/
def Decided (W : World P S V M) (root : P) (rv : V) (r : Request P S V M Pr E) : Prop :=
  (∃ sel, r = .solution sel ∧ IsSolution W root rv (fun p => SmallMap.get sel p)) ∨
  ((∃ t, r = .noSolution t) ∧ ¬ ∃ σ : P → Option V, IsSolution W root rv σ)

/-- C05 + C02 for typed, well-behaved runs over a finite registry: within `N` provider calls `resolve`
returns `Ok(sel)` with `sel` a solution, or `NoSolution` and no solution exists — nothing else -/
theorem resolve_returns_typed [CanonicalEmpty S V] (W : World P S V M) (hW : W.SetsValid) (root : P) (rv : V)
    (fw : FiniteWorld W root rv) (debug : Bool) :
    ∃ N fuel0 : Nat, ∀ fuel, fuel0 ≤ fuel → ∀ as : List (Answer P S V M Pr E), N ≤ as.length →
      WellBehavedRun W debug fuel root rv as → TypedRun debug fuel root rv as →
      ∃ k, k ≤ N ∧
        (Solver.after (Solver.start debug fuel root rv) (as.take k)).2.isFinal = true ∧
        (∀ j, j < k → (Solver.after (Solver.start debug fuel root rv) (as.take j)).2.isFinal = false) ∧
        Decided W root rv (Solver.after (Solver.start debug fuel root rv) (as.take k)).2 := by
  obtain ⟨N, fuel0, hN⟩ := resolve_returns (Pr := Pr) (E := E) W hW root rv fw debug
  refine ⟨N, fuel0, fun fuel hfuel as hlen hwb htyped => ?_⟩
  obtain ⟨k, hk, hfin, hmin, hdec⟩ := hN fuel hfuel as hlen hwb
  exact ⟨k, hk, hfin, hmin, hdec.imp_right fun h => h.resolve_right fun ⟨m, hm⟩ =>
    typed_first_final_ne debug fuel root rv as htyped k hfin hmin m hm⟩

end Lawful

section AnyOrder
variable {P V M Pr E : Type} [DecidableEq P] [LinearOrder V] [LE Pr] [DecidableLE Pr]

theorem range_resolve_returns_typed (W : World P (Range V) V M) (hW : W.RangesWF) (root : P) (rv : V)
    (fr : FiniteRegistry W root) (debug : Bool) :
    ∃ N fuel0 : Nat, ∀ fuel, fuel0 ≤ fuel → ∀ as : List (Answer P (Range V) V M Pr E), N ≤ as.length →
      WellBehavedRun W debug fuel root rv as → TypedRun debug fuel root rv as →
      ∃ k, k ≤ N ∧
        (Solver.after (Solver.start debug fuel root rv) (as.take k)).2.isFinal = true ∧
        (∀ j, j < k → (Solver.after (Solver.start debug fuel root rv) (as.take j)).2.isFinal = false) ∧
        ((∃ sel, (Solver.after (Solver.start debug fuel root rv) (as.take k)).2 = .solution sel ∧
            IsSolution W root rv (fun p => SmallMap.get sel p)) ∨
         ((∃ t, (Solver.after (Solver.start debug fuel root rv) (as.take k)).2 = .noSolution t) ∧
            ¬ ∃ σ : P → Option V, IsSolution W root rv σ)) := by
  obtain ⟨N, fuel0, hN⟩ := range_resolve_returns (Pr := Pr) (E := E) W hW root rv fr debug
  refine ⟨N, fuel0, fun fuel hfuel as hlen hwb htyped => ?_⟩
  obtain ⟨k, hk, hfin, hmin, hdec⟩ := hN fuel hfuel as hlen hwb
  exact ⟨k, hk, hfin, hmin, hdec.imp_right fun h => h.resolve_right fun ⟨m, hm⟩ =>
    typed_first_final_ne debug fuel root rv as htyped k hfin hmin m hm⟩

end AnyOrder
end Pubgrub
