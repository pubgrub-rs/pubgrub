/-
Transport of the derivation-tree vocabulary (`Checkable`,
`Sound`, `TermsTrue`, `derivedNodes`, `IsTreeOf`, `TwoEdgesTo`, `collapseNoVersions`, leaf truth) along an
injective version-set homomorphism `h : VSetHom S V S' V'` with partial inverse `back` of `h.ι`.
-/
import PubgrubProofs.HomSolutions
import PubgrubProofs.SharedIds
import PubgrubProofs.TreeLink
import PubgrubProofs.CollapseSound

set_option linter.unusedSectionVars false

namespace Pubgrub
open VersionSet

section TreeTransport
variable {P S V S' V' M : Type} [DecidableEq P] {_ : VersionSet S V} {_ : VersionSet S' V'}
  [DecidableEq S] [DecidableEq S']

theorem External.terms_mapH (h : VSetHom S V S' V') (e : External P S V M) :
    (External.mapH h e).terms = termsMapH h e.terms := by
  cases e with
  | notRoot p v => simp [External.mapH, External.terms, termsMapH, h.map_singleton]
  | noVersions p s => simp [External.mapH, External.terms, termsMapH]
  | fromDependencyOf p s q t =>
    simp only [External.mapH, External.terms]
    have := Incompat.fromDependency_mapH (M := M) h p s (q, t)
    simp only at this
    rw [this]
    rfl
  | custom p s m => simp [External.mapH, External.terms, termsMapH]

theorem DerivationTree.terms_mapH (h : VSetHom S V S' V') (t : DerivationTree P S V M) :
    (DerivationTree.mapH h t).terms = termsMapH h t.terms := by
  cases t with
  | external e => exact External.terms_mapH h e
  | derived terms sid c1 c2 => rfl

theorem TermsTrue_mapH (h : VSetHom S V S' V') (σ : P → Option V) (l : List (P × Term S)) :
    TermsTrue (fun p => (σ p).map h.ι) (termsMapH h l) ↔ TermsTrue σ l := by
  constructor
  · intro H p t ht
    have := H p (Term.mapH h t) ((mem_termsMapH h l p _).2 ⟨t, ht, rfl⟩)
    simp only at this
    rw [Term.eval_mapH] at this
    exact this
  · intro H p t' ht'
    obtain ⟨t, ht, rfl⟩ := (mem_termsMapH h l p t').1 ht'
    simp only
    rw [Term.eval_mapH]
    exact H p t ht

theorem termsMapH_injective (h : VSetHom S V S' V') :
    Function.Injective (termsMapH (P := P) h) := by
  intro a b e
  unfold termsMapH at e
  induction a generalizing b with
  | nil => cases b <;> simp_all
  | cons x a ih =>
    cases b with
    | nil => simp at e
    | cons y b =>
      simp only [List.map_cons, List.cons.injEq, Prod.mk.injEq, Term.mapH_eq_iff] at e
      obtain ⟨⟨e1, e2⟩, e3⟩ := e
      rw [ih e3, Prod.ext e1 e2]

theorem External.mapH_injective (h : VSetHom S V S' V') :
    Function.Injective (External.mapH (P := P) (M := M) h) := by
  intro a b e
  cases a <;> cases b <;> simp_all [External.mapH]

theorem DerivationTree.mapH_injective (h : VSetHom S V S' V') :
    Function.Injective (DerivationTree.mapH (P := P) (M := M) h) := by
  intro a
  induction a with
  | external e =>
    intro b hb
    cases b with
    | external e' =>
      simp only [DerivationTree.mapH, DerivationTree.external.injEq] at hb
      rw [External.mapH_injective h hb]
    | derived => simp [DerivationTree.mapH] at hb
  | derived terms sid c1 c2 ih1 ih2 =>
    intro b hb
    cases b with
    | external e' => simp [DerivationTree.mapH] at hb
    | derived terms' sid' c1' c2' =>
      simp only [DerivationTree.mapH, DerivationTree.derived.injEq] at hb
      obtain ⟨e1, e2, e3, e4⟩ := hb
      rw [termsMapH_injective h e1, e2, ih1 e3, ih2 e4]

theorem DerivationTree.derivedNodes_mapH (h : VSetHom S V S' V') (t : DerivationTree P S V M) :
    (DerivationTree.mapH h t).derivedNodes =
      t.derivedNodes.map fun kt => (kt.1, DerivationTree.mapH h kt.2) := by
  induction t with
  | external e => rfl
  | derived terms sid c1 c2 ih1 ih2 =>
    simp only [DerivationTree.mapH, DerivationTree.derivedNodes, ih1, ih2, List.map_cons,
      List.map_append]

theorem DerivationTree.mem_derivedNodes_mapH (h : VSetHom S V S' V') (t : DerivationTree P S V M)
    (k : Option Nat) (t1 : DerivationTree P S V M) (h1 : (k, t1) ∈ t.derivedNodes) :
    (k, DerivationTree.mapH h t1) ∈ (DerivationTree.mapH h t).derivedNodes := by
  rw [DerivationTree.derivedNodes_mapH]
  exact List.mem_map.2 ⟨(k, t1), h1, rfl⟩

theorem External.TrueIn.pull (h : VSetHom S V S' V') (back : V' → Option V)
    (hback : ∀ v, back (h.ι v) = some v) (hback2 : ∀ v' v, back v' = some v → h.ι v = v')
    (W : World P S V M) (root : P) (rv : V) (e : External P S V M)
    (he : (External.mapH h e).TrueIn (World.mapH h back W) root (h.ι rv)) : e.TrueIn W root rv := by
  cases e with
  | notRoot p v =>
    obtain ⟨h1, h2⟩ := he
    exact ⟨h1, h.ι_inj _ _ h2⟩
  | noVersions p s =>
    intro v hv
    have := he (h.ι v) (List.mem_map.2 ⟨v, hv, rfl⟩)
    rw [h.map_contains] at this
    exact this
  | fromDependencyOf p s q t =>
    intro w hw
    obtain ⟨ds', hds', hmem⟩ := he (h.ι w) (by rw [h.map_contains]; exact hw)
    rw [World.mapH_deps h back hback] at hds'
    obtain ⟨ds, hds, rfl⟩ := DepsAnswer.mapH_available h _ _ hds'
    obtain ⟨t0, ht0, e0⟩ := (mem_depsMapH h ds q _).1 hmem
    rw [h.f_inj _ _ e0]
    exact ⟨ds, hds, ht0⟩
  | custom p s m =>
    obtain ⟨v', hs, hd⟩ := he
    simp only [World.mapH] at hd
    split at hd
    · rename_i v hv
      have hv' := hback2 v' v hv
      subst hv'
      refine ⟨v, ?_, ?_⟩
      · apply h.f_inj
        rw [hs, h.map_singleton]
      · cases hdw : W.deps p v with
        | unavailable m' =>
          rw [hdw] at hd
          simp only [DepsAnswer.mapH, DepsAnswer.unavailable.injEq] at hd
          rw [hd]
        | available ds =>
          rw [hdw] at hd
          simp [DepsAnswer.mapH] at hd
    · cases hd

theorem DerivationTree.Checkable.pull (h : VSetHom S V S' V') (back : V' → Option V)
    (hback : ∀ v, back (h.ι v) = some v) (hback2 : ∀ v' v, back v' = some v → h.ι v = v')
    (W : World P S V M) (root : P) (rv : V) (t : DerivationTree P S V M)
    (ht : (DerivationTree.mapH h t).Checkable (World.mapH h back W) root (h.ι rv)) :
    t.Checkable W root rv := by
  induction t with
  | external e =>
    cases ht with
    | external _ he => exact .external e (External.TrueIn.pull h back hback hback2 W root rv e he)
  | derived terms sid c1 c2 ih1 ih2 =>
    cases ht with
    | derived _ _ _ _ h1 h2 hent =>
      refine .derived terms sid c1 c2 (ih1 h1) (ih2 h2) ?_
      intro σ hσ
      have := hent (fun p => (σ p).map h.ι) ((TermsTrue_mapH h σ terms).2 hσ)
      rw [DerivationTree.terms_mapH, DerivationTree.terms_mapH, TermsTrue_mapH, TermsTrue_mapH] at this
      exact this

theorem Kind.toExternal_mapH (h : VSetHom S V S' V') (k : Kind P S V M) :
    (Kind.mapH h k).toExternal = k.toExternal.map (External.mapH h) := by
  cases k <;> rfl

theorem Kind.mapH_eq_derivedFrom (h : VSetHom S V S' V') (k : Kind P S V M) (a b : Nat)
    (hk : Kind.mapH h k = .derivedFrom a b) : k = .derivedFrom a b := by
  cases k <;> simp_all [Kind.mapH]

theorem IsTreeOf.pull (h : VSetHom S V S' V') (store : List (Incompat P S V M)) (sh : Nat → Bool)
    (id : Nat) (t' : DerivationTree P S' V' M)
    (ht : IsTreeOf (store.map (Incompat.mapH h)) sh id t') :
    ∀ t : DerivationTree P S V M, t' = DerivationTree.mapH h t → IsTreeOf store sh id t := by
  induction ht with
  | external id inc' e' hs hk =>
    intro t et
    rw [List.getElem?_map, Option.map_eq_some_iff] at hs
    obtain ⟨inc, hinc, rfl⟩ := hs
    cases t with
    | derived => simp [DerivationTree.mapH] at et
    | external e =>
      simp only [DerivationTree.mapH, DerivationTree.external.injEq] at et
      subst et
      rw [Incompat.mapH_kind, Kind.toExternal_mapH, Option.map_eq_some_iff] at hk
      obtain ⟨e0, he0, ee⟩ := hk
      rw [External.mapH_injective h ee] at he0
      exact .external id inc e hinc he0
  | derived id inc' a b c1' c2' hs hk _ _ ih1 ih2 =>
    intro t et
    rw [List.getElem?_map, Option.map_eq_some_iff] at hs
    obtain ⟨inc, hinc, rfl⟩ := hs
    cases t with
    | external e => simp [DerivationTree.mapH] at et
    | derived terms sid c1 c2 =>
      simp only [DerivationTree.mapH, DerivationTree.derived.injEq] at et
      obtain ⟨e1, e2, e3, e4⟩ := et
      have e1' : termsMapH h inc.terms = termsMapH h terms := e1
      rw [← termsMapH_injective h e1', ← e2]
      exact .derived id inc a b c1 c2 hinc (Kind.mapH_eq_derivedFrom h _ a b hk) (ih1 c1 e3) (ih2 c2 e4)

theorem store_causes_mapH (h : VSetHom S V S' V') (store : List (Incompat P S V M)) (i a b : Nat) :
    (∃ inc', (store.map (Incompat.mapH h))[i]? = some inc' ∧ inc'.causes = some (a, b)) ↔
      ∃ inc, store[i]? = some inc ∧ inc.causes = some (a, b) := by
  simp only [List.getElem?_map, Option.map_eq_some_iff]
  constructor
  · rintro ⟨_, ⟨inc, hinc, rfl⟩, hc⟩
    exact ⟨inc, hinc, (Incompat.causes_mapH h inc).symm.trans hc⟩
  · rintro ⟨inc, hinc, hc⟩
    exact ⟨_, ⟨inc, hinc, rfl⟩, (Incompat.causes_mapH h inc).trans hc⟩

theorem store_hasCauses_mapH (h : VSetHom S V S' V') (store : List (Incompat P S V M)) (i : Nat) :
    (∃ inc' a b, (store.map (Incompat.mapH h))[i]? = some inc' ∧ inc'.causes = some (a, b)) ↔
      ∃ inc a b, store[i]? = some inc ∧ inc.causes = some (a, b) := by
  constructor
  · rintro ⟨inc', a, b, hi⟩
    exact ((store_causes_mapH h store i a b).1 ⟨inc', hi⟩).imp fun _ hi' => ⟨a, b, hi'⟩
  · rintro ⟨inc, a, b, hi⟩
    exact ((store_causes_mapH h store i a b).2 ⟨inc, hi⟩).imp fun _ hi' => ⟨a, b, hi'⟩

theorem IdReach_mapH (h : VSetHom S V S' V') (store : List (Incompat P S V M)) (top k : Nat) :
    IdReach (store.map (Incompat.mapH h)) top k ↔ IdReach store top k := by
  constructor
  · intro hr
    induction hr with
    | top => exact .top
    | left i a b inc' _ hs hc ih =>
      obtain ⟨inc, hs', hc'⟩ := (store_causes_mapH h store i a b).1 ⟨inc', hs, hc⟩
      exact .left i a b inc ih hs' hc'
    | right i a b inc' _ hs hc ih =>
      obtain ⟨inc, hs', hc'⟩ := (store_causes_mapH h store i a b).1 ⟨inc', hs, hc⟩
      exact .right i a b inc ih hs' hc'
  · intro hr
    induction hr with
    | top => exact .top
    | left i a b inc _ hs hc ih =>
      obtain ⟨inc', hs', hc'⟩ := (store_causes_mapH h store i a b).2 ⟨inc, hs, hc⟩
      exact .left i a b inc' ih hs' hc'
    | right i a b inc _ hs hc ih =>
      obtain ⟨inc', hs', hc'⟩ := (store_causes_mapH h store i a b).2 ⟨inc, hs, hc⟩
      exact .right i a b inc' ih hs' hc'

theorem IsEdgeTo_mapH (h : VSetHom S V S' V') (store : List (Incompat P S V M)) (top k : Nat)
    (e : Nat × Bool) :
    IsEdgeTo (store.map (Incompat.mapH h)) top k e ↔ IsEdgeTo store top k e := by
  unfold IsEdgeTo
  rw [IdReach_mapH]
  constructor
  · rintro ⟨hr, inc', a, b, hs, hc, hk⟩
    obtain ⟨inc, hs', hc'⟩ := (store_causes_mapH h store e.1 a b).1 ⟨inc', hs, hc⟩
    exact ⟨hr, inc, a, b, hs', hc', hk⟩
  · rintro ⟨hr, inc, a, b, hs, hc, hk⟩
    obtain ⟨inc', hs', hc'⟩ := (store_causes_mapH h store e.1 a b).2 ⟨inc, hs, hc⟩
    exact ⟨hr, inc', a, b, hs', hc', hk⟩

theorem TwoEdgesTo_mapH (h : VSetHom S V S' V') (store : List (Incompat P S V M)) (top k : Nat) :
    TwoEdgesTo (store.map (Incompat.mapH h)) top k ↔ TwoEdgesTo store top k := by
  unfold TwoEdgesTo
  simp only [IsEdgeTo_mapH]

theorem DerivationTree.mergeNoVersions_mapH (h : VSetHom S V S' V') (t : DerivationTree P S V M)
    (p : P) (set : S) :
    (DerivationTree.mapH h t).mergeNoVersions p (h.f set) =
      (t.mergeNoVersions p set).map (Option.map (DerivationTree.mapH h)) := by
  cases t with
  | derived terms sid c1 c2 => rfl
  | external e =>
    cases e with
    | notRoot q v => rfl
    | noVersions q s => rfl
    | custom q s m => rfl
    | fromDependencyOf p1 r1 p2 r2 =>
      simp only [DerivationTree.mapH, External.mapH, DerivationTree.mergeNoVersions]
      split
      · simp [DerivationTree.mapH, External.mapH, h.map_union]
      · simp [DerivationTree.mapH, External.mapH, h.map_union]

theorem DerivationTree.mapH_ne_noVersions (h : VSetHom S V S' V') (c : DerivationTree P S V M)
    (hc : ∀ (p : P) (r : S), c = .external (.noVersions p r) → False) :
    ∀ (p : P) (r : S'), DerivationTree.mapH h c = .external (.noVersions p r) → False := by
  intro p r e
  cases c with
  | derived => simp [DerivationTree.mapH] at e
  | external x =>
    cases x with
    | noVersions q s => exact hc q s rfl
    | notRoot q v => simp [DerivationTree.mapH, External.mapH] at e
    | fromDependencyOf => simp [DerivationTree.mapH, External.mapH] at e
    | custom => simp [DerivationTree.mapH, External.mapH] at e

theorem Within_exists_push (h : VSetHom S V S' V') (back : V' → Option V) (W : World P S V M)
    (σ : P → Option V) (hw : Within W.Exists σ) :
    Within (World.mapH h back W).Exists (fun p => (σ p).map h.ι) := by
  intro p v' hv'
  simp only [Option.map_eq_some_iff] at hv'
  obtain ⟨v, hv, rfl⟩ := hv'
  exact List.mem_map.2 ⟨v, hw p v hv, rfl⟩

theorem DerivationTree.Sound.pull (h : VSetHom S V S' V') (back : V' → Option V)
    (W : World P S V M) (t : DerivationTree P S V M)
    (ht : (DerivationTree.mapH h t).Sound (World.mapH h back W).Exists) : t.Sound W.Exists := by
  induction t with
  | external e => exact .external e
  | derived terms sid c1 c2 ih1 ih2 =>
    cases ht with
    | derived _ _ _ _ h1 h2 hent =>
      refine .derived terms sid c1 c2 (ih1 h1) (ih2 h2) ?_
      intro σ hw hσ
      obtain ⟨pr, hpr, htrue⟩ := hent (fun p => (σ p).map h.ι) (Within_exists_push h back W σ hw)
        ((TermsTrue_mapH h σ terms).2 hσ)
      simp only [List.mem_cons, List.not_mem_nil, or_false] at hpr
      rcases hpr with rfl | rfl
      · rw [DerivationTree.terms_mapH, TermsTrue_mapH] at htrue
        exact ⟨_, by simp, htrue⟩
      · rw [DerivationTree.terms_mapH, TermsTrue_mapH] at htrue
        exact ⟨_, by simp, htrue⟩

theorem External.TrueInExisting.pull (h : VSetHom S V S' V') (back : V' → Option V)
    (hback : ∀ v, back (h.ι v) = some v)
    (W : World P S V M) (root : P) (rv : V) (e : External P S V M)
    (he : (External.mapH h e).TrueInExisting (World.mapH h back W) root (h.ι rv)) :
    e.TrueInExisting W root rv := by
  cases e with
  | notRoot p v =>
    obtain ⟨h1, h2⟩ := he
    exact ⟨h1, h.ι_inj _ _ h2⟩
  | noVersions p s =>
    intro v hv
    have := he (h.ι v) (List.mem_map.2 ⟨v, hv, rfl⟩)
    rw [h.map_contains] at this
    exact this
  | fromDependencyOf p s q t =>
    intro w hwv hw
    obtain ⟨ds', t0', hds', hmem, hall⟩ := he (h.ι w) (List.mem_map.2 ⟨w, hwv, rfl⟩)
      (by rw [h.map_contains]; exact hw)
    rw [World.mapH_deps h back hback] at hds'
    obtain ⟨ds, hds, rfl⟩ := DepsAnswer.mapH_available h _ _ hds'
    obtain ⟨t0, ht0, rfl⟩ := (mem_depsMapH h ds q _).1 hmem
    refine ⟨ds, t0, hds, ht0, ?_⟩
    intro x hx
    have := hall (h.ι x) (List.mem_map.2 ⟨x, hx, rfl⟩)
    rw [h.map_contains, h.map_contains] at this
    exact this
  | custom p s m =>
    intro w hwv hw
    have hd := he (h.ι w) (List.mem_map.2 ⟨w, hwv, rfl⟩) (by rw [h.map_contains]; exact hw)
    rw [World.mapH_deps h back hback] at hd
    cases hdw : W.deps p w with
    | unavailable m' =>
      rw [hdw] at hd
      simp only [DepsAnswer.mapH, DepsAnswer.unavailable.injEq] at hd
      rw [hd]
    | available ds =>
      rw [hdw] at hd
      simp [DepsAnswer.mapH] at hd

theorem DerivationTree.externals_mapH (h : VSetHom S V S' V') (t : DerivationTree P S V M) :
    (DerivationTree.mapH h t).externals = t.externals.map (External.mapH h) := by
  induction t with
  | external e => rfl
  | derived terms sid c1 c2 ih1 ih2 =>
    simp only [DerivationTree.mapH, DerivationTree.externals, ih1, ih2, List.map_append]

theorem DerivationTree.LeavesTrueExisting.pull (h : VSetHom S V S' V') (back : V' → Option V)
    (hback : ∀ v, back (h.ι v) = some v)
    (W : World P S V M) (root : P) (rv : V) (t : DerivationTree P S V M)
    (ht : (DerivationTree.mapH h t).LeavesTrueExisting (World.mapH h back W) root (h.ι rv)) :
    t.LeavesTrueExisting W root rv := by
  intro e he
  apply External.TrueInExisting.pull h back hback W root rv e
  apply ht
  rw [DerivationTree.externals_mapH]
  exact List.mem_map.2 ⟨e, he, rfl⟩

theorem DerivationTree.isNoVersions_mapH (h : VSetHom S V S' V') (t : DerivationTree P S V M) :
    (DerivationTree.mapH h t).isNoVersions = t.isNoVersions := by
  cases t with
  | derived => rfl
  | external e => cases e <;> rfl

theorem DerivationTree.isNoVersionsOrCustom_mapH (h : VSetHom S V S' V') (t : DerivationTree P S V M) :
    (DerivationTree.mapH h t).isNoVersionsOrCustom = t.isNoVersionsOrCustom := by
  cases t with
  | derived => rfl
  | external e => cases e <;> rfl

theorem DerivationTree.NoVersionsOnlyBesideLeaf_mapH (h : VSetHom S V S' V')
    (t : DerivationTree P S V M) :
    (DerivationTree.mapH h t).NoVersionsOnlyBesideLeaf ↔ t.NoVersionsOnlyBesideLeaf := by
  induction t with
  | external e => exact Iff.rfl
  | derived terms sid c1 c2 ih1 ih2 =>
    simp only [DerivationTree.mapH, DerivationTree.NoVersionsOnlyBesideLeaf,
      DerivationTree.isNoVersions_mapH, DerivationTree.isNoVersionsOrCustom_mapH, ih1, ih2]

end TreeTransport

section Collapse
variable {P S V S' V' M : Type} [DecidableEq P] [VersionSet S V] [VersionSet S' V']
  [DecidableEq S] [DecidableEq S']

theorem DerivationTree.collapseNoVersions_mapH (h : VSetHom S V S' V') (t : DerivationTree P S V M) :
    (DerivationTree.mapH h t).collapseNoVersions =
      t.collapseNoVersions.map (DerivationTree.mapH h) := by
  induction t with
  | external e => rfl
  | derived terms sid c1 c2 ih1 ih2 =>
    by_cases h1 : ∃ p r, c1 = .external (.noVersions p r)
    · obtain ⟨p, r, rfl⟩ := h1
      simp only [DerivationTree.mapH, External.mapH, DerivationTree.collapseNoVersions]
      rw [ih2]
      cases hc2 : c2.collapseNoVersions with
      | error e => rfl
      | ok c2' =>
        simp only [exceptMap_ok, DerivationTree.mergeNoVersions_mapH]
        cases hm : c2'.mergeNoVersions p r with
        | error e => rfl
        | ok o => cases o <;> rfl
    · have h1' : ∀ (p : P) (r : S), c1 = .external (.noVersions p r) → False :=
        fun p r e => h1 ⟨p, r, e⟩
      by_cases h2 : ∃ p r, c2 = .external (.noVersions p r)
      · obtain ⟨p, r, rfl⟩ := h2
        simp only [DerivationTree.mapH, External.mapH]
        rw [DerivationTree.collapseNoVersions.eq_3 _ _ _ _ _ h1',
          DerivationTree.collapseNoVersions.eq_3 _ _ _ _ _ (DerivationTree.mapH_ne_noVersions h c1 h1'),
          ih1]
        cases hc1 : c1.collapseNoVersions with
        | error e => rfl
        | ok c1' =>
          simp only [exceptMap_ok, DerivationTree.mergeNoVersions_mapH]
          cases hm : c1'.mergeNoVersions p r with
          | error e => rfl
          | ok o => cases o <;> rfl
      · have h2' : ∀ (p : P) (r : S), c2 = .external (.noVersions p r) → False :=
          fun p r e => h2 ⟨p, r, e⟩
        simp only [DerivationTree.mapH]
        rw [DerivationTree.collapseNoVersions.eq_4 _ _ _ _ h1' h2',
          DerivationTree.collapseNoVersions.eq_4 _ _ _ _ (DerivationTree.mapH_ne_noVersions h c1 h1')
            (DerivationTree.mapH_ne_noVersions h c2 h2'), ih1, ih2]
        cases c1.collapseNoVersions <;> cases c2.collapseNoVersions <;> rfl

end Collapse

section CollapseOk
variable {P S V S' V' M : Type} [DecidableEq P] {_ : VersionSet S V} {_ : VersionSet S' V'}
  [DecidableEq S] [DecidableEq S']

theorem DerivationTree.collapseNoVersions_mapH_ok (h : VSetHom S V S' V') (t t' : DerivationTree P S V M)
    (hc : t.collapseNoVersions = .ok t') :
    (DerivationTree.mapH h t).collapseNoVersions = .ok (DerivationTree.mapH h t') := by
  rw [DerivationTree.collapseNoVersions_mapH, hc]; rfl

end CollapseOk
end Pubgrub
