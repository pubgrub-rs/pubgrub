/-
The run-level invariant `RInvK` (`StoreCK` of the store, `RW` of the partial solution) is kept by every
step of the coroutine; a tree built from a store with `StoreCK` has no `NoVersions` leaf beside a
`NotRoot` leaf.
-/
import PubgrubProofs.CollapseLoops

set_option linter.unusedSectionVars false

namespace Pubgrub
open VersionSet

section
variable {P S V M : Type} [DecidableEq P] [VersionSet S V] [DecidableEq S] [LawfulVersionSet S V]

theorem IsTreeOf.kind_noVersions {store : List (Incompat P S V M)} {sh : Nat → Bool} {id : Nat}
    {t : DerivationTree P S V M} (h : IsTreeOf store sh id t) {inc : Incompat P S V M}
    (hs : store[id]? = some inc) (hn : t.isNoVersions = true) : inc.kind.isNoVersionsK = true := by
  cases h with
  | external _ inc' e hs' hke =>
    rw [hs] at hs'; injection hs' with hs'; subst hs'
    cases hk : inc.kind with
    | noVersions p s => rfl
    | notRoot p v =>
      rw [hk] at hke; simp only [Kind.toExternal, Option.some.injEq] at hke
      subst hke; simp [DerivationTree.isNoVersions] at hn
    | fromDependencyOf p s q t' =>
      rw [hk] at hke; simp only [Kind.toExternal, Option.some.injEq] at hke
      subst hke; simp [DerivationTree.isNoVersions] at hn
    | custom p s m =>
      rw [hk] at hke; simp only [Kind.toExternal, Option.some.injEq] at hke
      subst hke; simp [DerivationTree.isNoVersions] at hn
    | derivedFrom a b => rw [hk] at hke; simp [Kind.toExternal] at hke
  | derived _ inc' a b c1 c2 hs' hkd ha hb => simp [DerivationTree.isNoVersions] at hn

theorem IsTreeOf.kind_notRoot {store : List (Incompat P S V M)} {sh : Nat → Bool} {id : Nat}
    {t : DerivationTree P S V M} (h : IsTreeOf store sh id t) {inc : Incompat P S V M}
    (hs : store[id]? = some inc) {p : P} {v : V} (hn : t = .external (.notRoot p v)) :
    inc.kind.isNotRootK = true := by
  subst hn
  cases h with
  | external _ inc' e hs' hke =>
    rw [hs] at hs'; injection hs' with hs'; subst hs'
    cases hk : inc.kind with
    | notRoot p v => rfl
    | noVersions p s => rw [hk] at hke; simp [Kind.toExternal] at hke
    | fromDependencyOf p s q t' => rw [hk] at hke; simp [Kind.toExternal] at hke
    | custom p s m => rw [hk] at hke; simp [Kind.toExternal] at hke
    | derivedFrom a b => rw [hk] at hke; simp [Kind.toExternal] at hke

theorem IsTreeOf.no_noVersionsBesideNotRoot {root : P} {rv : V} {store : List (Incompat P S V M)}
    (hck : StoreCK root rv store) {sh : Nat → Bool} {id : Nat} {t : DerivationTree P S V M}
    (h : IsTreeOf store sh id t) : ¬ t.NoVersionsBesideNotRoot := by
  induction h with
  | external id inc e hs hke => simp [DerivationTree.NoVersionsBesideNotRoot]
  | derived id inc a b c1 c2 hs hkd ha hb ih1 ih2 =>
    have hj := hck id inc hs
    unfold Incompat.CK at hj
    rw [hkd] at hj
    simp only at hj
    obtain ⟨ia, ib, hia, hib, hn⟩ := hj
    simp only [DerivationTree.NoVersionsBesideNotRoot, not_or]
    refine ⟨?_, ?_, ih1, ih2⟩
    · rintro ⟨h1, p, v, h2⟩
      exact hn (Or.inl ⟨ha.kind_noVersions hia h1, hb.kind_notRoot hib h2⟩)
    · rintro ⟨h1, p, v, h2⟩
      exact hn (Or.inr ⟨ha.kind_notRoot hia h2, hb.kind_noVersions hib h1⟩)

end

variable {P S V M Pr E : Type} [DecidableEq P] [VersionSet S V] [DecidableEq S] [DecidableEq V]
  [LE Pr] [DecidableLE Pr] [LawfulVersionSet S V]

/-- `StoreCK` of the store and `RW` of the partial solution in every unfinished state; `StoreCK` of the
store a `noSolution` tree was built from -/
structure RInvK (root : P) (rv : V) (x : SolverState P S V M Pr × Request P S V M Pr E) : Prop where
  live : x.1.phase ≠ .finished → StoreCK root rv x.1.st.store ∧ x.1.st.ps.RW root rv
  noSol : ∀ tree, x.2 = .noSolution tree → StoreCK root rv x.1.st.store

theorem rinvK_finish (root : P) (rv : V) (s : SolverState P S V M Pr) (r : Request P S V M Pr E)
    (hr : match r with | .noSolution _ => False | _ => True) : RInvK root rv (Solver.finish s r) :=
  ⟨fun h => absurd rfl h, fun tree h => by rw [show r = _ from h] at hr; exact hr.elim⟩

theorem rinvK_live (root : P) (rv : V) {x : SolverState P S V M Pr × Request P S V M Pr E}
    (h1 : StoreCK root rv x.1.st.store) (h2 : x.1.st.ps.RW root rv) (hr : x.2.isFinal = false) :
    RInvK root rv x :=
  ⟨fun _ => ⟨h1, h2⟩, fun tree h => by rw [h] at hr; cases hr⟩

theorem rinvK_loopAgain (root : P) (rv : V) (s : SolverState P S V M Pr) (st : State P S V M Pr)
    (h1 : StoreCK root rv st.store) (h2 : st.ps.RW root rv) :
    RInvK (E := E) root rv (Solver.loopAgain s st) :=
  rinvK_live root rv h1 h2 rfl

theorem rinvK_start (debug : Bool) (fuel : Nat) (root : P) (rv : V) :
    RInvK root rv (Solver.start (Pr := Pr) (E := E) (M := M) (S := S) debug fuel root rv) :=
  rinvK_live root rv (storeCK_init root rv) (PartialSolution.rw_empty root rv) rfl

theorem rinvK_step (ce : CanonEmpty S V) (W : World P S V M) (root : P) (rv : V)
    (s : SolverState P S V M Pr) (req : Request P S V M Pr E) (a : Answer P S V M Pr E)
    (h0 : RInv W root rv (s, req)) (h1 : RInv' (s, req)) (hT : RInvT root rv (s, req))
    (hN : RInvN (s, req)) (h : RInvK root rv (s, req)) :
    RInvK root rv (Solver.step s a) := by
  have hs : SInv W root rv s.st := h0.sinv
  by_cases hlive : s.phase = .finished
  · rw [Solver.step_finished s a hlive]
    exact ⟨fun hn => absurd hlive hn, fun tree h' => by cases h'⟩
  obtain ⟨hp, _⟩ := h1.live hlive
  obtain ⟨hck, hrw⟩ := h.live hlive
  have hup := State.unitPropagation_carries (State.carries_ck ce W root rv) s.fuel s.st s.next hs hp
    (hT.live hlive) ⟨hN hlive, hrw, hck⟩
  have hspec := Solver.step_spec s a
  generalize Solver.step s a = x at hspec
  induction hspec with
  | finished _ hph => exact absurd hph hlive
  | noSolution _ hu _ => exact ⟨fun hn => absurd rfl hn, fun _ _ => (hup.of_ok hu).2.2⟩
  | nothingToPrioritize _ hu _ | firstPrioritize _ hu _ =>
    obtain ⟨_, hrw1, hck1⟩ := hup.of_ok hu
    exact rinvK_live root rv hck1 hrw1 rfl
  | lastPriority | nextPriority | toFetch => exact rinvK_live root rv hck hrw rfl
  | toChoose => exact rinvK_live root rv hck (hrw.congr rfl) rfl
  | @noVersions p t inc st hph hinc hadd =>
    obtain ⟨_, hterm, _⟩ := h1.choosing p t hph
    have hick : inc.CK root rv s.st.store := by
      cases t with
      | neg r => cases hinc
      | pos r =>
        injection hinc with hinc; subst hinc
        intro (hroot : p = root)
        subst hroot
        simp only [PartialSolution.termIntersectionForPackage, Option.map_eq_some_iff] at hterm
        obtain ⟨pa, hpa, htm⟩ := hterm
        obtain ⟨s', hs', hc⟩ := root_term hp (hT.live hlive) (hN hlive) hrw hpa
        rw [htm] at hs'
        injection hs' with hs'; subst hs'; exact hc
    exact rinvK_loopAgain root rv s st (State.addIncompatibility_ck hadd hck hick)
      (hrw.congr (by rw [(State.addIncompatibility_pinv hadd hp).2]))
  | knownVersion _ _ _ hps =>
    exact rinvK_loopAgain root rv _ _ hck (PartialSolution.addDecision_rw hrw hps)
  | @unavailable p v st m _ hadd =>
    exact rinvK_loopAgain root rv s st (State.addIncompatibility_ck hadd hck (Incompat.ck_customVersion p v m))
      (hrw.congr (by rw [(State.addIncompatibility_pinv hadd hp).2]))
  | available _ _ hadd hps =>
    obtain ⟨_, eps⟩ := State.addIncompatibilityFromDependencies_pinv hadd hp
    have hck1 := State.addIncompatibilityFromDependencies_ck hadd hck
    exact rinvK_loopAgain root rv _ _ hck1 (PartialSolution.addVersion_rw (hrw.congr (by rw [eps])) hps)
  | _ => exact rinvK_finish root rv _ _ trivial

end Pubgrub
