/-
Termination of `resolve` (property C05: "returns Ok or NoSolution after a bounded number of provider
calls"; property C02: strategy independence): definitions only.
-/
import PubgrubProofs.SolverDefs

namespace Pubgrub
open VersionSet

section
variable {P S V M : Type} [DecidableEq P] [VersionSet S V] [DecidableEq S]

/-- the sets the solver can ever build for package `p`: dependency sets on `p` declared by offered
versions of the packages `pkgs`, singletons of offered
versions of `p` and of the requested root version, closed under the set operations -/
inductive GeneratedSet (W : World P S V M) (root : P) (rv : V) (pkgs : List P) (p : P) : S → Prop
  | dep (q : P) (v : V) (ds : List (P × S)) (s : S) :
      q ∈ pkgs → v ∈ W.versions q → W.deps q v = .available ds → (p, s) ∈ ds →
      GeneratedSet W root rv pkgs p s
  | version (v : V) : v ∈ W.versions p → GeneratedSet W root rv pkgs p (singleton v)
  | rootVersion : p = root → GeneratedSet W root rv pkgs p (singleton rv)
  | empty : GeneratedSet W root rv pkgs p (empty : S)
  | full : GeneratedSet W root rv pkgs p (full : S)
  | complement (a : S) : GeneratedSet W root rv pkgs p a → GeneratedSet W root rv pkgs p (complement a)
  | intersection (a b : S) : GeneratedSet W root rv pkgs p a → GeneratedSet W root rv pkgs p b →
      GeneratedSet W root rv pkgs p (intersection a b)
  | union (a b : S) : GeneratedSet W root rv pkgs p a → GeneratedSet W root rv pkgs p b →
      GeneratedSet W root rv pkgs p (union a b)

/-- The registry is finite: finitely many packages are involved (the root and, transitively, the
dependencies of offered versions; `versions p` is a list, hence finite, already), and for each package finitely many
*test versions* tell apart all the sets the solver can build for it (for any finite family of sets such
test versions exist — one representative per non-empty cell of the Venn diagram; for `Range` take the
bounds and a point in every gap). -/
structure FiniteWorld (W : World P S V M) (root : P) (rv : V) where
  pkgs : List P
  root_mem : root ∈ pkgs
  deps_mem : ∀ p v ds, v ∈ W.versions p → W.deps p v = .available ds → ∀ d ∈ ds, d.1 ∈ pkgs
  tests : P → List V
  separated : ∀ p a b, GeneratedSet W root rv pkgs p a → GeneratedSet W root rv pkgs p b →
    (∀ v ∈ tests p, contains a v = contains b v) → ∀ v : V, contains a v = contains b v

end

section
variable {P S V M Pr E : Type} [DecidableEq P] [VersionSet S V] [DecidableEq S] [DecidableEq V]
  [LE Pr] [DecidableLE Pr]

/-- a run whose every answer, as long as `resolve` has not returned, is consistent with the world and
well-behaved (no callback error, `choose_version` inside the offered set) -/
def WellBehavedRun (W : World P S V M) (debug : Bool) (fuel : Nat) (root : P) (rv : V)
    (as : List (Answer P S V M Pr E)) : Prop :=
  ∀ (k : Nat) (a : Answer P S V M Pr E), as[k]? = some a →
    ∃ r, (Solver.trace debug fuel root rv as)[k]? = some r ∧
      (r.isFinal = false → AnswerOK W r a ∧ AnswerWellBehaved r a)

end
end Pubgrub
