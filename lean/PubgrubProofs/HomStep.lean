/-
`Solver.step` commutes with a homomorphism of version sets, phase by phase (`PubgrubModel/Solver.lean`).
-/
import PubgrubProofs.HomCore

set_option linter.unusedSectionVars false

namespace Pubgrub
open VersionSet

theorem ite_eq_map {α β : Type} {c : Prop} [Decidable c] (f : α → β) {a' b' : β} {a b : α}
    (ha : c → a' = f a) (hb : ¬c → b' = f b) : (if c then a' else b') = f (if c then a else b) := by
  split
  · exact ha ‹_›
  · exact hb ‹_›

section SolverLemmas
variable {P S V S' V' M Pr E : Type} [DecidableEq P] {_ : VersionSet S V} {_ : VersionSet S' V'}
  [DecidableEq S] [DecidableEq V] [DecidableEq S'] [DecidableEq V'] [LE Pr] [DecidableLE Pr]

theorem SolverState.mapH_mk (h : VSetHom S V S' V') (st : State P S V M Pr) (added : List (P × V)) (next : P)
    (phase : Phase P S V Pr) (fuel : Nat) :
    SolverState.mapH h ⟨st, added, next, phase, fuel⟩ =
      ⟨State.mapH h st, added.map fun kv => (kv.1, h.ι kv.2), next, Phase.mapH h phase, fuel⟩ := rfl

/- In each lemma below `unfold Solver.step` followed by `dsimp only` with the constructors' images selects
the branch of `step` on both sides; `simp only [Solver.step]` does the same at several times the price. -/

theorem step_cancel_ok (h : VSetHom S V S' V') (st : State P S V M Pr) (added : List (P × V)) (next : P)
    (fuel : Nat) :
    Solver.step (E := E) (SolverState.mapH h ⟨st, added, next, .cancel, fuel⟩) (Answer.mapH h .ok) =
      Prod.map (SolverState.mapH h) (Request.mapH h)
        (Solver.step (E := E) ⟨st, added, next, .cancel, fuel⟩ .ok) := by
  unfold Solver.step
  dsimp only [SolverState.mapH, Phase.mapH, Answer.mapH]
  rw [State.unitPropagation_mapH]
  cases st.unitPropagation fuel next with
  | error f => rfl
  | ok x =>
    obtain ⟨st1, o⟩ := x
    cases o with
    | some terminal =>
      dsimp only [exceptMap_ok]
      rw [State.buildDerivationTree_mapH]
      cases st1.buildDerivationTree terminal <;> rfl
    | none =>
      dsimp only [exceptMap_ok, State.mapH_ps]
      rw [PartialSolution.toPrioritize_mapH]
      cases st1.ps.toPrioritize with
      | error f => rfl
      | ok l => cases l <;> rfl

theorem step_prioritizing (h : VSetHom S V S' V') (st : State P S V M Pr) (added : List (P × V)) (next : P)
    (fuel : Nat) (cur : P × S) (rest : List (P × S)) (acc : List (P × Pr)) (pr : Pr) :
    Solver.step (E := E) (SolverState.mapH h ⟨st, added, next, .prioritizing cur rest acc, fuel⟩)
        (Answer.mapH h (.priority pr)) =
      Prod.map (SolverState.mapH h) (Request.mapH h)
        (Solver.step (E := E) ⟨st, added, next, .prioritizing cur rest acc, fuel⟩ (.priority pr)) := by
  cases rest <;> rfl

theorem step_picking (h : VSetHom S V S' V') (st : State P S V M Pr) (added : List (P × V)) (next : P)
    (fuel : Nat) (acc : List (P × Pr)) (o : Option P) :
    Solver.step (E := E) (SolverState.mapH h ⟨st, added, next, .picking acc, fuel⟩)
        (Answer.mapH h (.picked o)) =
      Prod.map (SolverState.mapH h) (Request.mapH h)
        (Solver.step (E := E) ⟨st, added, next, .picking acc, fuel⟩ (.picked o)) := by
  unfold Solver.step
  dsimp only [SolverState.mapH, Phase.mapH, Answer.mapH, State.mapH_ps]
  rw [PartialSolution.afterPrioritize_mapH]
  cases o with
  | none =>
    dsimp only [PartialSolution.mapH_queue]
    refine ite_eq_map _ (fun _ => rfl) fun _ => ?_
    rw [PartialSolution.extractSolution_mapH]
    cases (st.ps.afterPrioritize acc).extractSolution <;> rfl
  | some p =>
    dsimp only [PartialSolution.mapH_queue]
    refine ite_eq_map _ (fun _ => rfl) fun _ => ?_
    simp only [PartialSolution.termIntersectionForPackage, PartialSolution.getPA,
      PartialSolution.mapH_assignments, SmallMap.get_mapVals, Option.map_map]
    cases SmallMap.get (st.ps.afterPrioritize acc).assignments p with
    | none => rfl
    | some pa =>
      dsimp only [Option.map_some, Function.comp, PackageAssignments.mapH_inter]
      rw [AssignInter.term_mapH, Incompat.unwrapPositive_mapH]
      cases Incompat.unwrapPositive pa.inter.term <;> rfl

theorem contains_added_mapH (h : VSetHom S V S' V') (l : List (P × V)) (p : P) (v : V) :
    (l.map fun kv => (kv.1, h.ι kv.2)).contains (p, h.ι v) = l.contains (p, v) := by
  rw [Bool.eq_iff_iff]
  simp only [List.contains_iff_mem, List.mem_map, Prod.mk.injEq]
  constructor
  · rintro ⟨⟨q, w⟩, hm, hq, hw⟩
    simp only at hq hw
    rw [h.ι_eq_iff] at hw
    subst hq hw
    exact hm
  · intro hm
    exact ⟨(p, v), hm, rfl, rfl⟩

theorem step_choosing (h : VSetHom S V S' V') (st : State P S V M Pr) (added : List (P × V)) (next : P)
    (fuel : Nat) (p : P) (t : Term S) (v : Option V) :
    Solver.step (E := E) (SolverState.mapH h ⟨st, added, next, .choosing p t, fuel⟩)
        (Answer.mapH h (.version v)) =
      Prod.map (SolverState.mapH h) (Request.mapH h)
        (Solver.step (E := E) ⟨st, added, next, .choosing p t, fuel⟩ (.version v)) := by
  cases v with
  | none =>
    unfold Solver.step
    dsimp only [SolverState.mapH, Phase.mapH, Answer.mapH, Option.map_none]
    rw [Incompat.noVersions_mapH]
    cases Incompat.noVersions (V := V) (M := M) p t with
    | error f => rfl
    | ok inc =>
      dsimp only [exceptMap_ok]
      rw [State.addIncompatibility_mapH]
      cases st.addIncompatibility inc <;> rfl
  | some v =>
    unfold Solver.step
    dsimp only [SolverState.mapH, Phase.mapH, Answer.mapH, Option.map_some]
    rw [Term.contains_mapH, contains_added_mapH]
    refine ite_eq_map _ (fun _ => rfl) fun _ => ?_
    refine ite_eq_map _ (fun hc => ?_) fun hc => ?_
    · rw [if_pos hc, if_pos hc]
      simp only [Prod.map, SolverState.mapH, List.map_append, List.map_cons, List.map_nil]
      rfl
    · rw [if_neg hc, if_neg hc, State.mapH_ps, State.mapH_debug, PartialSolution.addDecision_mapH]
      cases st.ps.addDecision st.debug p v <;> rfl

theorem step_fetching_unavailable (h : VSetHom S V S' V') (st : State P S V M Pr) (added : List (P × V))
    (next : P) (fuel : Nat) (p : P) (v : V) (m : M) :
    Solver.step (E := E) (SolverState.mapH h ⟨st, added, next, .fetching p v, fuel⟩)
        (Answer.mapH h (.unavailable m)) =
      Prod.map (SolverState.mapH h) (Request.mapH h)
        (Solver.step (E := E) ⟨st, added, next, .fetching p v, fuel⟩ (.unavailable m)) := by
  unfold Solver.step
  dsimp only [SolverState.mapH, Phase.mapH, Answer.mapH]
  rw [Incompat.customVersion_mapH, State.addIncompatibility_mapH]
  cases st.addIncompatibility (Incompat.customVersion p v m) <;> rfl

theorem step_fetching_available (h : VSetHom S V S' V') (st : State P S V M Pr) (added : List (P × V))
    (next : P) (fuel : Nat) (p : P) (v : V) (deps : List (P × S)) :
    Solver.step (E := E) (SolverState.mapH h ⟨st, added, next, .fetching p v, fuel⟩)
        (Answer.mapH h (.available deps)) =
      Prod.map (SolverState.mapH h) (Request.mapH h)
        (Solver.step (E := E) ⟨st, added, next, .fetching p v, fuel⟩ (.available deps)) := by
  unfold Solver.step
  dsimp only [SolverState.mapH, Phase.mapH, Answer.mapH, depsMapH]
  rw [State.addIncompatibilityFromDependencies_mapH]
  cases st.addIncompatibilityFromDependencies p v deps with
  | error f => rfl
  | ok x =>
    obtain ⟨st1, start, stop⟩ := x
    dsimp only [exceptMap_ok, State.mapH_store, State.mapH_ps, State.mapH_debug]
    rw [← List.map_drop, ← List.map_take, PartialSolution.addVersion_mapH]
    cases st1.ps.addVersion st1.debug p v (List.take (stop - start) (List.drop start st1.store)) <;> rfl

theorem step_mapH_prodMap (h : VSetHom S V S' V') (s : SolverState P S V M Pr) (a : Answer P S V M Pr E) :
    Solver.step (SolverState.mapH h s) (Answer.mapH h a) =
      Prod.map (SolverState.mapH h) (Request.mapH h) (Solver.step s a) := by
  obtain ⟨st, added, next, phase, fuel⟩ := s
  cases phase with
  | cancel =>
    cases a with
    | ok => exact step_cancel_ok h _ _ _ _
    | _ => rfl
  | prioritizing cur rest acc =>
    cases a with
    | priority pr => exact step_prioritizing h _ _ _ _ _ _ _ _
    | _ => rfl
  | picking acc =>
    cases a with
    | picked o => exact step_picking h _ _ _ _ _ _
    | _ => rfl
  | choosing p t =>
    cases a with
    | version v => exact step_choosing h _ _ _ _ _ _ _
    | _ => rfl
  | fetching p v =>
    cases a with
    | unavailable m => exact step_fetching_unavailable h _ _ _ _ _ _ _
    | available ds => exact step_fetching_available h _ _ _ _ _ _ _
    | _ => rfl
  | finished => rfl

end SolverLemmas
end Pubgrub
