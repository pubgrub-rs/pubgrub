/-
Association lists read by index, the strengthened per-entry invariant `WF'` (what I-PS needs to survive a
backtrack), and preservation of I-PS by `addDerivation`.
-/
import PubgrubProofs.PSDefs
import PubgrubProofs.StoreInvariant

set_option linter.unusedSectionVars false

namespace Pubgrub
open VersionSet

theorem List.nodup_iff_getElem?_inj' {α : Type} (l : List α) :
    l.Nodup ↔ ∀ (a b : Nat) (x : α), l[a]? = some x → l[b]? = some x → a = b := by
  constructor
  · intro h a b x ha hb
    exact (List.getElem?_inj (List.getElem?_eq_some_iff.1 ha).1 h).1 (ha.trans hb.symm)
  · intro h
    rw [List.nodup_iff_pairwise_ne, List.pairwise_iff_getElem]
    intro i j hi hj hlt heq
    have := h i j l[i] (List.getElem?_eq_getElem hi) (by rw [heq]; exact List.getElem?_eq_getElem hj)
    omega

namespace SmallMap
variable {K T : Type} [DecidableEq K]

theorem index_inj {m : SmallMap K T} (hn : NoDupKeys m) {i j : Nat} {k : K} {v w : T}
    (hi : m[i]? = some (k, v)) (hj : m[j]? = some (k, w)) : i = j :=
  (List.nodup_iff_getElem?_inj' _).1 hn i j k (by rw [List.getElem?_map, hi]; rfl)
    (by rw [List.getElem?_map, hj]; rfl)

theorem get_of_getElem {m : SmallMap K T} (hn : NoDupKeys m) {i : Nat} {k : K} {v : T}
    (h : m[i]? = some (k, v)) : get m k = some v :=
  get_of_mem hn (List.mem_of_getElem? h)

theorem get_findIdx {m : SmallMap K T} {k : K} {v : T} (h : get m k = some v) :
    m[m.findIdx (fun kv => decide (kv.1 = k))]? = some (k, v) := by
  induction m with
  | nil => simp [get] at h
  | cons x m ih =>
    obtain ⟨a, b⟩ := x
    by_cases hk : k = a
    · subst hk; simp [get] at h; subst h; simp [List.findIdx_cons]
    · have hk' : ¬ a = k := fun e => hk e.symm
      simp [get, hk] at h
      simp [List.findIdx_cons, hk', ih h]

theorem findIdx_lt_of_get {m : SmallMap K T} {k : K} {v : T} (h : get m k = some v) :
    m.findIdx (fun kv => decide (kv.1 = k)) < m.length :=
  (List.getElem?_eq_some_iff.1 (get_findIdx h)).1

theorem findIdx_ge_of_get_none {m : SmallMap K T} {k : K} (h : get m k = none) :
    m.length ≤ m.findIdx (fun kv => decide (kv.1 = k)) := by
  induction m with
  | nil => simp
  | cons x m ih =>
    obtain ⟨a, b⟩ := x
    by_cases hk : k = a
    · subst hk; simp [get] at h
    · have hk' : ¬ a = k := fun e => hk e.symm
      simp [get, hk] at h
      simp [List.findIdx_cons, hk', ih h]

theorem findIdx_of_getElem {m : SmallMap K T} (hn : NoDupKeys m) {i : Nat} {k : K} {v : T}
    (h : m[i]? = some (k, v)) : m.findIdx (fun kv => decide (kv.1 = k)) = i :=
  index_inj hn (get_findIdx (get_of_getElem hn h)) h

theorem get_none_of_not_mem_keys {m : SmallMap K T} {k : K} (h : k ∉ m.map Prod.fst) :
    get m k = none := by
  rw [get_eq_none_iff]; intro v hv; exact h (key_mem_of_mem hv)

theorem not_mem_keys_of_get_none {m : SmallMap K T} {k : K} (h : get m k = none) :
    k ∉ m.map Prod.fst := by
  intro hk
  rw [List.mem_map] at hk
  obtain ⟨⟨a, b⟩, hm, rfl⟩ := hk
  exact (get_eq_none_iff m a).1 h b hm

theorem get_append_left {m m2 : SmallMap K T} {k : K} {v : T} (h : get m k = some v) :
    get (m ++ m2) k = some v := by
  induction m with
  | nil => simp [get] at h
  | cons x m ih =>
    obtain ⟨a, b⟩ := x
    by_cases hk : k = a
    · subst hk; simpa [get] using h
    · simp [get, hk] at h ⊢; exact ih h

theorem get_append_none {m m2 : SmallMap K T} {k : K} (h : get m k = none) :
    get (m ++ m2) k = get m2 k := by
  induction m with
  | nil => rfl
  | cons x m ih =>
    obtain ⟨a, b⟩ := x
    by_cases hk : k = a
    · subst hk; simp [get] at h
    · simp [get, hk] at h ⊢; exact ih h

end SmallMap

section PS
variable {P S V M Pr : Type} [DecidableEq P] [VersionSet S V] [DecidableEq S]

/-- what I-PS does not say about one entry but is needed to re-establish it after a backtrack -/
structure PackageAssignments.WFX (pa : PackageAssignments S V) : Prop where
  head : ∃ f, pa.dated.head? = some f ∧ f.decisionLevel = pa.smallest
  le_highest : ∀ dd ∈ pa.dated, dd.decisionLevel ≤ pa.highest

/-- I-PS with `WFX` of every entry, the form that a backtrack preserves -/
structure PartialSolution.WF' (ps : PartialSolution P S V Pr) : Prop where
  wf : ps.WF
  wfx : ∀ kv ∈ ps.assignments, kv.2.WFX

theorem PackageAssignments.WFAt.mono_next {dl n n' i : Nat} {pa : PackageAssignments S V}
    (h : pa.WFAt dl n i) (hn : n ≤ n') : pa.WFAt dl n' i := by
  refine ⟨?_, h.undecided, h.levels, h.indices, fun dd hdd => Nat.lt_of_lt_of_le (h.indices_lt dd hdd) hn,
    h.range⟩
  intro hi
  obtain ⟨g, v, h1, h2, h3, h4, h5⟩ := h.decided hi
  exact ⟨g, v, h1, h2, Nat.lt_of_lt_of_le h3 hn, h4, h5⟩

namespace PartialSolution

theorem getPA_of_getElem {ps : PartialSolution P S V Pr} (h : ps.WF) {i : Nat} {p : P}
    {pa : PackageAssignments S V} (hi : ps.assignments[i]? = some (p, pa)) : ps.getPA p = some pa :=
  SmallMap.get_of_getElem h.keys hi

theorem indexOf_of_getElem {ps : PartialSolution P S V Pr} (h : ps.WF) {i : Nat} {p : P}
    {pa : PackageAssignments S V} (hi : ps.assignments[i]? = some (p, pa)) : ps.indexOf p = some i := by
  unfold indexOf
  have := SmallMap.findIdx_of_getElem h.keys hi
  simp only [this, (List.getElem?_eq_some_iff.1 hi).1, if_true]

theorem getElem_of_getPA {ps : PartialSolution P S V Pr} {p : P} {pa : PackageAssignments S V}
    (h : ps.getPA p = some pa) : ∃ i, ps.indexOf p = some i ∧ ps.assignments[i]? = some (p, pa) := by
  refine ⟨_, ?_, SmallMap.get_findIdx h⟩
  unfold indexOf
  simp only [SmallMap.findIdx_lt_of_get h, if_true]

theorem indexOf_none_of_getPA {ps : PartialSolution P S V Pr} {p : P}
    (h : ps.getPA p = none) : ps.indexOf p = none := by
  unfold indexOf
  have := SmallMap.findIdx_ge_of_get_none h
  simp only [Nat.not_lt.2 this, if_false]

theorem getElem_of_indexOf_getPA {ps : PartialSolution P S V Pr} {p : P} {pa : PackageAssignments S V}
    {i : Nat} (hi : ps.indexOf p = some i) (h : ps.getPA p = some pa) :
    ps.assignments[i]? = some (p, pa) := by
  obtain ⟨j, hj, hj'⟩ := getElem_of_getPA h
  rw [hi] at hj; injection hj with hj; subst hj; exact hj'

theorem undecided_ge {ps : PartialSolution P S V Pr} (h : ps.WF) {i : Nat} {p : P}
    {pa : PackageAssignments S V} {t : Term S} (hi : ps.assignments[i]? = some (p, pa))
    (ht : pa.inter = .derivations t) : ps.currentDecisionLevel ≤ i := by
  apply Nat.le_of_not_lt
  intro hlt
  obtain ⟨g, v, h1, _⟩ := (h.entries i p pa hi).decided hlt
  rw [ht] at h1; cases h1

theorem decided_lt {ps : PartialSolution P S V Pr} (h : ps.WF) {i : Nat} {p : P}
    {pa : PackageAssignments S V} {g : Nat} {v : V} {t : Term S} (hi : ps.assignments[i]? = some (p, pa))
    (ht : pa.inter = .decision g v t) : i < ps.currentDecisionLevel := by
  apply Nat.lt_of_not_le
  intro hle
  obtain ⟨t, l, f, h1, _⟩ := (h.entries i p pa hi).undecided hle
  rw [ht] at h1; cases h1

theorem addDerivation_spec {ps ps' : PartialSolution P S V Pr} {p : P} {cause : Nat}
    {store : List (Incompat P S V M)} (hr : ps.addDerivation p cause store = .ok ps') :
    ∃ inc t, store[cause]? = some inc ∧ inc.get p = some t ∧
      ((∃ idx pa t0, ps.indexOf p = some idx ∧ ps.getPA p = some pa ∧ pa.inter = .derivations t0 ∧
          ps' = { ps with
            nextGlobalIndex := ps.nextGlobalIndex + 1,
            changed := if (t0.intersection t.negate).isPositive then min ps.changed idx else ps.changed,
            assignments := ps.assignments.set idx (p,
              { pa with highest := ps.currentDecisionLevel,
                        inter := .derivations (t0.intersection t.negate),
                        dated := pa.dated ++ [{ globalIndex := ps.nextGlobalIndex,
                                                decisionLevel := ps.currentDecisionLevel,
                                                cause := cause,
                                                accumulated := t0.intersection t.negate }] }) }) ∨
       (ps.getPA p = none ∧
          ps' = { ps with
            nextGlobalIndex := ps.nextGlobalIndex + 1,
            changed := if t.negate.isPositive then min ps.changed (ps.assignments.length - 1) else ps.changed,
            assignments := ps.assignments ++ [(p,
              { smallest := ps.currentDecisionLevel, highest := ps.currentDecisionLevel,
                dated := [{ globalIndex := ps.nextGlobalIndex,
                            decisionLevel := ps.currentDecisionLevel,
                            cause := cause, accumulated := t.negate }],
                inter := .derivations t.negate })] })) := by
  unfold addDerivation at hr
  simp only [bind, Except.bind, pure, Except.pure] at hr
  split at hr
  · cases hr
  rename_i inc hinc
  split at hr
  · cases hr
  rename_i t ht
  refine ⟨inc, t, storeGet_ok hinc, unwrapOr_ok ht, ?_⟩
  split at hr
  · rename_i idx pa hidx hpa
    split at hr
    · cases hr
    · rename_i t0 ht0
      injection hr with hr; subst hr
      exact Or.inl ⟨idx, pa, t0, hidx, hpa, ht0, rfl⟩
  · rename_i hno
    injection hr with hr; subst hr
    refine Or.inr ⟨?_, rfl⟩
    cases hpa : ps.getPA p with
    | none => rfl
    | some pa =>
      obtain ⟨i, hi, _⟩ := getElem_of_getPA hpa
      exact absurd hpa (hno i pa hi)

theorem _root_.Pubgrub.Term.intersection_pos (s : S) (x : Term S) :
    ∃ s', Term.intersection (.pos s) x = .pos s' := by
  cases x <;> exact ⟨_, rfl⟩

theorem _root_.Pubgrub.SmallMap.map_fst_set_same {K T : Type} {m : List (K × T)} {i : Nat} {k : K} {v v' : T}
    (h : m[i]? = some (k, v)) : (m.set i (k, v')).map Prod.fst = m.map Prod.fst := by
  apply List.ext_getElem?
  intro j
  simp only [List.getElem?_map, List.getElem?_set]
  split
  · rename_i hij; subst hij
    rw [h]; simp [(List.getElem?_eq_some_iff.1 h).1]
  · rfl

/-- the entry after one more derivation -/
def _root_.Pubgrub.PackageAssignments.pushDD (pa : PackageAssignments S V) (dl next cause : Nat) (t' : Term S) :
    PackageAssignments S V :=
  { pa with highest := dl, inter := .derivations t',
            dated := pa.dated ++ [{ globalIndex := next, decisionLevel := dl, cause := cause,
                                    accumulated := t' }] }

theorem wf'_addDerivation_old {ps : PartialSolution P S V Pr} (h : ps.WF') {p : P} {idx : Nat}
    {pa : PackageAssignments S V} {t0 t' : Term S} {cause : Nat} {ch : Nat} (hch : ch ≤ ps.changed)
    (hidx : ps.indexOf p = some idx) (hpa : ps.getPA p = some pa) (ht0 : pa.inter = .derivations t0)
    (hpos : ∀ s, t0 = .pos s → ∃ s', t' = .pos s') :
    ({ ps with
        nextGlobalIndex := ps.nextGlobalIndex + 1,
        changed := ch,
        assignments := ps.assignments.set idx (p,
          (pa.pushDD ps.currentDecisionLevel ps.nextGlobalIndex cause t')) } : PartialSolution P S V Pr).WF' := by
  have hw := h.wf
  have hget := getElem_of_indexOf_getPA hidx hpa
  have hlt := (List.getElem?_eq_some_iff.1 hget).1
  have hx := h.wfx _ (List.mem_of_getElem? hget)
  have he := hw.entries idx p pa hget
  have hge : ps.currentDecisionLevel ≤ idx := undecided_ge hw hget ht0
  obtain ⟨t, l, f, h1, h2, h3, h4, h5, h6, h7⟩ := he.undecided hge
  have hkeys : (ps.assignments.set idx (p,
          (pa.pushDD ps.currentDecisionLevel ps.nextGlobalIndex cause t'))).map Prod.fst =
      ps.assignments.map Prod.fst := SmallMap.map_fst_set_same hget
  have hnew : PackageAssignments.WFAt ps.currentDecisionLevel (ps.nextGlobalIndex + 1) idx
      (pa.pushDD ps.currentDecisionLevel ps.nextGlobalIndex cause t') ∧
      PackageAssignments.WFX (pa.pushDD ps.currentDecisionLevel ps.nextGlobalIndex cause t') := by
    obtain ⟨f', hf', hf''⟩ := hx.head
    unfold PackageAssignments.pushDD
    refine ⟨⟨fun hi => absurd hi (Nat.not_lt.2 hge), fun _ => ⟨t', ⟨ps.nextGlobalIndex, ps.currentDecisionLevel, cause, t'⟩, f, rfl, Nat.le_refl _, ?_, ?_, rfl, rfl, h7⟩, ?_, ?_, ?_, ?_⟩,
      ⟨⟨f', ?_, hf''⟩, ?_⟩⟩
    · simp
    · simp [List.head?_append, h4]
    · simp only [List.map_append, List.map_cons, List.map_nil, List.pairwise_append]
      refine ⟨he.levels, List.pairwise_singleton _ _, ?_⟩
      intro a ha b hb
      simp only [List.mem_singleton] at hb; subst hb
      rw [List.mem_map] at ha
      obtain ⟨dd, hdd, rfl⟩ := ha
      exact Nat.le_trans (hx.le_highest dd hdd) h2
    · simp only [List.map_append, List.map_cons, List.map_nil, List.pairwise_append]
      refine ⟨he.indices, List.pairwise_singleton _ _, ?_⟩
      intro a ha b hb
      simp only [List.mem_singleton] at hb; subst hb
      rw [List.mem_map] at ha
      obtain ⟨dd, hdd, rfl⟩ := ha
      exact he.indices_lt dd hdd
    · intro dd hdd
      simp only [List.mem_append, List.mem_singleton] at hdd
      rcases hdd with hdd | rfl
      · exact Nat.lt_succ_of_lt (he.indices_lt dd hdd)
      · exact Nat.lt_succ_self _
    · exact Nat.le_trans he.range h2
    · simp [List.head?_append, hf']
    · intro dd hdd
      simp only [List.mem_append, List.mem_singleton] at hdd
      rcases hdd with hdd | rfl
      · exact Nat.le_trans (hx.le_highest dd hdd) h2
      · exact Nat.le_refl _
  refine ⟨⟨?_, ?_, ?_, ?_, hw.queue_keys, ?_⟩, ?_⟩
  · simp only [List.length_set]; exact Nat.le_trans hch hw.changed_le
  · simp only [List.length_set]; exact hw.level_le
  · show ((ps.assignments.set idx _).map Prod.fst).Nodup
    rw [hkeys]; exact hw.keys
  · intro i q qa hq
    simp only [List.getElem?_set] at hq
    split at hq
    · rename_i hi; subst hi
      injection hq with hq; injection hq with hq1 hq2; subst hq1; subst hq2
      exact hnew.1
    · exact (hw.entries i q qa hq).mono_next (Nat.le_succ _)
  · intro q pr hq
    obtain ⟨qa, s, hqa, hs⟩ := hw.queue_sub q pr hq
    obtain ⟨j, _, hj⟩ := getElem_of_getPA hqa
    by_cases hji : idx = j
    · subst hji
      rw [hget] at hj; injection hj with hj; injection hj with hj1 hj2; subst hj1; subst hj2
      rw [ht0] at hs; injection hs with hs
      obtain ⟨s', hs'⟩ := hpos s hs
      refine ⟨pa.pushDD ps.currentDecisionLevel ps.nextGlobalIndex cause t', s',
        SmallMap.get_of_getElem (m := ps.assignments.set idx _) (i := idx) (by unfold SmallMap.NoDupKeys; rw [hkeys]; exact hw.keys) (by simp [hlt]), ?_⟩
      simp [PackageAssignments.pushDD, hs']
    · refine ⟨qa, s, SmallMap.get_of_getElem (m := ps.assignments.set idx _) (i := j) (by unfold SmallMap.NoDupKeys; rw [hkeys]; exact hw.keys) ?_, hs⟩
      simp [hji, hj]
  · intro kv hkv
    rcases List.mem_or_eq_of_mem_set hkv with h' | h'
    · exact h.wfx kv h'
    · subst h'; exact hnew.2

/-- a fresh entry with one derivation -/
def _root_.Pubgrub.PackageAssignments.single (dl next cause : Nat) (t' : Term S) : PackageAssignments S V :=
  { smallest := dl, highest := dl,
    dated := [{ globalIndex := next, decisionLevel := dl, cause := cause, accumulated := t' }],
    inter := .derivations t' }

theorem wf'_addDerivation_new {ps : PartialSolution P S V Pr} (h : ps.WF') {p : P}
    {t' : Term S} {cause : Nat} {ch : Nat} (hch : ch ≤ ps.changed) (hpa : ps.getPA p = none) :
    ({ ps with
        nextGlobalIndex := ps.nextGlobalIndex + 1,
        changed := ch,
        assignments := ps.assignments ++
          [(p, PackageAssignments.single ps.currentDecisionLevel ps.nextGlobalIndex cause t')] } :
      PartialSolution P S V Pr).WF' := by
  have hw := h.wf
  have hnk := SmallMap.not_mem_keys_of_get_none hpa
  refine ⟨⟨?_, ?_, ?_, ?_, hw.queue_keys, ?_⟩, ?_⟩
  · simp only [List.length_append, List.length_singleton]
    exact Nat.le_trans hch (Nat.le_trans hw.changed_le (Nat.le_succ _))
  · simp only [List.length_append, List.length_singleton]
    exact Nat.le_trans hw.level_le (Nat.le_succ _)
  · simp only [List.map_append, List.map_cons, List.map_nil]
    rw [List.nodup_append]
    refine ⟨hw.keys, by simp, ?_⟩
    intro a ha b hb
    simp only [List.mem_singleton] at hb; subst hb
    intro e; subst e; exact hnk ha
  · intro i q qa hq
    simp only [List.getElem?_append] at hq
    split at hq
    · exact (hw.entries i q qa hq).mono_next (Nat.le_succ _)
    · rename_i hi
      have hi' : ps.assignments.length ≤ i := Nat.le_of_not_lt hi
      cases hk : i - ps.assignments.length with
      | zero =>
        rw [hk] at hq
        simp only [List.getElem?_cons_zero] at hq
        injection hq with hq; injection hq with hq1 hq2; subst hq1; subst hq2
        have hge : ps.currentDecisionLevel ≤ i := Nat.le_trans hw.level_le hi'
        unfold PackageAssignments.single
        refine ⟨fun hlt => absurd hlt (Nat.not_lt.2 hge),
          fun _ => ⟨t', ⟨ps.nextGlobalIndex, ps.currentDecisionLevel, cause, t'⟩,
            ⟨ps.nextGlobalIndex, ps.currentDecisionLevel, cause, t'⟩, rfl, Nat.le_refl _, rfl, rfl, rfl, rfl, rfl⟩,
          by simp, by simp, ?_, Nat.le_refl _⟩
        intro dd hdd
        simp only [List.mem_singleton] at hdd
        subst hdd; exact Nat.lt_succ_self _
      | succ k => rw [hk] at hq; simp at hq
  · intro q pr hq
    obtain ⟨qa, s, hqa, hs⟩ := hw.queue_sub q pr hq
    exact ⟨qa, s, SmallMap.get_append_left hqa, hs⟩
  · intro kv hkv
    simp only [List.mem_append, List.mem_singleton] at hkv
    rcases hkv with hkv | rfl
    · exact h.wfx kv hkv
    · unfold PackageAssignments.single
      refine ⟨⟨_, rfl, rfl⟩, ?_⟩
      intro dd hdd
      simp only [List.mem_singleton] at hdd
      subst hdd; exact Nat.le_refl _

theorem addDerivation_wf' {ps ps' : PartialSolution P S V Pr} {p : P} {cause : Nat}
    {store : List (Incompat P S V M)} (h : ps.WF')
    (hr : ps.addDerivation p cause store = .ok ps') : ps'.WF' := by
  obtain ⟨inc, t, _, _, hcase⟩ := addDerivation_spec hr
  rcases hcase with ⟨idx, pa, t0, hidx, hpa, ht0, rfl⟩ | ⟨hpa, rfl⟩
  · refine wf'_addDerivation_old h ?_ hidx hpa ht0 ?_
    · split
      · exact Nat.min_le_left _ _
      · exact Nat.le_refl _
    · intro s hs; subst hs; exact Term.intersection_pos s _
  · refine wf'_addDerivation_new h ?_ hpa
    split
    · exact Nat.min_le_left _ _
    · exact Nat.le_refl _

end PartialSolution
end PS
end Pubgrub
