/-
Freshness of the effective queue during the prioritizing and picking phases (`EQ`), the map of last
reports `lpNext`, and the run-level invariant `FInv` with its preservation by `Solver.step`.
-/
import PubgrubProofs.QueueFresh
import PubgrubProofs.Protocol

set_option linter.unusedSectionVars false

namespace Pubgrub
open VersionSet

section PS
variable {P S V M Pr : Type} [DecidableEq P] [VersionSet S V] [DecidableEq S]
  [LawfulVersionSet S V]

/-- freshness of the effective queue (the queue overlaid with the priorities `acc` collected so far
in the phase): packages answered in this phase were reported for their current set -/
def PartialSolution.EQ (lp : P → Option (S × Pr)) (ps : PartialSolution P S V Pr) (acc : List (P × Pr)) :
    Prop :=
  ∀ q pr, SmallMap.get (ps.afterPrioritize acc).queue q = some pr → ∃ sq, lp q = some (sq, pr) ∧
    ∀ i pa set, ps.assignments[i]? = some (q, pa) → pa.inter = .derivations (.pos set) →
      (q ∉ acc.map Prod.fst ∧ ps.Pend i pa) ∨ sq = set

namespace PartialSolution

theorem EQ_nil {lp : P → Option (S × Pr)} {ps : PartialSolution P S V Pr} (h : ps.QFresh lp) :
    ps.EQ lp [] := by
  intro q pr hq
  obtain ⟨sq, hlp, hall⟩ := h q pr hq
  refine ⟨sq, hlp, ?_⟩
  intro i pa set hi hs
  rcases hall i pa set hi hs with h1 | h1
  · exact Or.inl ⟨by simp, h1⟩
  · exact Or.inr h1

theorem toPrioritize_mem {ps : PartialSolution P S V Pr} (h : ps.WF) {L : List (P × S)}
    (hL : ps.toPrioritize = .ok L) (q : P) (s : S) (hq : (q, s) ∈ L) :
    ∃ pa, ps.getPA q = some pa ∧ pa.inter = .derivations (.pos s) := by
  unfold toPrioritize at hL
  split at hL
  · cases hL
  injection hL with hL; subst hL
  rw [List.mem_filterMap] at hq
  obtain ⟨⟨q0, qa⟩, hx, hf⟩ := hq
  simp only at hf
  split at hf
  · unfold potentialPackageFilter at hf
    split at hf
    · cases hf
    · rename_i t ht
      split at hf
      · rename_i s0
        injection hf with hf; injection hf with hf1 hf2; subst hf1; subst hf2
        exact ⟨qa, SmallMap.get_of_mem h.keys (List.mem_of_mem_drop hx), ht⟩
      · cases hf
  · cases hf

theorem afterPrioritize_snoc_queue (ps : PartialSolution P S V Pr) (acc : List (P × Pr)) (c : P) (pr : Pr) :
    (ps.afterPrioritize (acc ++ [(c, pr)])).queue = SmallMap.insert (ps.afterPrioritize acc).queue c pr := by
  simp [afterPrioritize, queuePush, List.foldl_append]

theorem EQ_snoc {lp : P → Option (S × Pr)} {ps : PartialSolution P S V Pr} (h : ps.WF)
    {acc : List (P × Pr)} {c : P} {sc : S} {L : List (P × S)} (hL : ps.toPrioritize = .ok L)
    (hc : (c, sc) ∈ L) (he : ps.EQ lp acc) (pr : Pr) :
    ps.EQ (fun x => if c = x then some (sc, pr) else lp x) (acc ++ [(c, pr)]) := by
  intro q pr' hq
  rw [afterPrioritize_snoc_queue, SmallMap.get_insert] at hq
  by_cases hqc : q = c
  · subst hqc
    rw [if_pos rfl] at hq
    injection hq with hq; subst hq
    refine ⟨sc, by simp, ?_⟩
    intro i pa set hi hs
    right
    obtain ⟨pa', hpa', hs'⟩ := toPrioritize_mem h hL q sc hc
    have := getPA_of_getElem h hi
    rw [hpa'] at this; injection this with this; subst this
    rw [hs'] at hs; injection hs with hs; injection hs
  · rw [if_neg hqc] at hq
    obtain ⟨sq, hlp, hall⟩ := he q pr' hq
    have hcq : ¬ c = q := fun e => hqc e.symm
    refine ⟨sq, by simp only [if_neg hcq]; exact hlp, ?_⟩
    intro i pa set hi hs
    rcases hall i pa set hi hs with ⟨h1, h2⟩ | h1
    · left
      refine ⟨?_, h2⟩
      simp only [List.map_append, List.map_cons, List.map_nil, List.mem_append, List.mem_singleton]
      rintro (h3 | h3)
      · exact h1 h3
      · exact hqc h3
    · exact Or.inr h1

theorem EQ.settled {lp : P → Option (S × Pr)} {ps : PartialSolution P S V Pr} {acc : List (P × Pr)}
    (he : ps.EQ lp acc) {L : List (P × S)} (hL : ps.toPrioritize = .ok L)
    (hk : L.map Prod.fst = acc.map Prod.fst) {q : P} {pr : Pr}
    (hq : SmallMap.get (ps.afterPrioritize acc).queue q = some pr) :
    ∃ sq, lp q = some (sq, pr) ∧
      ∀ (i : Nat) (pa : PackageAssignments S V) (set : S), ps.assignments[i]? = some (q, pa) →
        pa.inter = .derivations (.pos set) → sq = set := by
  obtain ⟨sq, hlp, hall⟩ := he q pr hq
  refine ⟨sq, hlp, ?_⟩
  intro i pa set hi hs
  rcases hall i pa set hi hs with ⟨h1, h2, h3⟩ | h1
  · exact absurd (hk ▸ toPrioritize_complete hL hi hs h2 h3) h1
  · exact h1

theorem EQ.pick {lp : P → Option (S × Pr)} {ps : PartialSolution P S V Pr} {acc : List (P × Pr)}
    (he : ps.EQ lp acc) {L : List (P × S)} (hL : ps.toPrioritize = .ok L)
    (hk : L.map Prod.fst = acc.map Prod.fst) (hw : (ps.afterPrioritize acc).WF) (p : P) :
    ({ ps.afterPrioritize acc with queue := SmallMap.remove (ps.afterPrioritize acc).queue p } :
      PartialSolution P S V Pr).QFresh lp := by
  intro q pr hq
  simp only at hq
  rw [SmallMap.get_remove _ hw.queue_keys] at hq
  split at hq
  · cases hq
  obtain ⟨sq, hlp, hall⟩ := he.settled hL hk hq
  exact ⟨sq, hlp, fun i pa set hi hs => Or.inr (hall i pa set hi hs)⟩

end PartialSolution
end PS

section Run
variable {P S V M Pr E : Type} [DecidableEq P] [VersionSet S V] [DecidableEq S] [DecidableEq V]
  [LE Pr] [DecidableLE Pr] [LawfulVersionSet S V]

/-- how the map of the last reported `(set, priority)` evolves with one request/answer pair -/
def lpNext (lp : P → Option (S × Pr)) : Request P S V M Pr E → Answer P S V M Pr E → P → Option (S × Pr)
  | .prioritize q s, .priority pr => fun x => if q = x then some (s, pr) else lp x
  | _, _ => lp

/-- the run-level freshness invariant, relative to the map `lp` of last reports -/
structure FInv (lp : P → Option (S × Pr)) (x : SolverState P S V M Pr × Request P S V M Pr E) : Prop where
  cancel : x.1.phase = .cancel → x.1.st.ps.QFresh lp
  choosing : ∀ p t, x.1.phase = .choosing p t →
    x.1.st.ps.QFresh lp ∧ x.1.st.ps.changed = x.1.st.ps.assignments.length
  fetching : ∀ p v, x.1.phase = .fetching p v →
    x.1.st.ps.QFresh lp ∧ x.1.st.ps.changed = x.1.st.ps.assignments.length
  prioritizing : ∀ cur rest acc, x.1.phase = .prioritizing cur rest acc → x.1.st.ps.EQ lp acc
  picking : ∀ acc, x.1.phase = .picking acc → x.1.st.ps.EQ lp acc
  chooseReq : ∀ p set, x.2 = .chooseVersion p set → ∃ pr, lp p = some (set, pr)

theorem lpNext_of_not_priority (lp : P → Option (S × Pr)) (req : Request P S V M Pr E)
    {a : Answer P S V M Pr E} (h : ∀ pr, a ≠ .priority pr) : lpNext lp req a = lp := by
  cases req <;> first | rfl | (cases a <;> first | rfl | exact absurd rfl (h _))

theorem finv_finish (lp : P → Option (S × Pr)) (s : SolverState P S V M Pr) (r : Request P S V M Pr E)
    (hr : ∀ p set, r ≠ .chooseVersion p set) : FInv lp (Solver.finish s r) where
  cancel h := nomatch h
  choosing _ _ h := nomatch h
  fetching _ _ h := nomatch h
  prioritizing _ _ _ h := nomatch h
  picking _ h := nomatch h
  chooseReq p set h := absurd h (hr p set)

theorem finv_loopAgain (lp : P → Option (S × Pr)) (s : SolverState P S V M Pr) (st : State P S V M Pr)
    (h : st.ps.QFresh lp) : FInv (E := E) lp (Solver.loopAgain s st) where
  cancel _ := h
  choosing _ _ h := nomatch h
  fetching _ _ h := nomatch h
  prioritizing _ _ _ h := nomatch h
  picking _ h := nomatch h
  chooseReq _ _ h := nomatch h

theorem finv_prioritizing {lp : P → Option (S × Pr)} {s : SolverState P S V M Pr} {cur : P × S}
    {rest : List (P × S)} {acc : List (P × Pr)} (hph : s.phase = .prioritizing cur rest acc)
    (he : s.st.ps.EQ lp acc) : FInv (E := E) lp (s, .prioritize cur.1 cur.2) where
  cancel h := nomatch hph.symm.trans h
  choosing _ _ h := nomatch hph.symm.trans h
  fetching _ _ h := nomatch hph.symm.trans h
  prioritizing _ _ _ h := by cases hph.symm.trans h; exact he
  picking _ h := nomatch hph.symm.trans h
  chooseReq _ _ h := nomatch h

theorem finv_picking {lp : P → Option (S × Pr)} {s : SolverState P S V M Pr} {acc : List (P × Pr)}
    (hph : s.phase = .picking acc) (he : s.st.ps.EQ lp acc) {q : List (P × Pr)} :
    FInv (E := E) lp (s, .pick q) where
  cancel h := nomatch hph.symm.trans h
  choosing _ _ h := nomatch hph.symm.trans h
  fetching _ _ h := nomatch hph.symm.trans h
  prioritizing _ _ _ h := nomatch hph.symm.trans h
  picking _ h := by cases hph.symm.trans h; exact he
  chooseReq _ _ h := nomatch h

theorem finv_choosing {lp : P → Option (S × Pr)} {s : SolverState P S V M Pr} {p : P} {t : Term S}
    (hph : s.phase = .choosing p t) (hf : s.st.ps.QFresh lp)
    (hch : s.st.ps.changed = s.st.ps.assignments.length) {set : S} (hlp : ∃ pr, lp p = some (set, pr)) :
    FInv (E := E) lp (s, .chooseVersion p set) where
  cancel h := nomatch hph.symm.trans h
  choosing _ _ _ := ⟨hf, hch⟩
  fetching _ _ h := nomatch hph.symm.trans h
  prioritizing _ _ _ h := nomatch hph.symm.trans h
  picking _ h := nomatch hph.symm.trans h
  chooseReq _ _ h := by cases h; exact hlp

theorem finv_fetching {lp : P → Option (S × Pr)} {s : SolverState P S V M Pr} {p : P} {v : V}
    (hph : s.phase = .fetching p v) (hf : s.st.ps.QFresh lp)
    (hch : s.st.ps.changed = s.st.ps.assignments.length) :
    FInv (E := E) lp (s, .getDependencies p v) where
  cancel h := nomatch hph.symm.trans h
  choosing _ _ h := nomatch hph.symm.trans h
  fetching _ _ _ := ⟨hf, hch⟩
  prioritizing _ _ _ h := nomatch hph.symm.trans h
  picking _ h := nomatch hph.symm.trans h
  chooseReq _ _ h := nomatch h

theorem finv_start (debug : Bool) (fuel : Nat) (root : P) (rv : V) :
    FInv (fun _ => none)
      (Solver.start (Pr := Pr) (E := E) (M := M) (S := S) debug fuel root rv) :=
  finv_loopAgain _ ⟨State.init debug root rv, [], root, .cancel, fuel⟩ _ fun _ _ h => nomatch h

theorem finv_step (W : World P S V M) (root : P) (rv : V)
    (lp : P → Option (S × Pr))
    (s : SolverState P S V M Pr) (req : Request P S V M Pr E) (a : Answer P S V M Pr E)
    (h0 : RInv W root rv (s, req)) (h : RInv' (s, req)) (hc : Solver.Coherent (s, req))
    (hf : FInv lp (s, req)) (ha : AnswerOK W req a) :
    FInv (lpNext lp req a) (Solver.step s a) := by
  have live : ∀ {ph}, s.phase = ph → ph ≠ .finished → PInv s.st := fun e hne => (h.live (e ▸ hne)).1
  -- only the answer to `prioritize` changes the map of last reports
  have same : (∀ pr, a ≠ .priority pr) → lpNext lp req a = lp := lpNext_of_not_priority lp req
  apply Solver.step_cases (motive := FInv (lpNext lp req a)) s a
  case stop => exact fun s' r _ _ => finv_finish _ s' r (by intro _ _ e; subst e; contradiction)
  case propagated =>
    intro st L hph e hu hL
    rw [same (e ▸ nofun)]
    have he := PartialSolution.EQ_nil (State.unitPropagation_qfresh hu (live hph nofun) (hf.cancel hph))
    cases L with
    | nil => exact finv_picking rfl he
    | cons cur rest => exact finv_prioritizing rfl he
  case prioritized =>
    intro cur rest acc pr hph e
    have hreq : req = .prioritize cur.1 cur.2 := by simpa [Solver.Coherent, hph] using hc
    subst hreq e
    obtain ⟨done, hL, -⟩ := h.prioritizing _ _ _ hph
    have he := PartialSolution.EQ_snoc (live hph nofun).wf.wf (c := cur.1) (sc := cur.2) hL (by simp)
      (hf.prioritizing _ _ _ hph) pr
    cases rest with
    | nil => exact finv_picking (s := { s with phase := _ }) rfl he
    | cons nxt rest' => exact finv_prioritizing rfl he
  case solved => exact fun _ _ _ _ _ _ => finv_finish _ _ _ nofun
  case popped =>
    intro acc p t set hph e hmax ht hset
    rw [same (e ▸ nofun)]
    have hp := live hph nofun
    obtain ⟨⟨L, hL, hLk⟩, -⟩ := h.picking _ hph
    have hw1 := PartialSolution.afterPrioritize_wf' hp.wf acc
      (fun q hq' => PartialSolution.toPrioritize_sound hp.wf.wf hL q (hLk ▸ hq'))
    have he := hf.picking _ hph
    refine finv_choosing rfl (he.pick hL hLk hw1.wf p) rfl ?_
    -- `p` was queued with its current set, which is the set it was last reported for
    obtain ⟨pr, hpr, -⟩ := isMaximal_spec hmax
    obtain ⟨sq, hlq, hall⟩ := he.settled hL hLk hpr
    obtain ⟨pa, set2, hpa, hinter⟩ := hw1.wf.queue_sub p pr (SmallMap.mem_of_get hpr)
    obtain ⟨i, -, hi⟩ := PartialSolution.getElem_of_getPA (ps := s.st.ps) hpa
    cases Solver.unwrapPositive_ok hset
    have ht' : (pa.inter.term : Term S) = .pos set := by
      have hpa' : SmallMap.get s.st.ps.assignments p = some pa := hpa
      simpa [PartialSolution.termIntersectionForPackage, PartialSolution.getPA,
        PartialSolution.afterPrioritize, hpa'] using ht
    rw [hinter] at ht'
    cases ht'
    exact ⟨pr, by rw [hlq, hall i pa set hi hinter]⟩
  case noVersion =>
    intro p t inc st hph e _ hadd
    rw [same (e ▸ nofun)]
    obtain ⟨-, eps⟩ := State.addIncompatibility_pinv hadd (live hph nofun)
    exact finv_loopAgain _ s st (eps ▸ (hf.choosing p t hph).1)
  case fetch =>
    intro p t v hph e _ _
    rw [same (e ▸ nofun)]
    obtain ⟨hfr, hch⟩ := hf.choosing p t hph
    exact finv_fetching rfl hfr hch
  case redecided =>
    intro p t v ps hph e _ _ hps
    rw [same (e ▸ nofun)]
    obtain ⟨hfr, hch⟩ := hf.choosing p t hph
    obtain ⟨-, -, -, hqn, pa, set', hpa, hinter⟩ := h.choosing p t hph
    exact finv_loopAgain _ _ _
      (PartialSolution.addDecision_qfresh (live hph nofun).wf.wf hfr hch hqn hps hpa hinter)
  case unavailable =>
    intro p v m st hph e hadd
    rw [same (e ▸ nofun)]
    obtain ⟨-, eps⟩ := State.addIncompatibility_pinv hadd (live hph nofun)
    exact finv_loopAgain _ s st (eps ▸ (hf.fetching p v hph).1)
  case available =>
    intro p v deps st start stop ps hph e hadd hps
    rw [same (e ▸ nofun)]
    obtain ⟨hfr, hch⟩ := hf.fetching p v hph
    obtain ⟨-, ⟨-, hqn, pa, set', hpa, hinter⟩, -⟩ := h.fetching p v hph
    obtain ⟨hp1, eps⟩ := State.addIncompatibilityFromDependencies_pinv hadd (live hph nofun)
    have hfr1 : st.ps.QFresh lp := eps ▸ hfr
    rcases PartialSolution.addVersion_spec hps with hps | ⟨rfl, -⟩
    · exact finv_loopAgain _ _ _ (PartialSolution.addDecision_qfresh hp1.wf.wf hfr1 (eps ▸ hch)
        (eps ▸ hqn) hps (eps ▸ hpa) hinter)
    · exact finv_loopAgain _ _ _ hfr1

end Run
end Pubgrub
