/-
The store invariant under growth of the store (`Good` looks only at earlier entries), and the validity of
the terms kept in the partial solution.
-/
import PubgrubProofs.IncompatSound

set_option linter.unusedSectionVars false

namespace Pubgrub
open VersionSet

variable {P S V M Pr : Type} [DecidableEq P] [VersionSet S V] [DecidableEq S]
  [LawfulVersionSet S V]

/-! ### `Except` plumbing -/

theorem unwrapOr_ok {α : Type} {o : Option α} {site : String} {a : α}
    (h : unwrapOr o site = .ok a) : o = some a := by
  cases o <;> simp_all [unwrapOr]

theorem storeGet_ok {α : Type} {store : List α} {id : Nat} {a : α}
    (h : storeGet store id = .ok a) : store[id]? = some a := unwrapOr_ok h

theorem storeGet_lt {α : Type} {store : List α} {id : Nat} {a : α}
    (h : storeGet store id = .ok a) : id < store.length := by
  have := storeGet_ok h
  exact (List.getElem?_eq_some_iff.1 this).1

theorem storeInv_append (W : World P S V M) (root : P) (rv : V) (store extra : List (Incompat P S V M))
    (h : StoreInv W root rv store)
    (hx : ∀ (k : Nat) (i : Incompat P S V M), extra[k]? = some i → i.Good W root rv (store ++ extra) (store.length + k)) :
    StoreInv W root rv (store ++ extra) := by
  intro id i hi
  by_cases hlt : id < store.length
  · rw [List.getElem?_append_left hlt] at hi
    exact Incompat.good_append W root rv store extra id i (h id i hi) (Nat.le_of_lt hlt)
  · have hge : store.length ≤ id := Nat.le_of_not_lt hlt
    rw [List.getElem?_append_right hge] at hi
    have := hx (id - store.length) i hi
    rwa [Nat.add_sub_cancel' hge] at this

theorem storeInv_push (W : World P S V M) (root : P) (rv : V) (store : List (Incompat P S V M))
    (i : Incompat P S V M) (h : StoreInv W root rv store) (g : i.Good W root rv store store.length) :
    StoreInv W root rv (store ++ [i]) := by
  apply storeInv_append W root rv store [i] h
  intro k j hj
  cases k with
  | zero =>
    simp at hj; subst hj
    exact Incompat.good_append W root rv store [i] _ i g (Nat.le_refl _)
  | succ k => simp at hj

theorem storeInv_init (W : World P S V M) (root : P) (rv : V) :
    StoreInv W root rv [(Incompat.notRoot root rv : Incompat P S V M)] := by
  intro id i hi
  cases id with
  | zero => simp at hi; subst hi; exact Incompat.notRoot_good W root rv _ 0
  | succ k => simp at hi

/-- the accumulated terms of one package are valid -/
structure PackageAssignments.TermsValid (pa : PackageAssignments S V) : Prop where
  inter : pa.inter.term.Valid
  dated : ∀ dd ∈ pa.dated, dd.accumulated.Valid

/-- every term stored in the partial solution is valid -/
def PartialSolution.TermsValid (ps : PartialSolution P S V Pr) : Prop :=
  ∀ kv ∈ ps.assignments, kv.2.TermsValid

namespace PartialSolution

theorem termsValid_empty : (PartialSolution.empty : PartialSolution P S V Pr).TermsValid := by
  intro kv h; simp [PartialSolution.empty] at h

theorem termsValid_of_getPA {ps : PartialSolution P S V Pr} (h : ps.TermsValid) {p : P}
    {pa : PackageAssignments S V} (hp : ps.getPA p = some pa) : pa.TermsValid :=
  h (p, pa) (SmallMap.mem_of_get hp)

theorem termIntersection_valid {ps : PartialSolution P S V Pr} (h : ps.TermsValid) {p : P} {t : Term S}
    (hp : ps.termIntersectionForPackage p = some t) : t.Valid := by
  simp only [termIntersectionForPackage, Option.map_eq_some_iff] at hp
  obtain ⟨pa, hpa, rfl⟩ := hp
  exact (termsValid_of_getPA h hpa).inter

theorem termsValid_set {l : List (P × PackageAssignments S V)} (h : ∀ kv ∈ l, kv.2.TermsValid)
    (i : Nat) (x : P × PackageAssignments S V) (hx : x.2.TermsValid) :
    ∀ kv ∈ l.set i x, kv.2.TermsValid := by
  intro kv hkv
  rcases List.mem_or_eq_of_mem_set hkv with h' | h'
  · exact h kv h'
  · subst h'; exact hx

theorem termsValid_swap {l l' : List (P × PackageAssignments S V)} (h : ∀ kv ∈ l, kv.2.TermsValid)
    (i j : Nat) (hs : swapIndices l i j = .ok l') : ∀ kv ∈ l', kv.2.TermsValid := by
  unfold swapIndices at hs
  split at hs
  · rename_i a b ha hb
    injection hs with hs; subst hs
    have ha' := List.mem_of_getElem? ha
    have hb' := List.mem_of_getElem? hb
    exact termsValid_set (termsValid_set h i b (h b hb')) j a (h a ha')
  · cases hs

end PartialSolution
end Pubgrub
