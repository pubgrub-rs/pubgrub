/-
Range queries agree with membership (property C15).

Two statements need a hypothesis one would not expect; each stands next to a counterexample to the
statement without it:

* "`simplify` never has more segments" is false for an unsorted `vs`
  (`simplify_length_le_counterexample`); `simplify_length_le_partial` has `WF r` and
  `vs.Pairwise (· ≤ ·)` (only the latter is used, see `simplify_length_le_of_sorted`).
* "`from_range_bounds` of an interval without points is `empty`" is false for an empty version type
  (`fromRangeBounds_empty_counterexample`); `fromRangeBounds_empty_partial` has `[Nonempty V]`.

A sorted `vs` is `List.Pairwise (· ≤ ·) vs` (ascending, repeats allowed).
-/
import PubgrubProofs.RangeLocations

namespace Pubgrub.Range
open Pubgrub Bound Query
variable {V : Type} [LinearOrder V]

theorem containsMany_eq_map (r : Range V) (hr : WF r) (vs : List V)
    (hs : vs.Pairwise (· ≤ ·)) : containsMany r vs = vs.map (contains r) := by
  unfold containsMany
  exact map_eq_of_forall₂ (locations_spec0 r hr vs hs) fun _ _ h => loc_isSome h

theorem simplify_agrees (r : Range V) (hr : WF r) (vs : List V) (hs : vs.Pairwise (· ≤ ·))
    (v : V) (hv : v ∈ vs) : contains (simplify r vs) v = contains r v := by
  unfold simplify
  split
  · rfl
  · simp only
    split
    · rfl
    · rw [keepSegments_groupAdjacentLocations, Bool.eq_iff_iff, contains_iff_mem, contains_iff_mem]
      exact grpTop_agrees (forall₂_locS (locations_spec0 r hr vs hs)) hs v hv

theorem simplify_length_le_of_sorted (r : Range V) (vs : List V) (hs : vs.Pairwise (· ≤ ·)) :
    (simplify r vs).length ≤ r.length := by
  unfold simplify
  split
  · exact Nat.le_refl _
  · simp only
    split
    · exact Nat.le_refl _
    · simpa [keepSegments] using groupAdjacentLocations_locations_length r 0 vs hs

/-- `WF r` is not used; the statement without `hs` is false, see below -/
theorem simplify_length_le_partial (r : Range V) (_hr : WF r) (vs : List V)
    (hs : vs.Pairwise (· ≤ ·)) : (simplify r vs).length ≤ r.length :=
  simplify_length_le_of_sorted r vs hs

/-- `[3, 7]` simplified against the unsorted `5, 1, 5, 1, 5` has three segments -/
theorem simplify_length_le_counterexample :
    ¬ ∀ (r : Range Nat) (vs : List Nat), (simplify r vs).length ≤ r.length := by
  intro h
  have := h [(incl 3, incl 7)] [5, 1, 5, 1, 5]
  simp [simplify, asSingleton, locations, withinBounds, groupAdjacentLocations, groupAdj,
    keepSegments] at this

theorem simplify_singleton (r : Range V) (vs : List V) (h : (asSingleton r).isSome = true) :
    simplify r vs = r := by
  simp [simplify, h]

theorem simplify_none_match (r : Range V) (hr : WF r) (vs : List V) (hs : vs.Pairwise (· ≤ ·))
    (h : ∀ v ∈ vs, contains r v = false) : simplify r vs = r := by
  have := groupAdjacentLocations_all_none _ (all_none_of_forall₂ (locations_spec0 r hr vs hs) h)
  simp [simplify, this]

theorem wf_simplify (r : Range V) (hr : WF r) (vs : List V) (hs : vs.Pairwise (· ≤ ·)) :
    WF (simplify r vs) := by
  unfold simplify
  split
  · exact hr
  · simp only
    split
    · exact hr
    · rw [keepSegments_groupAdjacentLocations]
      exact wf_grpTop (forall₂_locS (locations_spec0 r hr vs hs)) hs

set_option linter.unusedSectionVars false in
theorem boundingRange_eq_none_iff (r : Range V) : boundingRange r = none ↔ r = [] := by
  cases r with
  | nil => simp [boundingRange]
  | cons a t =>
    obtain ⟨s, e⟩ := a
    rcases hl : ((s, e) :: t).getLast? with _ | ⟨s', e'⟩
    · simp at hl
    · simp [boundingRange, hl]

namespace Query

theorem belowEnd_of_gap {v : V} {e s' e' : Bound V} (hg : endBeforeStartWithGap e s' = true)
    (hv : validSegment s' e' = true) (hb : belowEnd v e) : belowEnd v e' :=
  by_contra fun h => not_below_of_gap hg v (above_of_not_below hv v h) hb

theorem wf_belowEnd_last {r : Range V} (hr : WF r) {sg l : Seg V} (hm : sg ∈ r)
    (hl : r.getLast? = some l) {v : V} (hv : belowEnd v sg.2) : belowEnd v l.2 := by
  induction r generalizing sg with
  | nil => cases hm
  | cons hd t ih =>
    cases t with
    | nil =>
      obtain rfl := List.mem_singleton.1 hm
      obtain rfl := Option.some.inj hl
      exact hv
    | cons hd' t' =>
      rw [List.getLast?_cons_cons] at hl
      obtain ⟨-, hg, ht⟩ := (wf_cons hd.1 hd.2 _).1 hr
      rcases List.mem_cons.1 hm with rfl | hm
      · exact ih ht List.mem_cons_self hl (belowEnd_of_gap (hg hd' rfl) (wf_head_valid ht) hv)
      · exact ih ht hm hl hv

end Query

theorem boundingRange_covers (r : Range V) (hr : WF r) (s e : Bound V)
    (h : boundingRange r = some (s, e)) (v : V) (hv : contains r v = true) :
    Seg.Mem v (s, e) := by
  obtain ⟨sg, hsg, hm⟩ := (contains_iff_mem r v).1 hv
  cases r with
  | nil => cases hsg
  | cons a t =>
    obtain ⟨s0, e0⟩ := a
    rcases hl : ((s0, e0) :: t).getLast? with _ | ⟨s', e'⟩
    · simp at hl
    · simp only [boundingRange, hl, List.head?_cons, Option.some.injEq, Prod.mk.injEq] at h
      obtain ⟨rfl, rfl⟩ := h
      refine ⟨?_, wf_belowEnd_last hr hsg hl hm.2⟩
      rcases List.mem_cons.1 hsg with rfl | hsg
      · exact hm.1
      · exact above_head (s := (s0, e0)) hr ((mem_cons ..).2 (.inr ⟨sg, hsg, hm⟩))

theorem asSingleton_eq_some_iff (r : Range V) (v : V) :
    asSingleton r = some v ↔ r = singleton v := by
  constructor
  · intro h
    unfold asSingleton at h
    split at h
    · split at h
      · simp_all [singleton]
      · simp at h
    · simp at h
  · rintro rfl
    simp [asSingleton, singleton]

theorem contains_fromRangeBounds (s e : Bound V) (v : V) :
    contains (fromRangeBounds s e) v = true ↔ Seg.Mem v (s, e) := by
  unfold fromRangeBounds
  split
  · simp [contains_iff_mem, Range.Mem]
  · rename_i hval
    simp only [contains_iff_mem, Range.Mem, empty, List.not_mem_nil, false_and, exists_false, false_iff]
    exact fun hm => hval (valid_of_mem hm.1 hm.2)

theorem wf_fromRangeBounds (s e : Bound V) : WF (fromRangeBounds s e) := by
  unfold fromRangeBounds
  split
  · rename_i hval
    simpa [WF, checkInvariants] using hval
  · exact wf_nil

/-- `from_range_bounds` yields the empty range for an interval without points; false without
`[Nonempty V]`, see below -/
theorem fromRangeBounds_empty_partial [DenselyOrdered V] [NoMinOrder V] [NoMaxOrder V]
    [Nonempty V] (s e : Bound V) (h : ∀ v, ¬ Seg.Mem v (s, e)) : fromRangeBounds s e = empty := by
  unfold fromRangeBounds
  split
  · rename_i hval
    obtain ⟨v, hv⟩ := seg_exists_mem hval
    exact absurd hv (h v)
  · rfl

/-- when the version type is empty, `(unb, unb)` has no point, but `from_range_bounds` still returns
the one-segment range `full` -/
theorem fromRangeBounds_empty_counterexample :
    ∃ (_ : DenselyOrdered Empty) (_ : NoMinOrder Empty) (_ : NoMaxOrder Empty) (s e : Bound Empty),
      (∀ v, ¬ Seg.Mem v (s, e)) ∧ fromRangeBounds s e ≠ empty :=
  ⟨⟨fun a => a.elim⟩, ⟨fun a => a.elim⟩, ⟨fun a => a.elim⟩, unb, unb, fun v => v.elim,
    by simp [fromRangeBounds, validSegment, empty]⟩

end Pubgrub.Range
