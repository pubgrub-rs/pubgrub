/-
The state-level invariant `TInv` behind `CauseInv` and the satisfier search (global indices and levels
ordered alike, accumulated terms shrinking, `CauseInv`, the special role of the root and of level 0), and
its preservation by a derivation and by a decision.
-/
import PubgrubProofs.BacktrackPackage

set_option linter.unusedSectionVars false

namespace Pubgrub
open VersionSet

section
variable {P S V M Pr : Type} [DecidableEq P] [VersionSet S V] [DecidableEq S] [LawfulVersionSet S V]

/-- what is special about the root package and about decision level 0 -/
structure RootInv (root : P) (rv : V) (st : State P S V M Pr) : Prop where
  lvl0 : st.ps.currentDecisionLevel = 0 → st.ps.hasEverBacktracked = false ∧
    (∀ inc ∈ st.store, ∀ kv ∈ inc.terms, kv.1 = root) ∧
    (∀ kv ∈ st.ps.assignments, kv.1 = root ∧ kv.2.inter = .derivations (Term.exact rv))
  empty : st.ps.assignments = [] → st.store = [Incompat.notRoot root rv]
  dated0 : ∀ p pa, (p, pa) ∈ st.ps.assignments → ∀ dd ∈ pa.dated, dd.decisionLevel = 0 → p = root
  first : ∀ p pa, (p, pa) ∈ st.ps.assignments → ∀ g v t, pa.inter = .decision g v t → pa.highest = 1 →
    p = root ∧ v = rv

structure TInv (root : P) (rv : V) (st : State P S V M Pr) : Prop where
  gmono : st.ps.GMono
  shrink : ∀ kv ∈ st.ps.assignments, kv.2.Shrink
  cause : st.CauseInv
  rootinv : RootInv root rv st

theorem TInv.searchCtx {W : World P S V M} {root : P} {rv : V} {st : State P S V M Pr}
    (hs : SInv W root rv st) (hp : PInv st) (ht : TInv root rv st) : SearchCtx root rv st.ps st.store := by
  refine ⟨hp.wf, hs.ps, ht.gmono, ?_, ht.rootinv.dated0, ht.rootinv.first⟩
  intro p pa hm dd hdd
  obtain ⟨inc, hinc, hsome, _⟩ := ht.cause p pa hm dd hdd
  cases hg : inc.get p with
  | none => rw [hg] at hsome; cases hsome
  | some t => exact ⟨inc, t, hinc, hg, Incompat.get_valid W root rv hs.store hinc hg⟩

theorem State.CauseInv.keep {st st' : State P S V M Pr} (hc : st.CauseInv) (hw : st.ps.WF')
    (hstore : ∀ (i : Nat) (inc : Incompat P S V M), st.store[i]? = some inc → st'.store[i]? = some inc)
    (htrans : ∀ r par g, st.ps.getPA r = some par → g ≤ st.ps.nextGlobalIndex →
      ∃ par', st'.ps.getPA r = some par' ∧ par'.termBefore g = par.termBefore g)
    {q : P} {qa : PackageAssignments S V} {dd : DatedDerivation S}
    (hq : (q, qa) ∈ st.ps.assignments) (hdd : dd ∈ qa.dated) :
    ∃ inc : Incompat P S V M, st'.store[dd.cause]? = some inc ∧ (inc.get q).isSome = true ∧
      ∀ r tr, (r, tr) ∈ inc.terms → r ≠ q →
        ∃ par t, st'.ps.getPA r = some par ∧ par.termBefore dd.globalIndex = some t ∧
          t.subsetOf tr = true := by
  obtain ⟨inc0, h1, h2, h3⟩ := hc q qa hq dd hdd
  refine ⟨inc0, hstore _ _ h1, h2, ?_⟩
  intro r tr hr hrq
  obtain ⟨par, t1, g1, g2, g3⟩ := h3 r tr hr hrq
  obtain ⟨i, _, hwf, _⟩ := hw.entry_of_mem hq
  obtain ⟨par', g4, g5⟩ := htrans r par _ g1 (Nat.le_of_lt (hwf.indices_lt dd hdd))
  exact ⟨par', t1, g4, by rw [g5]; exact g2, g3⟩

theorem TInv.congr_fields {root : P} {rv : V} {st st' : State P S V M Pr} (h : TInv root rv st)
    (ea : st'.ps.assignments = st.ps.assignments)
    (el : st'.ps.currentDecisionLevel = st.ps.currentDecisionLevel)
    (eb : st'.ps.hasEverBacktracked = st.ps.hasEverBacktracked) (es : st'.store = st.store) :
    TInv root rv st' := by
  obtain ⟨h1, h2, h3, ⟨r1, r2, r3, r4⟩⟩ := h
  refine ⟨?_, ?_, ?_, ⟨?_, ?_, ?_, ?_⟩⟩
  · unfold PartialSolution.GMono; rw [ea]; exact h1
  · rw [ea]; exact h2
  · unfold State.CauseInv PartialSolution.getPA; rw [ea, es]; exact h3
  · rw [ea, el, eb, es]; exact r1
  · rw [ea, es]; exact r2
  · rw [ea]; exact r3
  · rw [ea]; exact r4

theorem TInv.congr {root : P} {rv : V} {st st' : State P S V M Pr} (h : TInv root rv st)
    (e1 : st'.ps = st.ps) (e2 : st'.store = st.store) : TInv root rv st' :=
  h.congr_fields (by rw [e1]) (by rw [e1]) (by rw [e1]) e2

theorem TInv.storeExt {root : P} {rv : V} {st st' : State P S V M Pr} (h : TInv root rv st)
    (e1 : st'.ps = st.ps)
    (e2 : ∀ (i : Nat) (inc : Incompat P S V M), st.store[i]? = some inc → st'.store[i]? = some inc)
    (hne : st.ps.assignments ≠ [])
    (hl : st.ps.currentDecisionLevel = 0 → ∀ inc ∈ st'.store, ∀ kv ∈ inc.terms, kv.1 = root) :
    TInv root rv st' := by
  obtain ⟨h1, h2, h3, ⟨r1, r2, r3, r4⟩⟩ := h
  refine ⟨?_, ?_, ?_, ⟨?_, ?_, ?_, ?_⟩⟩
  · rw [e1]; exact h1
  · rw [e1]; exact h2
  · unfold State.CauseInv; rw [e1]
    intro p pa hm dd hdd
    obtain ⟨inc, g1, g2⟩ := h3 p pa hm dd hdd
    exact ⟨inc, e2 _ _ g1, g2⟩
  · rw [e1]
    intro h0
    obtain ⟨g1, g2, g3⟩ := r1 h0
    exact ⟨g1, hl h0, g3⟩
  · rw [e1]; intro h; exact absurd h hne
  · rw [e1]; exact r3
  · rw [e1]; exact r4


theorem gmonoL_extend {asg asg' : List (P × PackageAssignments S V)} {p : P} {e : Nat × Nat × Bool}
    (h : GMonoL asg)
    (hb : ∀ q qa, (q, qa) ∈ asg → ∀ a ∈ qa.events, a.1 < e.1 ∧ a.2.1 ≤ e.2.1 ∧ (e.2.2 = true → a.2.1 < e.2.1))
    (hm : ∀ q qa', (q, qa') ∈ asg' → (q, qa') ∈ asg ∨
      (q = p ∧ ∀ a ∈ qa'.events, a = e ∨ ∃ pa, (p, pa) ∈ asg ∧ a ∈ pa.events)) : GMonoL asg' := by
  -- every event is an old event of the same package, or the new event of `p`
  have hcl : ∀ q qa', (q, qa') ∈ asg' → ∀ a ∈ qa'.events,
      (∃ qa, (q, qa) ∈ asg ∧ a ∈ qa.events) ∨ (q = p ∧ a = e) := by
    intro q qa' hq a ha
    rcases hm q qa' hq with h1 | ⟨rfl, h2⟩
    · exact Or.inl ⟨qa', h1, ha⟩
    · rcases h2 a ha with e1 | ⟨pa, hpa, hpa'⟩
      · exact Or.inr ⟨rfl, e1⟩
      · exact Or.inl ⟨pa, hpa, hpa'⟩
  intro q1 qa1 q2 qa2 h1 h2 a ha b hb'
  rcases hcl q1 qa1 h1 a ha with ⟨pa1, hpa1, ha1⟩ | ⟨rfl, rfl⟩ <;>
    rcases hcl q2 qa2 h2 b hb' with ⟨pa2, hpa2, hb2⟩ | ⟨rfl, rfl⟩
  · exact h q1 pa1 q2 pa2 hpa1 hpa2 a ha1 b hb2
  · obtain ⟨x1, x2, x3⟩ := hb q1 pa1 hpa1 a ha1
    exact ⟨fun _ => ⟨x2, x3⟩, fun e' => by omega⟩
  · obtain ⟨x1, x2, x3⟩ := hb q2 pa2 hpa2 b hb2
    exact ⟨fun e' => by omega, fun e' => by omega⟩
  · exact ⟨fun e' => by omega, fun _ => rfl⟩

theorem PartialSolution.events_bound {ps : PartialSolution P S V Pr} (h : ps.WF') {q : P}
    {qa : PackageAssignments S V} (hq : (q, qa) ∈ ps.assignments) {a : Nat × Nat × Bool} (ha : a ∈ qa.events) :
    a.1 < ps.nextGlobalIndex ∧ a.2.1 ≤ ps.currentDecisionLevel := by
  obtain ⟨i, hi, hw, hx⟩ := h.entry_of_mem hq
  exact PackageAssignments.events_bound hw hx
    (PartialSolution.highest_le h.wf (PartialSolution.getPA_of_mem h.wf hq)) ha

/-- what a derivation does to the partial solution -/
structure DerivStep (ps ps' : PartialSolution P S V Pr) (p : P) (id : Nat) (t' : Term S)
    (pa' : PackageAssignments S V) : Prop where
  mem : ∀ q qa, (q, qa) ∈ ps'.assignments → (q, qa) ∈ ps.assignments ∨ (q = p ∧ qa = pa')
  getPA_self : ps'.getPA p = some pa'
  getPA_ne : ∀ q, q ≠ p → ps'.getPA q = ps.getPA q
  inter : pa'.inter = .derivations t'
  dated : ∃ old, pa'.dated = old ++ [⟨ps.nextGlobalIndex, ps.currentDecisionLevel, id, t'⟩] ∧
    ((∃ pa t0, ps.getPA p = some pa ∧ pa.inter = .derivations t0 ∧ old = pa.dated ∧
        ∃ x : Term S, x.Valid ∧ t' = t0.intersection x) ∨
      (ps.getPA p = none ∧ old = []))
  level : ps'.currentDecisionLevel = ps.currentDecisionLevel
  next : ps'.nextGlobalIndex = ps.nextGlobalIndex + 1
  backtracked : ps'.hasEverBacktracked = ps.hasEverBacktracked
  before : ∀ pa g, ps.getPA p = some pa → g ≤ ps.nextGlobalIndex → pa'.termBefore g = pa.termBefore g
  nonempty : ps'.assignments ≠ []

theorem PartialSolution.addDerivation_step (W : World P S V M) (root : P) (rv : V)
    {ps ps' : PartialSolution P S V Pr} {p : P} {id : Nat} {store : List (Incompat P S V M)}
    (hs : StoreInv W root rv store) (hw : ps.WF) (hr : ps.addDerivation p id store = .ok ps') :
    ∃ inc t t' pa', store[id]? = some inc ∧ inc.get p = some t ∧
      (ps.getPA p = none → t' = t.negate) ∧ DerivStep ps ps' p id t' pa' := by
  have hne := fun q (hq : q ≠ p) => PartialSolution.addDerivation_getPA_ne hw hr hq
  obtain ⟨inc, t, hinc, ht, hcase⟩ := PartialSolution.addDerivation_spec hr
  have htv : t.negate.Valid := Term.valid_negate _ (Incompat.get_valid W root rv hs hinc ht)
  rcases hcase with ⟨idx, pa, t0, hidx, hpa, ht0, rfl⟩ | ⟨hpa, rfl⟩
  · have hget := PartialSolution.getElem_of_indexOf_getPA hidx hpa
    have hlt := (List.getElem?_eq_some_iff.1 hget).1
    refine ⟨inc, t, t0.intersection t.negate,
      pa.pushDD ps.currentDecisionLevel ps.nextGlobalIndex id (t0.intersection t.negate), hinc, ht,
      (fun h => by rw [hpa] at h; cases h), ?_⟩
    refine ⟨?_, ?_, hne, rfl, ⟨pa.dated, rfl, Or.inl ⟨pa, t0, hpa, ht0, rfl, t.negate, htv, rfl⟩⟩, rfl, rfl, rfl,
      ?_, ?_⟩
    · intro q qa hq
      rcases List.mem_or_eq_of_mem_set hq with h' | h'
      · exact Or.inl h'
      · injection h' with h1 h2; exact Or.inr ⟨h1, h2⟩
    · show SmallMap.get (ps.assignments.set idx _) p = _
      rw [SmallMap.get_set_same_key hw.keys hget, if_pos rfl]; rfl
    · intro pa1 g hpa1 hg
      rw [hpa] at hpa1; injection hpa1 with hpa1; subst hpa1
      exact PackageAssignments.termBefore_pushDD ht0 _ _ _ _ hg
    · intro e
      have := congrArg List.length e
      simp only [List.length_set, List.length_nil] at this
      omega
  · refine ⟨inc, t, t.negate, PackageAssignments.single ps.currentDecisionLevel ps.nextGlobalIndex id t.negate,
      hinc, ht, fun _ => rfl, ?_⟩
    refine ⟨?_, ?_, hne, rfl, ⟨[], rfl, Or.inr ⟨hpa, rfl⟩⟩, rfl, rfl, rfl, ?_, ?_⟩
    · intro q qa hq
      simp only [List.mem_append, List.mem_singleton] at hq
      rcases hq with h' | h'
      · exact Or.inl h'
      · injection h' with h1 h2; exact Or.inr ⟨h1, h2⟩
    · show SmallMap.get (ps.assignments ++ _) p = _
      have hpa' : SmallMap.get ps.assignments p = none := hpa
      rw [SmallMap.get_append_none hpa']
      simp [SmallMap.get]; rfl
    · intro pa1 g hpa1; rw [hpa] at hpa1; cases hpa1
    · simp


theorem DerivStep.mem_dated {ps ps' : PartialSolution P S V Pr} {p : P} {id : Nat} {t' : Term S}
    {pa' : PackageAssignments S V} (h : DerivStep ps ps' p id t' pa') {dd : DatedDerivation S}
    (hdd : dd ∈ pa'.dated) :
    (∃ pa, ps.getPA p = some pa ∧ dd ∈ pa.dated) ∨
      dd = ⟨ps.nextGlobalIndex, ps.currentDecisionLevel, id, t'⟩ := by
  obtain ⟨old, hold, hc⟩ := h.dated
  rw [hold] at hdd
  rcases List.mem_append.1 hdd with h1 | h1
  · rcases hc with ⟨pa, t0, hpa, _, e, _⟩ | ⟨_, e⟩
    · subst e; exact Or.inl ⟨pa, hpa, h1⟩
    · subst e; cases h1
  · exact Or.inr (List.mem_singleton.1 h1)

theorem DerivStep.term_of_some {ps ps' : PartialSolution P S V Pr} {p : P} {id : Nat} {t t' : Term S}
    {pa pa' : PackageAssignments S V} (h : DerivStep ps ps' p id t' pa') (hw : ps.WF)
    {store : List (Incompat P S V M)} (hr : ps.addDerivation p id store = .ok ps') {inc : Incompat P S V M}
    (hinc : store[id]? = some inc) (ht : inc.get p = some t) (hpa : ps.getPA p = some pa) :
    t' = pa.inter.term.intersection t.negate := by
  obtain ⟨inc2, t2, hinc2, ht2, hnew⟩ := PartialSolution.addDerivation_term_self hw hr (o := pa.inter.term)
    (by simp only [PartialSolution.termIntersectionForPackage, hpa, Option.map_some])
  rw [hinc] at hinc2; injection hinc2 with e; subst e
  rw [ht] at ht2; injection ht2 with e; subst e
  simp only [PartialSolution.termIntersectionForPackage, h.getPA_self, Option.map_some, h.inter,
    AssignInter.term] at hnew
  exact Option.some.inj hnew

theorem DerivStep.transport {ps ps' : PartialSolution P S V Pr} {p : P} {id : Nat} {t' : Term S}
    {pa' : PackageAssignments S V} (h : DerivStep ps ps' p id t' pa') {r : P} {par : PackageAssignments S V}
    (hr : ps.getPA r = some par) {g : Nat} (hg : g ≤ ps.nextGlobalIndex) :
    ∃ par', ps'.getPA r = some par' ∧ par'.termBefore g = par.termBefore g := by
  by_cases hrp : r = p
  · subst hrp; exact ⟨pa', h.getPA_self, h.before par g hr hg⟩
  · exact ⟨par, by rw [h.getPA_ne r hrp]; exact hr, rfl⟩

theorem tinv_deriv (W : World P S V M) (root : P) (rv : V) {st st' : State P S V M Pr}
    (hs : SInv W root rv st) (hp : PInv st) (ht : TInv root rv st)
    {ps' : PartialSolution P S V Pr} {p : P} {id : Nat} {t t' : Term S} {pa' : PackageAssignments S V}
    {inc : Incompat P S V M}
    (hstep : DerivStep st.ps ps' p id t' pa') (hinc : st.store[id]? = some inc) (hgett : inc.get p = some t)
    (hnone : st.ps.getPA p = none → t' = t.negate)
    (hnew : ∀ r tr, (r, tr) ∈ inc.terms → r ≠ p → ∃ par, st.ps.getPA r = some par ∧ par.inter.term.Imp tr)
    (hroot : st.ps.currentDecisionLevel = 0 → p = root ∧ st.ps.assignments = [])
    (e1 : st'.ps = ps') (e2 : st'.store = st.store) : TInv root rv st' := by
  have hw := hp.wf
  have hmem' : ∀ q qa, (q, qa) ∈ st'.ps.assignments → (q, qa) ∈ st.ps.assignments ∨ (q = p ∧ qa = pa') := by
    rw [e1]; exact hstep.mem
  have hpaold : ∀ pa, st.ps.getPA p = some pa → (p, pa) ∈ st.ps.assignments := fun pa h => SmallMap.mem_of_get h
  refine ⟨?_, ?_, ?_, ?_⟩
  · -- gmono
    refine gmonoL_extend (p := p) (e := (st.ps.nextGlobalIndex, st.ps.currentDecisionLevel, false)) ht.gmono ?_ ?_
    · intro q qa hq a ha
      obtain ⟨h1, h2⟩ := PartialSolution.events_bound hw hq ha
      exact ⟨h1, h2, fun e => by cases e⟩
    · intro q qa hq
      rcases hmem' q qa hq with h1 | ⟨rfl, rfl⟩
      · exact Or.inl h1
      · refine Or.inr ⟨rfl, ?_⟩
        intro a ha
        rw [PackageAssignments.events_derivations hstep.inter, List.mem_map] at ha
        obtain ⟨dd, hdd, rfl⟩ := ha
        rcases hstep.mem_dated hdd with ⟨pa, hpa, hdd'⟩ | e
        · exact Or.inr ⟨pa, hpaold pa hpa, PackageAssignments.mem_events_dated hdd'⟩
        · subst e; exact Or.inl rfl
  · -- shrink
    intro kv hkv
    obtain ⟨q, qa⟩ := kv
    rcases hmem' q qa hkv with h1 | ⟨rfl, rfl⟩
    · exact ht.shrink _ h1
    · obtain ⟨old, hold, hc⟩ := hstep.dated
      unfold PackageAssignments.Shrink
      rw [hold, List.pairwise_append]
      rcases hc with ⟨pa, t0, hpa, ht0, e, x, hx, et'⟩ | ⟨_, e⟩
      · subst e
        have hpam := hpaold pa hpa
        obtain ⟨i, _, hwf, _⟩ := hw.entry_of_mem hpam
        refine ⟨ht.shrink _ hpam, List.pairwise_singleton _ _, ?_⟩
        intro a ha b hb
        rw [List.mem_singleton] at hb; subst hb
        simp only
        have h1 := PackageAssignments.term_imp_dated hwf (ht.shrink _ hpam) ha
        rw [ht0] at h1; simp only [AssignInter.term] at h1
        have hv0 : t0.Valid := by
          have := (hs.ps _ hpam).inter; rw [ht0] at this; exact this
        rw [et']
        exact Term.Imp.trans (Term.inter_imp_left hv0 hx) h1
      · subst e
        exact ⟨List.Pairwise.nil, List.pairwise_singleton _ _, by intro a ha; cases ha⟩
  · -- cause
    intro q qa hq dd hdd
    have hold := fun qa0 => ht.cause.keep (st' := st') (q := q) (qa := qa0) (dd := dd) hw
      (fun i inc h => by rw [e2]; exact h) (fun r par g hr hg => by rw [e1]; exact hstep.transport hr hg)
    rcases hmem' q qa hq with h1 | ⟨rfl, rfl⟩
    · exact hold qa h1 hdd
    · rcases hstep.mem_dated hdd with ⟨pa, hpa, hdd'⟩ | e
      · exact hold pa (hpaold pa hpa) hdd'
      · subst e
        refine ⟨inc, by rw [e2]; exact hinc, by rw [hgett]; rfl, ?_⟩
        intro r tr hr hrq
        obtain ⟨par, g1, g2⟩ := hnew r tr hr hrq
        obtain ⟨i, _, hwf, _⟩ := hw.entry_of_getPA g1
        refine ⟨par, par.inter.term, by rw [e1, hstep.getPA_ne r hrq]; exact g1,
          PackageAssignments.termBefore_current hwf (Nat.le_refl _), ?_⟩
        exact Term.subsetOf_of_imp (hs.ps _ (SmallMap.mem_of_get g1)).inter
          ((hs.store id inc hinc).sets r tr hr) g2
  · -- rootinv
    have hr := ht.rootinv
    refine ⟨?_, ?_, ?_, ?_⟩
    · intro h0
      rw [e1, hstep.level] at h0
      obtain ⟨hproot, hempty⟩ := hroot h0
      obtain ⟨g1, g2, g3⟩ := hr.lvl0 h0
      have hst := hr.empty hempty
      refine ⟨by rw [e1, hstep.backtracked]; exact g1, by rw [e2]; exact g2, ?_⟩
      intro kv hkv
      obtain ⟨q, qa⟩ := kv
      rcases hmem' q qa hkv with h1 | ⟨rfl, rfl⟩
      · rw [hempty] at h1; cases h1
      · refine ⟨hproot, ?_⟩
        have hnonep : st.ps.getPA q = none := by
          unfold PartialSolution.getPA; rw [hempty]; rfl
        rw [hstep.inter, hnone hnonep]
        rw [hst] at hinc
        have hid : id = 0 := by
          cases id with
          | zero => rfl
          | succ k => simp at hinc
        subst hid
        simp only [List.getElem?_cons_zero, Option.some.injEq] at hinc
        subst hinc
        rw [hproot] at hgett
        simp only [Incompat.get, Incompat.notRoot, SmallMap.get, if_true, Option.some.injEq] at hgett
        subst hgett
        rfl
    · intro h; rw [e1] at h; exact absurd h hstep.nonempty
    · intro q qa hq dd hdd h0
      rcases hmem' q qa hq with h1 | ⟨rfl, rfl⟩
      · exact hr.dated0 q qa h1 dd hdd h0
      · rcases hstep.mem_dated hdd with ⟨pa, hpa, hdd'⟩ | e
        · exact hr.dated0 q pa (hpaold pa hpa) dd hdd' h0
        · subst e; exact (hroot h0).1
    · intro q qa hq g v t0 hinter hh
      rcases hmem' q qa hq with h1 | ⟨rfl, rfl⟩
      · exact hr.first q qa h1 g v t0 hinter hh
      · rw [hstep.inter] at hinter; cases hinter


/-- what a decision does to the partial solution -/
structure DecStep (ps ps' : PartialSolution P S V Pr) (p : P) (pa' : PackageAssignments S V) : Prop where
  mem : ∀ q qa, (q, qa) ∈ ps'.assignments → (q, qa) ∈ ps.assignments ∨ (q = p ∧ qa = pa')
  mem_new : (p, pa') ∈ ps'.assignments
  getPA_self : ps'.getPA p = some pa'
  getPA_ne : ∀ q, q ≠ p → ps'.getPA q = ps.getPA q
  level : ps'.currentDecisionLevel = ps.currentDecisionLevel + 1
  next : ps'.nextGlobalIndex = ps.nextGlobalIndex + 1
  backtracked : ps'.hasEverBacktracked = ps.hasEverBacktracked

theorem PartialSolution.addDecision_step {ps ps' : PartialSolution P S V Pr} {debug : Bool} {p : P} {v : V}
    (h : ps.WF) (hr : PartialSolution.addDecision debug ps p v = .ok ps') (h' : ps'.WF)
    {t : Term S} {pa : PackageAssignments S V} (hpa : ps.getPA p = some pa) (ht : pa.inter = .derivations t) :
    DecStep ps ps' p (pa.decide ps.currentDecisionLevel ps.nextGlobalIndex v) := by
  obtain ⟨oldIdx, hget, hge, e1, e2, e3, e4, e5, hk⟩ := PartialSolution.addDecision_spec h hr hpa ht
  have hmem : ∀ q qa, (q, qa) ∈ ps'.assignments → (q, qa) ∈ ps.assignments ∨
      (q = p ∧ qa = pa.decide ps.currentDecisionLevel ps.nextGlobalIndex v) := by
    intro q qa hq
    obtain ⟨k, hk'⟩ := List.getElem?_of_mem hq
    rw [hk] at hk'
    split at hk'
    · injection hk' with hk'; injection hk' with h1 h2
      exact Or.inr ⟨h1.symm, h2.symm⟩
    · split at hk'
      · exact Or.inl (List.mem_of_getElem? hk')
      · exact Or.inl (List.mem_of_getElem? hk')
  have hnew : (p, pa.decide ps.currentDecisionLevel ps.nextGlobalIndex v) ∈ ps'.assignments := by
    apply List.mem_of_getElem? (i := ps.currentDecisionLevel)
    rw [hk, if_pos rfl]
  have hback : ∀ q qa, (q, qa) ∈ ps.assignments → q ≠ p → (q, qa) ∈ ps'.assignments := by
    intro q qa hq hqp
    obtain ⟨j, hj⟩ := List.getElem?_of_mem hq
    have hjo : j ≠ oldIdx := by
      intro e; subst e; rw [hget] at hj; injection hj with hj; injection hj with hj; exact hqp hj.symm
    by_cases hjd : j = ps.currentDecisionLevel
    · subst hjd
      apply List.mem_of_getElem? (i := oldIdx)
      rw [hk, if_neg (fun e => hjo e.symm), if_pos rfl]; exact hj
    · apply List.mem_of_getElem? (i := j)
      rw [hk, if_neg hjd, if_neg hjo]; exact hj
  refine ⟨hmem, hnew, SmallMap.get_of_mem h'.keys hnew, ?_, e1, e2, e5⟩
  intro q hqp
  cases hg : ps.getPA q with
  | some qa => exact SmallMap.get_of_mem h'.keys (hback q qa (SmallMap.mem_of_get hg) hqp)
  | none =>
    cases hg' : ps'.getPA q with
    | none => rfl
    | some qa' =>
      rcases hmem q qa' (SmallMap.mem_of_get hg') with h1 | ⟨h1, _⟩
      · have := SmallMap.get_of_mem h.keys h1
        unfold PartialSolution.getPA at hg
        rw [hg] at this; cases this
      · exact absurd h1 hqp

theorem tinv_decision (root : P) (rv : V) {st st' : State P S V M Pr}
    (hp : PInv st) (ht : TInv root rv st)
    {ps' : PartialSolution P S V Pr} {debug : Bool} {p : P} {v : V} {t : Term S} {pa : PackageAssignments S V}
    (hr : PartialSolution.addDecision debug st.ps p v = .ok ps') (hw' : ps'.WF)
    (hpa : st.ps.getPA p = some pa) (hinter : pa.inter = .derivations t) (hv : t.contains v = true)
    (e1 : st'.ps = ps')
    (e2 : ∀ (i : Nat) (inc : Incompat P S V M), st.store[i]? = some inc → st'.store[i]? = some inc) :
    TInv root rv st' := by
  have hw := hp.wf
  have hstep := PartialSolution.addDecision_step hw.wf hr hw' hpa hinter
  have hpam : (p, pa) ∈ st.ps.assignments := SmallMap.mem_of_get hpa
  have hmem' : ∀ q qa, (q, qa) ∈ st'.ps.assignments → (q, qa) ∈ st.ps.assignments ∨
      (q = p ∧ qa = pa.decide st.ps.currentDecisionLevel st.ps.nextGlobalIndex v) := by
    rw [e1]; exact hstep.mem
  have htrans : ∀ r par g, st.ps.getPA r = some par → g ≤ st.ps.nextGlobalIndex →
      ∃ par', st'.ps.getPA r = some par' ∧ par'.termBefore g = par.termBefore g := by
    intro r par g hr' hg
    rw [e1]
    by_cases hrp : r = p
    · subst hrp
      rw [hpa] at hr'; injection hr' with hr'; subst hr'
      exact ⟨_, hstep.getPA_self, PackageAssignments.termBefore_decide hinter _ _ _ hg⟩
    · exact ⟨par, by rw [hstep.getPA_ne r hrp]; exact hr', rfl⟩
  refine ⟨?_, ?_, ?_, ?_⟩
  · refine gmonoL_extend (p := p) (e := (st.ps.nextGlobalIndex, st.ps.currentDecisionLevel + 1, true))
      ht.gmono ?_ ?_
    · intro q qa hq a ha
      obtain ⟨h1, h2⟩ := PartialSolution.events_bound hw hq ha
      exact ⟨h1, by simp only; omega, fun _ => by simp only; omega⟩
    · intro q qa hq
      rcases hmem' q qa hq with h1 | ⟨rfl, rfl⟩
      · exact Or.inl h1
      · refine Or.inr ⟨rfl, ?_⟩
        intro a ha
        unfold PackageAssignments.events PackageAssignments.decide at ha
        simp only [List.mem_append, List.mem_singleton] at ha
        rcases ha with ha | ha
        · refine Or.inr ⟨pa, hpam, ?_⟩
          unfold PackageAssignments.events
          exact List.mem_append_left _ ha
        · exact Or.inl ha
  · intro kv hkv
    obtain ⟨q, qa⟩ := kv
    rcases hmem' q qa hkv with h1 | ⟨rfl, rfl⟩
    · exact ht.shrink _ h1
    · exact ht.shrink (q, pa) hpam
  · intro q qa hq dd hdd
    have hold := fun qa0 => ht.cause.keep (st' := st') (q := q) (qa := qa0) (dd := dd) hw e2 htrans
    rcases hmem' q qa hq with h1 | ⟨rfl, rfl⟩
    · exact hold qa h1 hdd
    · exact hold pa hpam hdd
  · have hr0 := ht.rootinv
    refine ⟨?_, ?_, ?_, ?_⟩
    · intro h0; rw [e1, hstep.level] at h0; omega
    · intro h; rw [e1] at h
      have := hstep.mem_new; rw [h] at this; cases this
    · intro q qa hq dd hdd h0
      rcases hmem' q qa hq with h1 | ⟨rfl, rfl⟩
      · exact hr0.dated0 q qa h1 dd hdd h0
      · exact hr0.dated0 q pa hpam dd hdd h0
    · intro q qa hq g v' t0 hint hh
      rcases hmem' q qa hq with h1 | ⟨rfl, rfl⟩
      · exact hr0.first q qa h1 g v' t0 hint hh
      · simp only [PackageAssignments.decide] at hint hh
        injection hint with _ hv' _
        subst hv'
        have h0 : st.ps.currentDecisionLevel = 0 := by omega
        obtain ⟨_, _, g3⟩ := hr0.lvl0 h0
        obtain ⟨g4, g5⟩ := g3 _ hpam
        refine ⟨g4, ?_⟩
        simp only at g5
        rw [hinter] at g5; injection g5 with g5; subst g5
        exact (LawfulVersionSet.contains_singleton (S := S) rv v).1 hv

end

end Pubgrub
