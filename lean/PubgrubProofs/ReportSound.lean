/-
The default reporter outputs a sound, well-formed linear proof (property C08): every step follows from
the premises it cites, the numbering is consecutive, every reference resolves, every leaf is cited, the
last line concludes the top of the tree, and the fuel given by `reportSteps` suffices.
All but the last are read off the postcondition of `buildRecursive` at the top of the tree
(`report_spec`); its parameter `HS` switches the entailment part on, so that the other properties need
no soundness hypothesis.
-/
import PubgrubProofs.ReporterFuel

namespace Pubgrub
open VersionSet

set_option linter.unusedSectionVars false

variable {P S V M : Type} [DecidableEq P] [VersionSet S V] [DecidableEq S]

theorem report_external_top (e : External P S V M) : reportSteps (.external e) = .ok (.inl e) := by
  rfl

/-- every step's conclusion is entailed by the premises it cites -/
theorem report_steps_sound (U : P → V → Prop) (t : DerivationTree P S V M) (hs : t.Sound U)
    (hc : t.SharedConsistent) (lines : List (Line P S V M)) (h : reportSteps t = .ok (.inr lines))
    (i : Nat) (l : Line P S V M) (hl : lines[i]? = some l) (c : List (P × Term S))
    (hcl : l.step.conclusion = some c) : Entails U (stepPremises lines i l.step) c := by
  obtain ⟨r, rfl, pb⟩ := report_spec U True t hc (fun _ => hs) lines h
  rw [stepPremises_eq]
  exact (pb.inv.ok i l hl).1 trivial c hcl

/-- numbers are assigned consecutively from 1 in order of appearance, a line carries at most one -/
theorem report_numbering (t : DerivationTree P S V M) (hc : t.SharedConsistent)
    (lines : List (Line P S V M)) (h : reportSteps t = .ok (.inr lines)) :
    allRefs lines = List.range' 1 (allRefs lines).length ∧ ∀ l ∈ lines, l.refs.length ≤ 1 := by
  obtain ⟨r, rfl, pb⟩ := report_spec (fun _ _ => True) False t hc (fun hf => hf.elim) lines h
  refine ⟨?_, pb.inv.one⟩
  have h1 := pb.inv.refs
  have h2 : (allRefs r.lines).length = r.refCount := by rw [h1, List.length_range']
  rw [h2]
  exact h1

/-- every numeric reference points to exactly one earlier line carrying that number, whose conclusion
is the clause it is cited for -/
theorem report_refs_resolve (t : DerivationTree P S V M) (hc : t.SharedConsistent)
    (lines : List (Line P S V M)) (h : reportSteps t = .ok (.inr lines))
    (i : Nat) (l : Line P S V M) (hl : lines[i]? = some l) (k : Nat) (terms : List (P × Term S))
    (hk : (k, terms) ∈ l.step.citedRefs) :
    conclusionOfRef (lines.take i) k = some terms ∧
      ((lines.take i).filter fun l' => l'.refs.contains k).length = 1 := by
  obtain ⟨r, rfl, pb⟩ := report_spec (fun _ _ => True) False t hc (fun hf => hf.elim) lines h
  exact (pb.inv.ok i l hl).2 k terms hk

/-- every external fact of the tree is cited at least once -/
theorem report_externals_cited (t : DerivationTree P S V M) (hc : t.SharedConsistent)
    (lines : List (Line P S V M)) (h : reportSteps t = .ok (.inr lines))
    (e : External P S V M) (he : e ∈ t.externals) : ∃ l ∈ lines, e ∈ l.step.namedExternals := by
  obtain ⟨r, rfl, pb⟩ := report_spec (fun _ _ => True) False t hc (fun hf => hf.elim) lines h
  exact mem_namedAll.mp (pb.named e he)

/-- the last step concludes the tree's top node -/
theorem report_last_concludes_top (t : DerivationTree P S V M) (hc : t.SharedConsistent)
    (lines : List (Line P S V M)) (h : reportSteps t = .ok (.inr lines)) :
    ∃ l, lines.getLast? = some l ∧ l.step.conclusion = some t.terms := by
  obtain ⟨r, rfl, pb⟩ := report_spec (fun _ _ => True) False t hc (fun hf => hf.elim) lines h
  obtain ⟨l, hl, hlc, -⟩ := pb.last
  exact ⟨l, hl, hlc⟩

/-- the fuel `8 * size + 8` given by `reportSteps` is always enough: the reporter terminates (the
re-entrant call in the both-derived case happens at most once per node because the first cause has
just received a line reference) -/
theorem report_terminates (t : DerivationTree P S V M) (hc : t.SharedConsistent) :
    ∃ r, reportSteps t = .ok r := by
  cases t with
  | external e => exact ⟨_, rfl⟩
  | derived terms sid c1 c2 =>
    rw [reportSteps]
    obtain ⟨r', hr'⟩ := (runs_all (.derived terms sid c1 c2)
      (8 * (DerivationTree.derived terms sid c1 c2 : DerivationTree P S V M).size + 8) (by omega)).1 Reporter.new
    rw [hr']
    exact ⟨_, rfl⟩

end Pubgrub
