/-
The solver theorems for `Range V` over any linear order `V` — in particular the discrete orders the
crate's users have (`u32`, `SemanticVersion`), for which `Range V` is not a `LawfulVersionSet`
(`1 < v < 2` is a canonical, member-free, non-`empty` set; `==` is finer than set equality).
Method: `Range.denseHom : VSetHom (Range V) V (Range (Dense V)) (Dense V)` (PubgrubProofs/RangeHom.lean)
embeds `Range V` into `Range (Dense V)`, which is lawful (`Range.lawful`, PubgrubProofs/VSetInstances.lean)
with canonical emptiness (`Range.canonicalEmpty`, PubgrubProofs/CanonInstances.lean); the solver commutes
with the embedding (PubgrubProofs/HomSolver.lean: `reachable_mapH`, `reachableWB_mapH`, `trace_mapH`, …);
so each theorem proved for lawful version sets is applied to the image run and pulled back.
The pull-backs are small: `IsSolution` / `ReachableFrom` / term evaluation are transported along
`σ ↦ (σ ·).map ι` using `map_contains`, injectivity of `ι`, `Dense.back_ι`.
-/
import PubgrubProofs.HomSolver
import PubgrubProofs.RangeHom
import PubgrubProofs.CanonInstances
import PubgrubProofs.OwnInvariant
import PubgrubProofs.ReachabilityC04
import PubgrubProofs.NoPanic
import PubgrubProofs.NonEmpty
import PubgrubProofs.TreeLink
import PubgrubProofs.HomSolutions

set_option linter.unusedSectionVars false

namespace Pubgrub
open VersionSet

variable {P V M Pr E : Type} [DecidableEq P] [LinearOrder V] [LE Pr] [DecidableLE Pr]

/-- every dependency set the provider hands out is a canonical segment list (what `Ranges`'
constructors and operations produce; `check_invariants` in range.rs) -/
def World.RangesWF (W : World P (Range V) V M) : Prop :=
  ∀ p v ds, W.deps p v = .available ds → ∀ d ∈ ds, Range.WF d.2


theorem World.setsValid_mapH [Nonempty V] (W : World P (Range V) V M) (hW : W.RangesWF) :
    (World.mapH Range.denseHom Dense.back W).SetsValid := by
  intro p v' ds' hds' d hd
  simp only [World.mapH] at hds'
  split at hds'
  · rename_i v hv
    obtain ⟨ds, hds, rfl⟩ := DepsAnswer.mapH_available _ _ _ hds'
    obtain ⟨q, s'⟩ := d
    obtain ⟨s, hs, rfl⟩ := (mem_depsMapH _ ds q s').1 hd
    exact (Range.wf_mapR Dense.ι Dense.ι_strictMono s).2 (hW p v ds hds (q, s) hs)
  · simp only [DepsAnswer.available.injEq] at hds'
    subst hds'
    cases hd

theorem range_reachable_image (W : World P (Range V) V M) (debug : Bool) (fuel : Nat)
    (root : P) (rv : V) (s : SolverState P (Range V) V M Pr) (req : Request P (Range V) V M Pr E)
    (h : Reachable W debug fuel root rv (s, req)) :
    Reachable (World.mapH Range.denseHom Dense.back W) debug fuel root (Dense.ι rv)
      (SolverState.mapH Range.denseHom s, Request.mapH Range.denseHom req) :=
  reachable_mapH Range.denseHom Dense.back Dense.back_ι W debug fuel root rv (s, req) h

theorem range_reachableWB_image (W : World P (Range V) V M) (debug : Bool) (fuel : Nat)
    (root : P) (rv : V) (s : SolverState P (Range V) V M Pr) (req : Request P (Range V) V M Pr E)
    (h : ReachableWB W debug fuel root rv (s, req)) :
    ReachableWB (World.mapH Range.denseHom Dense.back W) debug fuel root (Dense.ι rv)
      (SolverState.mapH Range.denseHom s, Request.mapH Range.denseHom req) :=
  reachableWB_mapH Range.denseHom Dense.back Dense.back_ι W debug fuel root rv (s, req) h

/-- C01 for `Range` over any linear order -/
theorem range_solution_valid (W : World P (Range V) V M) (hW : W.RangesWF) (debug : Bool) (fuel : Nat)
    (root : P) (rv : V) (s : SolverState P (Range V) V M Pr) (sel : List (P × V))
    (h : ReachableWB (E := E) W debug fuel root rv (s, .solution sel)) :
    IsSolution W root rv (fun p => SmallMap.get sel p) ∧
      (∀ p v, SmallMap.get sel p = some v → (p, v) ∈ s.added) := by
  have : Nonempty V := ⟨rv⟩
  obtain ⟨hsol, hadd⟩ := solution_valid _ (World.setsValid_mapH W hW) debug fuel root _ _ _
    (range_reachableWB_image W debug fuel root rv s _ h)
  simp only [SmallMap.get_mapVals] at hsol
  refine ⟨IsSolution.pull _ _ Dense.back_ι W root rv _ hsol, fun p v hp => ?_⟩
  exact mem_mapVals_inj Dense.ι (fun _ _ e => Dense.ι_strictMono.injective e) s.added p v
    (hadd p (Dense.ι v) (by rw [SmallMap.get_mapVals, hp]; rfl))

/-- C04 for `Range` over any linear order -/
theorem range_solution_reachable (W : World P (Range V) V M) (hW : W.RangesWF) (debug : Bool) (fuel : Nat)
    (root : P) (rv : V) (s : SolverState P (Range V) V M Pr) (sel : List (P × V))
    (h : ReachableWB (E := E) W debug fuel root rv (s, .solution sel))
    (p : P) (v : V) (hp : SmallMap.get sel p = some v) :
    ReachableFrom W root (fun q => SmallMap.get sel q) p := by
  have : Nonempty V := ⟨rv⟩
  have hr := solution_reachable _ (World.setsValid_mapH W hW) debug fuel root _ _ _
    (range_reachableWB_image W debug fuel root rv s _ h) p (Dense.ι v)
    (by rw [SmallMap.get_mapVals, hp]; rfl)
  simp only [SmallMap.get_mapVals] at hr
  exact ReachableFrom.pull _ _ Dense.back_ι W root _ p hr

/-- C02/C06 for `Range` over any linear order: `NoSolution` is only reported when there is no solution -/
theorem range_noSolution_sound (W : World P (Range V) V M) (hW : W.RangesWF) (debug : Bool) (fuel : Nat)
    (root : P) (rv : V) (s : SolverState P (Range V) V M Pr) (tree : DerivationTree P (Range V) V M)
    (h : Reachable (E := E) W debug fuel root rv (s, .noSolution tree)) :
    ¬ ∃ σ : P → Option V, IsSolution W root rv σ := by
  have : Nonempty V := ⟨rv⟩
  rintro ⟨σ, hσ⟩
  exact noSolution_sound _ (World.setsValid_mapH W hW) debug fuel root _ _ _
    (range_reachable_image W debug fuel root rv s _ h)
    ⟨_, IsSolution.push _ _ Dense.back_ι W root rv σ hσ⟩

/-- C06 for `Range` over any linear order: every stored incompatibility is valid -/
theorem range_store_valid (W : World P (Range V) V M) (hW : W.RangesWF) (debug : Bool) (fuel : Nat)
    (root : P) (rv : V) (s : SolverState P (Range V) V M Pr) (req : Request P (Range V) V M Pr E)
    (h : Reachable W debug fuel root rv (s, req)) (id : Nat) (i : Incompat P (Range V) V M)
    (hi : s.st.store[id]? = some i) :
    ∀ σ : P → Option V, IsSolution W root rv σ → ¬ (∀ p t, (p, t) ∈ i.terms → t.eval (σ p) = true) := by
  have : Nonempty V := ⟨rv⟩
  have hst := reachable_storeInv _ (World.setsValid_mapH W hW) debug fuel root _ _
    (range_reachable_image W debug fuel root rv s req h)
  intro σ hσ hall
  refine (hst id _ (State.store_mapH_getElem? _ s.st id i hi)).valid _ (IsSolution.push _ _ Dense.back_ι W root rv σ hσ) fun p t' ht' => ?_
  obtain ⟨t, ht, rfl⟩ := (mem_termsMapH _ i.terms p t').1 ht'
  exact (Term.eval_mapH _ t (σ p)).trans (hall p t ht)

/-- C05 for `Range` over any linear order: no panic, debug assertions included -/
theorem range_no_panic (W : World P (Range V) V M) (hW : W.RangesWF) (debug : Bool) (fuel : Nat)
    (root : P) (rv : V) (s : SolverState P (Range V) V M Pr) (site : String) :
    ¬ Reachable (E := E) W debug fuel root rv (s, .fault (.panic site)) := by
  have : Nonempty V := ⟨rv⟩
  intro h
  exact no_panic _ (World.setsValid_mapH W hW) debug fuel root _ _ site
    (range_reachable_image W debug fuel root rv s _ h)

/-- C05 for `Range` over any linear order: no `Failure` for a well-behaved provider -/
theorem range_no_failure (W : World P (Range V) V M) (hW : W.RangesWF) (debug : Bool) (fuel : Nat)
    (root : P) (rv : V) (s : SolverState P (Range V) V M Pr) (msg : String) :
    ¬ ReachableWB (E := E) W debug fuel root rv (s, .failure msg) := by
  have : Nonempty V := ⟨rv⟩
  intro h
  exact failure_only_out_of_set _ (World.setsValid_mapH W hW) debug fuel root _ _ msg
    (range_reachableWB_image W debug fuel root rv s _ h)

/-- C05 for `Range` over any linear order: the outcomes of a finished well-behaved run -/
theorem range_outcomes (W : World P (Range V) V M) (hW : W.RangesWF) (debug : Bool) (fuel : Nat)
    (root : P) (rv : V) (s : SolverState P (Range V) V M Pr) (req : Request P (Range V) V M Pr E)
    (h : ReachableWB W debug fuel root rv (s, req)) (hfin : req.isFinal = true) :
    (∃ sel, req = .solution sel) ∨ (∃ t, req = .noSolution t) ∨ req = .fault .outOfFuel ∨
      (∃ m, req = .protocolError m) := by
  have : Nonempty V := ⟨rv⟩
  rcases wellBehaved_outcomes _ (World.setsValid_mapH W hW) debug fuel root _ _ _
    (range_reachableWB_image W debug fuel root rv s _ h) ((isFinal_mapH _ req).trans hfin)
    with ⟨sel', hs⟩ | ⟨t', ht⟩ | hf | ⟨m, hm⟩
  · exact Or.inl (Request.mapH_solution _ _ _ hs)
  · exact Or.inr (Or.inl (Request.mapH_noSolution _ _ _ ht))
  · exact Or.inr (Or.inr (Or.inl (Request.mapH_fault _ _ _ hf)))
  · exact Or.inr (Or.inr (Or.inr ⟨m, Request.mapH_protocolError _ _ _ hm⟩))

/-- C12 for `Range` over any linear order: `choose_version` is never asked about `Ranges::empty()`
(structurally: the set may still be member-free over a discrete order, e.g. `1 < v < 2`) -/
theorem range_choose_nonempty (W : World P (Range V) V M) (hW : W.RangesWF) (debug : Bool) (fuel : Nat)
    (root : P) (rv : V) (s : SolverState P (Range V) V M Pr) (p : P) (set : Range V)
    (h : Reachable (E := E) W debug fuel root rv (s, .chooseVersion p set)) :
    set ≠ Range.empty := by
  have : Nonempty V := ⟨rv⟩
  obtain ⟨v', hv'⟩ := choose_nonempty _ (World.setsValid_mapH W hW) debug fuel root _ _ p _
    (range_reachable_image W debug fuel root rv s _ h)
  rintro rfl
  -- the image of `Ranges::empty()` is `Ranges::empty()`, which has no member
  exact Bool.false_ne_true ((LawfulVersionSet.contains_empty v').symm.trans hv')

theorem range_requests_wf (W : World P (Range V) V M) (hW : W.RangesWF) (debug : Bool) (fuel : Nat)
    (root : P) (rv : V) (s : SolverState P (Range V) V M Pr) (p : P) (set : Range V)
    (h : Reachable (E := E) W debug fuel root rv (s, .chooseVersion p set) ∨
         Reachable (E := E) W debug fuel root rv (s, .prioritize p set)) :
    Range.WF set := by
  have : Nonempty V := ⟨rv⟩
  refine (Range.wf_mapR Dense.ι Dense.ι_strictMono set).1 ?_
  exact request_set_valid (E := E) _ (World.setsValid_mapH W hW) debug fuel root _ _ p _
    (h.imp (range_reachable_image W debug fuel root rv s _) (range_reachable_image W debug fuel root rv s _))

end Pubgrub
