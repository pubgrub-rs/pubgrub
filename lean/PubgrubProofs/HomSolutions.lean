/-
Transport of the solver-level vocabulary (`IsSolution`, `ReachableFrom`, term evaluation, association
lists) along an injective version-set homomorphism, and the validity of the sets handed to the provider
(for lawful version sets).
-/
import PubgrubProofs.HomSolver
import PubgrubProofs.PSInvariant
import PubgrubProofs.NonEmpty

set_option linter.unusedSectionVars false

namespace Pubgrub
open VersionSet

section Transport
variable {P S V S' V' M Pr E : Type} {_ : VersionSet S V} {_ : VersionSet S' V'}

theorem DepsAnswer.mapH_available (h : VSetHom S V S' V') (d : DepsAnswer P S M) (ds' : List (P × S'))
    (hd : DepsAnswer.mapH h d = .available ds') : ∃ ds, d = .available ds ∧ ds' = depsMapH h ds := by
  cases d with
  | unavailable m => simp [DepsAnswer.mapH] at hd
  | available ds =>
    simp only [DepsAnswer.mapH, DepsAnswer.available.injEq] at hd
    exact ⟨ds, rfl, hd.symm⟩

theorem mem_depsMapH (h : VSetHom S V S' V') (ds : List (P × S)) (q : P) (s' : S') :
    (q, s') ∈ depsMapH h ds ↔ ∃ s, (q, s) ∈ ds ∧ s' = h.f s := by
  simp only [depsMapH, List.mem_map, Prod.mk.injEq, Prod.exists]
  constructor
  · rintro ⟨a, b, hab, rfl, rfl⟩; exact ⟨b, hab, rfl⟩
  · rintro ⟨s, hs, rfl⟩; exact ⟨q, s, hs, rfl, rfl⟩

theorem mem_termsMapH (h : VSetHom S V S' V') (l : List (P × Term S)) (q : P) (t' : Term S') :
    (q, t') ∈ termsMapH h l ↔ ∃ t, (q, t) ∈ l ∧ t' = Term.mapH h t := by
  simp only [termsMapH, List.mem_map, Prod.mk.injEq, Prod.exists]
  constructor
  · rintro ⟨a, b, hab, rfl, rfl⟩; exact ⟨b, hab, rfl⟩
  · rintro ⟨s, hs, rfl⟩; exact ⟨q, s, hs, rfl, rfl⟩

theorem State.store_mapH_getElem? (h : VSetHom S V S' V') (st : State P S V M Pr) (id : Nat)
    (i : Incompat P S V M) (hi : st.store[id]? = some i) :
    (State.mapH h st).store[id]? = some (Incompat.mapH h i) := by
  show (st.store.map (Incompat.mapH h))[id]? = _
  rw [List.getElem?_map, hi]; rfl

theorem option_map_eq_some_inj (h : VSetHom S V S' V') (o : Option V) (v : V)
    (ho : o.map h.ι = some (h.ι v)) : o = some v := by
  cases o with
  | none => simp at ho
  | some w =>
    simp only [Option.map_some, Option.some.injEq] at ho
    rw [h.ι_inj _ _ ho]

theorem ReachableFrom.pull (h : VSetHom S V S' V') (back : V' → Option V)
    (hback : ∀ v, back (h.ι v) = some v) (W : World P S V M) (root : P) (σ : P → Option V) (p : P)
    (hr : ReachableFrom (World.mapH h back W) root (fun q => (σ q).map h.ι) p) :
    ReachableFrom W root σ p := by
  induction hr with
  | root => exact .root
  | dep p q v' ds' s' _ hv' hds' hq ih =>
    simp only [Option.map_eq_some_iff] at hv'
    obtain ⟨v, hv, rfl⟩ := hv'
    rw [World.mapH_deps h back hback] at hds'
    obtain ⟨ds, hds, rfl⟩ := DepsAnswer.mapH_available h _ _ hds'
    obtain ⟨s, hs, rfl⟩ := (mem_depsMapH h ds q s').1 hq
    exact .dep p q v ds s ih hv hds hs


theorem mem_mapVals_inj {K T T' : Type} (g : T → T') (hg : ∀ a b, g a = g b → a = b)
    (l : List (K × T)) (k : K) (v : T) (hm : (k, g v) ∈ l.map fun kv => (kv.1, g kv.2)) :
    (k, v) ∈ l := by
  obtain ⟨⟨a, b⟩, hab, he⟩ := List.mem_map.1 hm
  simp only [Prod.mk.injEq] at he
  obtain ⟨rfl, he⟩ := he
  rw [← hg _ _ he]; exact hab

end Transport

section TraceTransport
variable {P S V S' V' M Pr E : Type} [DecidableEq P] {_ : VersionSet S V} {_ : VersionSet S' V'}
  [DecidableEq S] [DecidableEq V] [DecidableEq S'] [DecidableEq V'] [LE Pr] [DecidableLE Pr]

theorem trace_mapH_getElem? (h : VSetHom S V S' V') (debug : Bool) (fuel : Nat) (root : P) (rv : V)
    (as : List (Answer P S V M Pr E)) (k : Nat) (r : Request P S V M Pr E)
    (hk : (Solver.trace debug fuel root rv as)[k]? = some r) :
    (Solver.trace debug fuel root (h.ι rv) (as.map (Answer.mapH h)))[k]? = some (Request.mapH h r) := by
  rw [trace_mapH, List.getElem?_map, hk]; rfl

theorem PartialSolution.getPA_mapH_some (h : VSetHom S V S' V') (ps : PartialSolution P S V Pr) (p : P)
    (pa : PackageAssignments S V) (hp : ps.getPA p = some pa) :
    (PartialSolution.mapH h ps).getPA p = some (PackageAssignments.mapH h pa) := by
  rw [PartialSolution.getPA_mapH, hp]; rfl

theorem PackageAssignments.inter_mapH_pos (h : VSetHom S V S' V') (pa : PackageAssignments S V) (set : S)
    (hpos : pa.inter = .derivations (.pos set)) :
    (PackageAssignments.mapH h pa).inter = .derivations (.pos (h.f set)) := by
  rw [PackageAssignments.mapH_inter, hpos]; rfl

end TraceTransport

section TransportInst
variable {P S V S' V' M Pr E : Type} [VersionSet S V] [VersionSet S' V']

theorem IsSolution.push (h : VSetHom S V S' V') (back : V' → Option V)
    (hback : ∀ v, back (h.ι v) = some v) (W : World P S V M) (root : P) (rv : V) (σ : P → Option V)
    (hs : IsSolution W root rv σ) :
    IsSolution (World.mapH h back W) root (h.ι rv) (fun p => (σ p).map h.ι) := by
  refine ⟨?_, ?_, ?_⟩
  · simp [hs.root]
  · intro p v' hv'
    simp only [Option.map_eq_some_iff] at hv'
    obtain ⟨v, hv, rfl⟩ := hv'
    exact List.mem_map.2 ⟨v, hs.offered p v hv, rfl⟩
  · intro p v' hv'
    simp only [Option.map_eq_some_iff] at hv'
    obtain ⟨v, hv, rfl⟩ := hv'
    obtain ⟨ds, hds, hall⟩ := hs.deps p v hv
    refine ⟨depsMapH h ds, ?_, ?_⟩
    · rw [World.mapH_deps h back hback, hds]; rfl
    · intro q s' hq
      obtain ⟨s, hs', rfl⟩ := (mem_depsMapH h ds q s').1 hq
      obtain ⟨w, hw, hc⟩ := hall q s hs'
      exact ⟨h.ι w, by simp [hw], by rw [h.map_contains]; exact hc⟩

theorem IsSolution.pull (h : VSetHom S V S' V') (back : V' → Option V)
    (hback : ∀ v, back (h.ι v) = some v) (W : World P S V M) (root : P) (rv : V) (σ : P → Option V)
    (hs : IsSolution (World.mapH h back W) root (h.ι rv) (fun p => (σ p).map h.ι)) :
    IsSolution W root rv σ := by
  refine ⟨?_, ?_, ?_⟩
  · exact option_map_eq_some_inj h _ _ hs.root
  · intro p v hv
    have := hs.offered p (h.ι v) (by simp [hv])
    obtain ⟨w, hw, he⟩ := List.mem_map.1 this
    rw [← h.ι_inj _ _ he]; exact hw
  · intro p v hv
    obtain ⟨ds', hds', hall⟩ := hs.deps p (h.ι v) (by simp [hv])
    rw [World.mapH_deps h back hback] at hds'
    obtain ⟨ds, hds, rfl⟩ := DepsAnswer.mapH_available h _ _ hds'
    refine ⟨ds, hds, ?_⟩
    intro q s hq
    obtain ⟨w', hw', hc⟩ := hall q (h.f s) ((mem_depsMapH h ds q _).2 ⟨s, hq, rfl⟩)
    simp only [Option.map_eq_some_iff] at hw'
    obtain ⟨w, hw, rfl⟩ := hw'
    exact ⟨w, hw, by rw [h.map_contains] at hc; exact hc⟩

theorem Request.mapH_solution (h : VSetHom S V S' V') (r : Request P S V M Pr E) (sel' : List (P × V'))
    (hr : Request.mapH h r = .solution sel') : ∃ sel, r = .solution sel := by
  cases r <;> simp [Request.mapH] at hr
  exact ⟨_, rfl⟩

theorem Request.mapH_noSolution (h : VSetHom S V S' V') (r : Request P S V M Pr E)
    (t' : DerivationTree P S' V' M) (hr : Request.mapH h r = .noSolution t') :
    ∃ t, r = .noSolution t := by
  cases r <;> simp [Request.mapH] at hr
  exact ⟨_, rfl⟩

theorem Request.mapH_fault (h : VSetHom S V S' V') (r : Request P S V M Pr E) (f : Fault)
    (hr : Request.mapH h r = .fault f) : r = .fault f := by
  cases r <;> simp [Request.mapH] at hr
  rw [hr]

theorem Request.mapH_protocolError (h : VSetHom S V S' V') (r : Request P S V M Pr E) (m : String)
    (hr : Request.mapH h r = .protocolError m) : r = .protocolError m := by
  cases r <;> simp [Request.mapH] at hr
  rw [hr]

end TransportInst

section RequestsValid
variable {P S V M Pr E : Type} [DecidableEq P] [VersionSet S V] [DecidableEq S] [DecidableEq V]
  [LE Pr] [DecidableLE Pr] [LawfulVersionSet S V]

theorem prioritizing_of_prioritize {s : SolverState P S V M Pr} {p : P} {set : S}
    (hc : Solver.Coherent (E := E) (s, .prioritize p set)) :
    ∃ rest acc, s.phase = .prioritizing (p, set) rest acc := by
  unfold Solver.Coherent at hc
  split at hc
  · cases hc
  · rename_i cur rest acc hph
    simp only at hc
    injection hc with e1 e2
    subst e1; subst e2
    exact ⟨rest, acc, hph⟩
  · obtain ⟨_, hc⟩ := hc; cases hc
  · obtain ⟨_, hc, _⟩ := hc; cases hc
  · cases hc
  · simp [Request.isFinal] at hc

theorem PartialSolution.toPrioritize_valid {ps : PartialSolution P S V Pr} (hv : ps.TermsValid)
    {L : List (P × S)} (hL : ps.toPrioritize = .ok L) (cur : P × S) (hcur : cur ∈ L) :
    LawfulVersionSet.Valid V cur.2 := by
  unfold PartialSolution.toPrioritize at hL
  split_ifs at hL
  simp only [Except.ok.injEq] at hL
  subst hL
  simp only [List.mem_filterMap] at hcur
  obtain ⟨⟨p, pa⟩, hmem, hf⟩ := hcur
  have hmem' : (p, pa) ∈ ps.assignments := List.mem_of_mem_drop hmem
  have hpv := (hv (p, pa) hmem').inter
  simp only at hf
  split_ifs at hf
  unfold PartialSolution.potentialPackageFilter at hf
  split at hf
  · cases hf
  · rename_i t hint
    split at hf
    · rename_i s
      simp only [Option.some.injEq] at hf
      subst hf
      simp only at hpv ⊢
      rw [hint] at hpv
      exact hpv
    · cases hf

theorem request_set_valid (W : World P S V M) (hW : W.SetsValid) (debug : Bool) (fuel : Nat)
    (root : P) (rv : V) (s : SolverState P S V M Pr) (p : P) (set : S)
    (h : Reachable (E := E) W debug fuel root rv (s, .chooseVersion p set) ∨
         Reachable (E := E) W debug fuel root rv (s, .prioritize p set)) :
    LawfulVersionSet.Valid V set := by
  rcases h with h | h
  · have hph := choosing_of_chooseVersion (reachable_coherent W debug fuel root rv _ h)
    exact ((reachable_rinv W hW debug fuel root rv _ h).choosing p (.pos set) hph).1
  · obtain ⟨rest, acc, hph⟩ := prioritizing_of_prioritize (reachable_coherent W debug fuel root rv _ h)
    obtain ⟨done, hL, _⟩ := (reachable_rinv' W hW debug fuel root rv _ h).prioritizing _ _ _ hph
    exact PartialSolution.toPrioritize_valid (reachable_rinv W hW debug fuel root rv _ h).sinv.ps hL
      (p, set) (by simp)

end RequestsValid
end Pubgrub
