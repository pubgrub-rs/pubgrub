/-
The functions of the partial solution keep every term inhabited; the satisfier found by the satisfier
search is the *first* assignment that satisfies the term.
-/
import PubgrubProofs.InhabitedTerms

set_option linter.unusedSectionVars false

namespace Pubgrub
open VersionSet

section
variable {P S V M Pr : Type} [DecidableEq P] [VersionSet S V] [DecidableEq S] [LawfulVersionSet S V]

namespace PartialSolution

theorem ne_empty : (PartialSolution.empty : PartialSolution P S V Pr).NE := by
  intro p pa h; simp [PartialSolution.empty] at h

/-! ### properties of the single assignments

`add_decision` replaces the assignment of the decided package and moves it to the position of its level;
`add_version` is `add_decision` or nothing.  So a property `Q` of the single assignments survives both as
soon as the decided assignment has it. -/

theorem forall_set {Q : P → PackageAssignments S V → Prop} {l : List (P × PackageAssignments S V)}
    (h : ∀ p pa, (p, pa) ∈ l → Q p pa) (i : Nat) (x : P × PackageAssignments S V) (hx : Q x.1 x.2) :
    ∀ p pa, (p, pa) ∈ l.set i x → Q p pa := by
  intro p pa hkv
  rcases List.mem_or_eq_of_mem_set hkv with h' | h'
  · exact h p pa h'
  · subst h'; exact hx

theorem forall_swap {Q : P → PackageAssignments S V → Prop} {l l' : List (P × PackageAssignments S V)}
    (h : ∀ p pa, (p, pa) ∈ l → Q p pa) (i j : Nat) (hs : swapIndices l i j = .ok l') :
    ∀ p pa, (p, pa) ∈ l' → Q p pa := by
  unfold swapIndices at hs
  split at hs
  · rename_i a b ha hb
    injection hs with hs; subst hs
    exact forall_set (forall_set h i b (h b.1 b.2 (List.mem_of_getElem? hb))) j a
      (h a.1 a.2 (List.mem_of_getElem? ha))
  · cases hs

theorem addDecision_forall {Q : P → PackageAssignments S V → Prop} {ps ps' : PartialSolution P S V Pr}
    {debug : Bool} {p : P} {v : V} (h : ∀ q qa, (q, qa) ∈ ps.assignments → Q q qa)
    (hd : ∀ pa, (p, pa) ∈ ps.assignments →
      Q p { pa with highest := ps.currentDecisionLevel + 1,
                    inter := .decision ps.nextGlobalIndex v (Term.exact v) })
    (hr : addDecision debug ps p v = .ok ps') : ∀ q qa, (q, qa) ∈ ps'.assignments → Q q qa := by
  replace hr := addDecision_core hr
  unfold addDecisionCore at hr
  simp only [bind, Except.bind, pure, Except.pure] at hr
  split at hr
  · cases hr
  rename_i oldIdx hold
  split at hr
  · cases hr
  rename_i pa hpa
  have hset := forall_set h oldIdx
      (p, { pa with highest := ps.currentDecisionLevel + 1,
                    inter := .decision ps.nextGlobalIndex v (Term.exact v) })
      (hd pa (SmallMap.mem_of_get (unwrapOr_ok hpa)))
  split at hr
  · split at hr
    · cases hr
    rename_i asg hasg
    injection hr with hr; subst hr
    exact forall_swap hset _ _ hasg
  · injection hr with hr; subst hr; exact hset

theorem addVersion_forall {Q : P → PackageAssignments S V → Prop} {ps ps' : PartialSolution P S V Pr}
    {debug : Bool} {p : P} {v : V} {news : List (Incompat P S V M)}
    (h : ∀ q qa, (q, qa) ∈ ps.assignments → Q q qa)
    (hd : ∀ pa, (p, pa) ∈ ps.assignments →
      Q p { pa with highest := ps.currentDecisionLevel + 1,
                    inter := .decision ps.nextGlobalIndex v (Term.exact v) })
    (hr : addVersion debug ps p v news = .ok ps') : ∀ q qa, (q, qa) ∈ ps'.assignments → Q q qa := by
  rcases addVersion_spec hr with hr | ⟨rfl, _⟩
  · exact addDecision_forall h hd hr
  · exact h

theorem addDerivation_ne {ps ps' : PartialSolution P S V Pr} {p : P} {cause : Nat}
    {store : List (Incompat P S V M)} (h : ps.NE) (hr : ps.addDerivation p cause store = .ok ps')
    (hnew : ∀ inc t, store[cause]? = some inc → inc.get p = some t →
      (∀ pa, ps.getPA p = some pa → Term.Inh (V := V) (pa.inter.term.intersection t.negate)) ∧
      (ps.getPA p = none → Term.Inh (V := V) t.negate)) : ps'.NE := by
  obtain ⟨inc, t, hinc, ht, hcase⟩ := addDerivation_spec hr
  obtain ⟨h1, h2⟩ := hnew inc t hinc ht
  rcases hcase with ⟨idx, pa, t0, hidx, hpa, ht0, rfl⟩ | ⟨hpa, rfl⟩
  · have hold := h p pa (SmallMap.mem_of_get hpa)
    have hn := h1 pa hpa
    rw [ht0] at hn
    simp only [AssignInter.term] at hn
    apply forall_set h
    refine ⟨hn, ?_⟩
    intro dd hdd
    simp only [List.mem_append, List.mem_singleton] at hdd
    rcases hdd with hdd | rfl
    · exact hold.2 dd hdd
    · exact hn
  · intro q qa hkv
    simp only [List.mem_append, List.mem_singleton] at hkv
    rcases hkv with hkv | hkv
    · exact h q qa hkv
    · injection hkv with _ e; subst e
      refine ⟨h2 hpa, ?_⟩
      intro dd hdd
      simp only [List.mem_singleton] at hdd
      subst hdd; exact h2 hpa

theorem addDecision_ne {ps ps' : PartialSolution P S V Pr} {debug : Bool} {p : P} {v : V}
    (h : ps.NE) (hr : addDecision debug ps p v = .ok ps') : ps'.NE :=
  addDecision_forall h (fun pa hpa => ⟨Term.inh_exact v, (h p pa hpa).2⟩) hr

theorem addVersion_ne {ps ps' : PartialSolution P S V Pr} {debug : Bool} {p : P} {v : V}
    {news : List (Incompat P S V M)}
    (h : ps.NE) (hr : addVersion debug ps p v news = .ok ps') : ps'.NE :=
  addVersion_forall h (fun pa hpa => ⟨Term.inh_exact v, (h p pa hpa).2⟩) hr

end PartialSolution

/-- a backtrack keeps the terms inhabited: it only restores earlier accumulated terms -/
theorem BtStep.ne {ps ps' : PartialSolution P S V Pr} {dl : Nat} (hbt : BtStep ps ps' dl) (hw : ps.WF')
    (h : ps.NE) : ps'.NE := by
  intro q qa' hq
  obtain ⟨qa, hm, hg⟩ := hbt.mem hq
  have hold := h q qa hm
  rcases (PartialSolution.btG_eq_some (hw.wfx _ hm) hg).2 with ⟨_, e⟩ | ⟨_, _, last, hl, e⟩
  · simp only at e; subst e; exact hold
  · simp only at e; subst e
    have hsub : ∀ dd ∈ PartialSolution.popWhileAbove dl qa.dated, dd ∈ qa.dated :=
      fun dd hdd => PartialSolution.mem_popWhileAbove dl _ dd hdd
    have hlm := List.mem_of_getLast? hl
    exact ⟨hold.2 last (hsub last hlm), fun dd hdd => hold.2 dd (hsub dd hdd)⟩

namespace PartialSolution

theorem satisfier_first {pa : PackageAssignments S V} {start : Term S} {r : Option Nat × Nat × Nat}
    (h : satisfier pa start = .ok r) (hl : (pa.dated.map (·.decisionLevel)).Pairwise (· ≤ ·)) :
    ∀ dd ∈ pa.dated, dd.decisionLevel < r.2.2 → dd.accumulated.isDisjoint start = false := by
  unfold satisfier at h
  split at h
  · rename_i dd0 hdd0
    injection h with h; subst h
    simp only
    obtain ⟨_, as, bs, hsplit, hbefore⟩ := List.find?_eq_some_iff_append.1 hdd0
    intro dd hdd hlt
    rw [hsplit] at hdd hl
    rw [List.pairwise_map, List.pairwise_append] at hl
    obtain ⟨_, hl2, _⟩ := hl
    rw [List.pairwise_cons] at hl2
    rcases List.mem_append.1 hdd with h1 | h1
    · have := hbefore dd h1
      simpa using this
    · rcases List.mem_cons.1 h1 with e | e
      · subst e; omega
      · have := hl2.1 dd e
        omega
  · rename_i hnone
    intro dd hdd _
    have := List.find?_eq_none.1 hnone dd hdd
    simpa using this

theorem findSatisfier_go_exact (ps : PartialSolution P S V Pr) (all : List (P × Term S)) :
    ∀ (terms : List (P × Term S)) (acc m : SmallMap P (Option Nat × Nat × Nat)),
    terms.foldlM (m := R) (fun acc (pt : P × Term S) => do
        let pa ← unwrapOr (ps.getPA pt.1) "find_satisfier: Must exist"
        let s ← satisfier pa pt.2.negate
        pure (SmallMap.insert acc pt.1 s)) acc = .ok m →
    (∀ q t, (q, t) ∈ terms → (q, t) ∈ all) →
    (∀ q s, (q, s) ∈ acc → ∃ t pa, (q, t) ∈ all ∧ ps.getPA q = some pa ∧ satisfier pa t.negate = .ok s) →
    ∀ q s, (q, s) ∈ m → ∃ t pa, (q, t) ∈ all ∧ ps.getPA q = some pa ∧ satisfier pa t.negate = .ok s := by
  intro terms acc m hr hall hacc
  refine foldlM_ok_inv (fun acc => ∀ q s, (q, s) ∈ acc →
    ∃ t pa, (q, t) ∈ all ∧ ps.getPA q = some pa ∧ satisfier pa t.negate = .ok s) hr hacc ?_
  intro ⟨q0, t0⟩ hpt acc acc1 hacc h1 q s hm
  simp only [bind, Except.bind, pure, Except.pure] at h1
  split at h1
  · cases h1
  rename_i pa0 hpa0
  split at h1
  · cases h1
  rename_i s0 hs0
  injection h1 with h1; subst h1
  rcases SmallMap.mem_insert_sub hm with e | e
  · injection e with e1 e2; subst e1; subst e2
    exact ⟨t0, pa0, hall _ _ hpt, unwrapOr_ok hpa0, hs0⟩
  · exact hacc q s e

theorem satisfierSearch_first {ps : PartialSolution P S V Pr} {inc : Incompat P S V M}
    {store : List (Incompat P S V M)} {sp : P} {prev : Nat} (hw : ps.WF)
    (hn : SmallMap.NoDupKeys inc.terms)
    (h : ps.satisfierSearch inc store = .ok (sp, .differentDecisionLevels prev)) :
    ∃ t pa, inc.get sp = some t ∧ ps.getPA sp = some pa ∧
      ∀ dd ∈ pa.dated, dd.decisionLevel ≤ prev → dd.accumulated.isDisjoint t.negate = false := by
  rw [satisfierSearch_eq] at h
  simp only [bind, Except.bind, pure, Except.pure] at h
  split at h
  · cases h
  rename_i m hm
  split at h
  · cases h
  rename_i y hy
  split at h
  · cases h
  rename_i prev' hprev
  split at h
  · split at h
    · cases h
    · injection h with h; injection h with _ h; cases h
  rename_i hlt
  injection h with h; injection h with e1 e2
  injection e2 with e2; subst e2
  obtain ⟨sp', sc, sg, sl⟩ := y
  simp only at e1 hlt; subst e1
  have hymem := maxByIndex_mem m _ (unwrapOr_ok hy)
  unfold findSatisfier at hm
  obtain ⟨t, pa, ht, hpa, hsat⟩ := findSatisfier_go_exact ps inc.terms inc.terms [] m hm (fun _ _ x => x)
    (by intro q s hx; cases hx) _ _ hymem
  refine ⟨t, pa, SmallMap.get_of_mem hn ht, hpa, ?_⟩
  obtain ⟨i, _, hi⟩ := getElem_of_getPA hpa
  intro dd hdd hle
  have := satisfier_first hsat (hw.entries i _ pa hi).levels dd hdd
  simp only at this
  exact this (by omega)

end PartialSolution

theorem BtStep.not_imp {ps ps' : PartialSolution P S V Pr} {prev : Nat} (hbt : BtStep ps ps' prev)
    (hw : ps.WF') (hv : ps.TermsValid) {sp : P} {pa : PackageAssignments S V} {t : Term S} (htv : t.Valid)
    (hpa : ps.getPA sp = some pa) (hlt : prev < pa.highest)
    (hfirst : ∀ dd ∈ pa.dated, dd.decisionLevel ≤ prev → dd.accumulated.isDisjoint t.negate = false) :
    ∀ pa', ps'.getPA sp = some pa' → ¬ pa'.inter.term.Imp t := by
  intro pa' hpa'
  obtain ⟨pa0, k1, k2⟩ := hbt.getPA_inv hw.wf hpa'
  rw [hpa] at k1; injection k1 with k1; subst k1
  have hm := SmallMap.mem_of_get hpa
  rcases (PartialSolution.btG_eq_some (hw.wfx _ hm) k2).2 with ⟨k3, _⟩ | ⟨_, _, last, hl, k3⟩
  · simp only at k3; omega
  · simp only at k3; subst k3
    have hlm : last ∈ pa.dated := PartialSolution.mem_popWhileAbove prev _ _ (List.mem_of_getLast? hl)
    have hle := PartialSolution.popWhileAbove_last prev _ _ hl
    have hd := hfirst last hlm hle
    intro himp
    have himp' : last.accumulated.Imp t := himp
    have := Term.disjoint_negate_of_imp ((hv _ hm).dated last hlm) htv himp'
    rw [hd] at this; cases this

end
end Pubgrub
