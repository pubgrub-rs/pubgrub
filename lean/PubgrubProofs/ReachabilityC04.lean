/-
Property C04: every package in a returned solution is the root or is reachable from the root through
dependencies of the selected versions.

Minimal-counterexample argument on the global index of a package's first positive derivation.  It uses:
the returned selection is a solution (`solution_valid`, C01); `CauseInv` at the exit
(`solution_causeInv`, `SatisfierTheory.lean`); every stored incompatibility is valid of all solutions
(`StoreInvariant.lean`); the chain invariant of the dated derivations (`DerivationChain.lean`), which is
carried to the exit state along the run-level invariant of `OwnStep.lean`.
-/
import PubgrubProofs.SatDefs
import PubgrubProofs.PSInvariant
import PubgrubProofs.OwnInvariant
import PubgrubProofs.SatisfierTheory
import PubgrubProofs.DerivationChain

set_option linter.unusedSectionVars false

namespace Pubgrub
open VersionSet

section
variable {P S V M Pr : Type} [DecidableEq P] [VersionSet S V] [DecidableEq S]
  [LawfulVersionSet S V]
/-- what is known of the state `resolve` returns a solution from -/
structure C04ExitFacts (W : World P S V M) (root : P) (rv : V) (st : State P S V M Pr)
    (σ : P → Option V) : Prop where
  wf : st.ps.WF
  nopos : ∀ p pa set, st.ps.getPA p = some pa → pa.inter ≠ .derivations (.pos set)
  sel : ∀ p v, σ p = some v ↔ ∃ pa g t, st.ps.getPA p = some pa ∧ pa.inter = .decision g v t
  store : StoreInv W root rv st.store
  tv : st.ps.TermsValid
  cause : st.CauseInv
  chain : st.DDChainInv
  sol : IsSolution W root rv σ

/-- the first dated derivation of `q` with a positive accumulated term has global index `g` -/
def C04FirstPosAt (st : State P S V M Pr) (q : P) (g : Nat) : Prop :=
  ∃ pa pre dd suf, st.ps.getPA q = some pa ∧ pa.dated = pre ++ dd :: suf ∧
    (∀ e ∈ pre, e.accumulated.isPositive = false) ∧ dd.accumulated.isPositive = true ∧
    dd.globalIndex = g

/-- the selection without the unreachable packages -/
noncomputable def pruneSel (W : World P S V M) (root : P) (σ : P → Option V) : P → Option V :=
  fun q => open Classical in if ReachableFrom W root σ q then σ q else none

theorem pruneSel_some {W : World P S V M} {root : P} {σ : P → Option V} {q : P} {w : V}
    (h : pruneSel W root σ q = some w) : ReachableFrom W root σ q ∧ σ q = some w := by
  unfold pruneSel at h
  split at h
  · rename_i hr; exact ⟨hr, h⟩
  · cases h

theorem pruneSel_of_reach {W : World P S V M} {root : P} {σ : P → Option V} {q : P}
    (h : ReachableFrom W root σ q) : pruneSel W root σ q = σ q := by
  unfold pruneSel; rw [if_pos h]

theorem pruneSel_of_not_reach {W : World P S V M} {root : P} {σ : P → Option V} {q : P}
    (h : ¬ ReachableFrom W root σ q) : pruneSel W root σ q = none := by
  unfold pruneSel; rw [if_neg h]

theorem pruneSel_solution {W : World P S V M} {root : P} {rv : V} {σ : P → Option V}
    (h : IsSolution W root rv σ) : IsSolution W root rv (pruneSel W root σ) := by
  refine ⟨?_, ?_, ?_⟩
  · rw [pruneSel_of_reach ReachableFrom.root]; exact h.root
  · intro p v hp; exact h.offered p v (pruneSel_some hp).2
  · intro p v hp
    obtain ⟨hr, hs⟩ := pruneSel_some hp
    obtain ⟨ds, hds, hall⟩ := h.deps p v hs
    refine ⟨ds, hds, ?_⟩
    intro q s hq
    obtain ⟨w, hw, hc⟩ := hall q s hq
    exact ⟨w, by rw [pruneSel_of_reach (ReachableFrom.dep p q v ds s hr hs hds hq)]; exact hw, hc⟩

variable {W : World P S V M} {root : P} {rv : V} {st : State P S V M Pr} {σ : P → Option V}

theorem C04ExitFacts.pachain (h : C04ExitFacts W root rv st σ) {p : P} {pa : PackageAssignments S V}
    (hpa : st.ps.getPA p = some pa) : PADDChain st.store p pa :=
  h.chain (p, pa) (SmallMap.mem_of_get hpa)

theorem C04ExitFacts.causeValid (h : C04ExitFacts W root rv st σ) (p : P) :
    ∀ (id : Nat) inc t, st.store[id]? = some inc → inc.get p = some t → t.Valid :=
  fun _ _ _ hi ht => Incompat.get_valid W root rv h.store hi ht

theorem C04ExitFacts.firstPos_of_pos (h : C04ExitFacts W root rv st σ) {r : P} {par : PackageAssignments S V}
    (hpar : st.ps.getPA r = some par) {dd : DatedDerivation S} (hdd : dd ∈ par.dated)
    (hpos : dd.accumulated.isPositive = true) : ∃ g', g' ≤ dd.globalIndex ∧ C04FirstPosAt st r g' := by
  obtain ⟨pre, x, suf, e, hx, hpre⟩ :=
    c04_exists_first (fun d : DatedDerivation S => d.accumulated.isPositive) par.dated ⟨dd, hdd, hpos⟩
  refine ⟨x.globalIndex, ?_, par, pre, x, suf, hpar, e, hpre, hx, rfl⟩
  obtain ⟨i, _, hi⟩ := PartialSolution.getElem_of_getPA hpar
  obtain ⟨h1, h2⟩ := c04_indices_split (h.wf.entries i r par hi).indices e
  rw [e] at hdd
  simp only [List.mem_append, List.mem_cons] at hdd
  rcases hdd with hdd | rfl | hdd
  · have : dd.accumulated.isPositive = false := hpre dd hdd
    rw [hpos] at this; cases this
  · exact Nat.le_refl _
  · exact Nat.le_of_lt (h2 dd hdd)

theorem C04ExitFacts.firstPos_of_decided (h : C04ExitFacts W root rv st σ) {q : P}
    {pa : PackageAssignments S V} {g : Nat} {v : V} {t : Term S}
    (hpa : st.ps.getPA q = some pa) (hint : pa.inter = .decision g v t) : ∃ g', C04FirstPosAt st q g' := by
  obtain ⟨l, hl, hlp⟩ := (h.pachain hpa).dec g v t hint
  obtain ⟨g', _, hg'⟩ := h.firstPos_of_pos hpa (List.mem_of_getLast? hl) hlp
  exact ⟨g', hg'⟩

theorem C04ExitFacts.decided_of_pos (h : C04ExitFacts W root rv st σ) {r : P} {par : PackageAssignments S V}
    (hpar : st.ps.getPA r = some par) {dd : DatedDerivation S} (hdd : dd ∈ par.dated)
    (hpos : dd.accumulated.isPositive = true) : ∃ g v t, par.inter = .decision g v t := by
  cases hint : par.inter with
  | decision g v t => exact ⟨g, v, t, rfl⟩
  | derivations t' =>
    exfalso
    obtain ⟨l, hl, hla⟩ := (h.pachain hpar).cur t' hint
    have hpw := ddchain_pos_pairwise st.store r par.dated none (h.pachain hpar).chain
    have hlpos : l.accumulated.isPositive = true := by
      rcases pairwise_getLast hpw hl dd hdd with rfl | hr
      · exact hpos
      · exact hr hpos
    rw [hla] at hlpos
    cases t' with
    | pos set => exact h.nopos r par set hpar hint
    | neg set => simp [Term.isPositive] at hlpos

theorem C04ExitFacts.decided_entry (h : C04ExitFacts W root rv st σ) {r : P} {par : PackageAssignments S V}
    (hpar : st.ps.getPA r = some par) {gd : Nat} {w : V} {t' : Term S}
    (hint : par.inter = .decision gd w t') :
    t' = Term.exact w ∧ (∀ dd ∈ par.dated, dd.globalIndex < gd) ∧
    (∀ dd, par.dated.getLast? = some dd → dd.accumulated.contains w = true) := by
  obtain ⟨i, _, hi⟩ := PartialSolution.getElem_of_getPA hpar
  have hlt := PartialSolution.decided_lt h.wf hi hint
  obtain ⟨g, v, h1, _, _, h4, h5⟩ := (h.wf.entries i r par hi).decided hlt
  rw [hint] at h1
  injection h1 with e1 e2 e3
  subst e1; subst e2
  exact ⟨e3, h4, h5⟩

theorem C04ExitFacts.pos_before (h : C04ExitFacts W root rv st σ) {r : P} {par : PackageAssignments S V}
    (hpar : st.ps.getPA r = some par) {g : Nat} {t : Term S} (htb : par.termBefore g = some t)
    (hpos : t.isPositive = true) :
    ∃ dd ∈ par.dated, dd.accumulated.isPositive = true ∧ dd.globalIndex < g := by
  rcases c04_termBefore_cases htb with ⟨gd, v, hint, hlt⟩ | ⟨dd, hdd, hlt, hacc⟩
  · obtain ⟨l, hl, hlp⟩ := (h.pachain hpar).dec gd v t hint
    obtain ⟨_, h4, _⟩ := h.decided_entry hpar hint
    have hlm := List.mem_of_getLast? hl
    exact ⟨l, hlm, hlp, Nat.lt_trans (h4 l hlm) hlt⟩
  · exact ⟨dd, hdd, by rw [hacc]; exact hpos, hlt⟩

theorem C04ExitFacts.termBefore_valid (h : C04ExitFacts W root rv st σ) {r : P} {par : PackageAssignments S V}
    (hpar : st.ps.getPA r = some par) {g : Nat} {t : Term S} (htb : par.termBefore g = some t) :
    t.Valid := by
  have hv := PartialSolution.termsValid_of_getPA h.tv hpar
  rcases c04_termBefore_cases htb with ⟨gd, v, hint, hlt⟩ | ⟨dd, hdd, hlt, hacc⟩
  · have := hv.inter; rw [hint] at this; exact this
  · rw [← hacc]; exact hv.dated dd hdd

theorem C04ExitFacts.termBefore_contains (h : C04ExitFacts W root rv st σ) {r : P}
    {par : PackageAssignments S V} (hpar : st.ps.getPA r = some par) {gd : Nat} {w : V} {t' : Term S}
    (hint : par.inter = .decision gd w t') {g : Nat} {t : Term S} (htb : par.termBefore g = some t) :
    t.contains w = true := by
  obtain ⟨h3, h4, h5⟩ := h.decided_entry hpar hint
  rcases c04_termBefore_cases htb with ⟨gd', v', hint', hlt⟩ | ⟨dd, hdd, hlt, hacc⟩
  · rw [hint] at hint'
    injection hint' with _ _ e3
    rw [← e3, h3]
    simp [Term.exact, Term.contains, (LawfulVersionSet.contains_singleton (S := S) w w).2 rfl]
  · have hv := PartialSolution.termsValid_of_getPA h.tv hpar
    have hpw := ddchain_shrink_pairwise (V := V) st.store r (h.causeValid r) par.dated none
      (h.pachain hpar).chain hv.dated
    cases hl : par.dated.getLast? with
    | none => rw [List.getLast?_eq_none_iff] at hl; rw [hl] at hdd; simp at hdd
    | some l =>
      have hlw := h5 l hl
      rw [← hacc]
      rcases pairwise_getLast hpw hl dd hdd with rfl | hr
      · exact hlw
      · exact hr w hlw

/-- the minimal-counterexample argument, as a strong induction on the global index of the first
positive derivation: a selected package is reachable from the root -/
theorem C04ExitFacts.reach_of_firstPos (h : C04ExitFacts W root rv st σ) :
    ∀ (g : Nat) (q : P), C04FirstPosAt st q g → (∃ v, σ q = some v) → ReachableFrom W root σ q := by
  intro g
  induction g using Nat.strong_induction_on with
  | _ g ih =>
    intro q ⟨pa, pre, dd, suf, hpa, hdated, hpre, hddpos, hg⟩ ⟨v, hv⟩
    subst hg
    apply Classical.byContradiction
    intro hnr
    have hch := (h.pachain hpa).chain
    rw [hdated] at hch
    obtain ⟨inc, u, hinc, hget⟩ :=
      ddchain_firstPos st.store q pre none dd suf hch (by intro a ha; cases ha) hpre hddpos
    have good := h.store _ _ hinc
    apply good.valid _ (pruneSel_solution h.sol)
    have hddmem : dd ∈ pa.dated := by rw [hdated]; simp
    obtain ⟨inc', hinc', _, hall⟩ := h.cause q pa (SmallMap.mem_of_get hpa) dd hddmem
    rw [hinc] at hinc'; injection hinc' with hinc'; subst hinc'
    intro r tr hmem
    by_cases hrq : r = q
    · subst hrq
      have h1 : SmallMap.get inc.terms r = some tr := SmallMap.get_of_mem good.nodup hmem
      have h2 : SmallMap.get inc.terms r = some (.neg u) := hget
      rw [h1] at h2; injection h2 with h2; subst h2
      rw [pruneSel_of_not_reach hnr]; rfl
    · obtain ⟨par, t, hpar, htb, hsub⟩ := hall r tr hmem hrq
      cases hσ' : pruneSel W root σ r with
      | none =>
        cases tr with
        | neg X => rfl
        | pos X =>
          exfalso
          have htpos : t.isPositive = true := by
            cases t with
            | pos _ => rfl
            | neg _ => simp [Term.subsetOf] at hsub
          obtain ⟨dd2, hdd2, hdd2pos, hlt⟩ := h.pos_before hpar htb htpos
          obtain ⟨g', hg', hfp⟩ := h.firstPos_of_pos hpar hdd2 hdd2pos
          obtain ⟨gd, w, t', hint⟩ := h.decided_of_pos hpar hdd2 hdd2pos
          have hσr : σ r = some w := (h.sel r w).2 ⟨par, gd, t', hpar, hint⟩
          have hreach := ih g' (by omega) r hfp ⟨w, hσr⟩
          rw [pruneSel_of_reach hreach, hσr] at hσ'; cases hσ'
      | some w =>
        obtain ⟨hreach, hσr⟩ := pruneSel_some hσ'
        obtain ⟨par', gd, t', hpar', hint⟩ := (h.sel r w).1 hσr
        rw [hpar] at hpar'; injection hpar' with hpar'; subst hpar'
        have hc := h.termBefore_contains hpar hint htb
        have htv := h.termBefore_valid hpar htb
        have htrv : tr.Valid := good.sets r tr hmem
        rw [Term.contains_eq_eval] at hc
        exact (Term.subsetOf_iff t tr htv htrv).1 hsub (some w) hc

end

variable {P S V M Pr E : Type} [DecidableEq P] [VersionSet S V] [DecidableEq S] [DecidableEq V]
  [LE Pr] [DecidableLE Pr] [LawfulVersionSet S V]

theorem c04_reachable_of_wb (W : World P S V M) (debug : Bool) (fuel : Nat)
    (root : P) (rv : V) (x : SolverState P S V M Pr × Request P S V M Pr E)
    (h : ReachableWB W debug fuel root rv x) : Reachable W debug fuel root rv x :=
  reachable_of_wb W debug fuel root rv x h

theorem c04_exitFacts (W : World P S V M) (hW : W.SetsValid) (debug : Bool) (fuel : Nat)
    (root : P) (rv : V) (s : SolverState P S V M Pr) (sel : List (P × V))
    (hr : Reachable (E := E) W debug fuel root rv (s, .solution sel))
    (hsol : IsSolution W root rv (fun q => SmallMap.get sel q)) (hcause : s.st.CauseInv) :
    C04ExitFacts W root rv s.st (fun q => SmallMap.get sel q) := by
  obtain ⟨hwf, hnopos, _⟩ := solution_exit W hW debug fuel root rv s sel hr
  have hsinv := (reachable_rinv W hW debug fuel root rv _ hr).sinv
  exact ⟨hwf, hnopos, solution_get_iff W hW debug fuel root rv s sel hr, hsinv.store, hsinv.ps, hcause,
    (stable_jmain W hW debug fuel root rv s _ hr (Or.inr ⟨sel, rfl⟩)).2.1, hsol⟩

/-- C04 from its two provided ingredients: the returned selection is a solution (`solution_valid`)
and `CauseInv` holds in the exit state (`solution_causeInv`) -/
theorem solution_reachable_of (W : World P S V M) (hW : W.SetsValid) (debug : Bool) (fuel : Nat)
    (root : P) (rv : V) (s : SolverState P S V M Pr) (sel : List (P × V))
    (hr : Reachable (E := E) W debug fuel root rv (s, .solution sel))
    (hsol : IsSolution W root rv (fun q => SmallMap.get sel q)) (hcause : s.st.CauseInv)
    (p : P) (v : V) (hp : SmallMap.get sel p = some v) :
    ReachableFrom W root (fun q => SmallMap.get sel q) p := by
  have hf := c04_exitFacts W hW debug fuel root rv s sel hr hsol hcause
  obtain ⟨pa, g, t, hpa, hint⟩ := (hf.sel p v).1 hp
  obtain ⟨g', hfp⟩ := hf.firstPos_of_decided hpa hint
  exact hf.reach_of_firstPos g' p hfp ⟨v, hp⟩

theorem solution_reachable (W : World P S V M) (hW : W.SetsValid) (debug : Bool) (fuel : Nat)
    (root : P) (rv : V) (s : SolverState P S V M Pr) (sel : List (P × V))
    (h : ReachableWB (E := E) W debug fuel root rv (s, .solution sel))
    (p : P) (v : V) (hp : SmallMap.get sel p = some v) :
    ReachableFrom W root (fun q => SmallMap.get sel q) p := by
  have hr := c04_reachable_of_wb W debug fuel root rv _ h
  exact solution_reachable_of W hW debug fuel root rv s sel hr
    (solution_valid W hW debug fuel root rv s sel h).1
    (solution_causeInv W hW debug fuel root rv s sel hr).2 p v hp

end Pubgrub
