/-
The store invariant holds in every reachable state of the solver (properties C06, C02): the operations of
the state keep it (StoreCore, from the local soundness lemmas of IncompatSound), and one step of
the coroutine keeps `RInv` (by cases on `Solver.StepTo`).
-/
import PubgrubProofs.IncompatSound
import PubgrubProofs.StoreCore
import PubgrubProofs.StepSpec

set_option linter.unusedSectionVars false

namespace Pubgrub
open VersionSet

variable {P S V M Pr E : Type} [DecidableEq P] [VersionSet S V] [DecidableEq S] [DecidableEq V]
  [LE Pr] [DecidableLE Pr] [LawfulVersionSet S V]

/-- the invariant of the coroutine: state-level invariant plus coherence of the pending request
with the phase, plus the origin of a reported `noSolution` tree -/
structure RInv (W : World P S V M) (root : P) (rv : V)
    (x : SolverState P S V M Pr × Request P S V M Pr E) : Prop where
  sinv : SInv W root rv x.1.st
  choosing : ∀ p t, x.1.phase = .choosing p t →
    t.Valid ∧ ∃ set, x.2 = .chooseVersion p set ∧ t = .pos set
  fetching : ∀ p v, x.1.phase = .fetching p v → x.2 = .getDependencies p v
  noSol : ∀ tree, x.2 = .noSolution tree → ∃ terminal inc, x.1.st.store[terminal]? = some inc ∧
    inc.isTerminal root rv = true ∧ x.1.st.buildDerivationTree terminal = .ok tree

theorem rinv_start (W : World P S V M) (debug : Bool) (fuel : Nat) (root : P) (rv : V) :
    RInv W root rv (Solver.start (Pr := Pr) (E := E) (M := M) debug fuel root rv) := by
  refine ⟨⟨storeInv_init W root rv, rfl, rfl, PartialSolution.termsValid_empty⟩, ?_, ?_, ?_⟩
  · intro p t h; simp [Solver.start] at h
  · intro p v h; simp [Solver.start] at h
  · intro tree h; simp [Solver.start] at h

/-- the phases in which `RInv` asks nothing about the pending request -/
def Phase.quiet : Phase P S V Pr → Bool
  | .choosing .. | .fetching .. => false
  | _ => true

def Request.isNoSolution : Request P S V M Pr E → Bool
  | .noSolution _ => true
  | _ => false

/-- outside the phases `choosing` and `fetching` and without a reported tree, only the state matters.  The
side conditions are Boolean so that `rfl` decides them at each leaf of `step`. -/
theorem RInv.of_sinv {W : World P S V M} {root : P} {rv : V}
    {x : SolverState P S V M Pr × Request P S V M Pr E} (h : SInv W root rv x.1.st)
    (hq : x.1.phase.quiet = true) (hn : x.2.isNoSolution = false) : RInv W root rv x :=
  ⟨h, fun p t h' => (by rw [h'] at hq; cases hq), fun p v h' => (by rw [h'] at hq; cases hq),
    fun tree h' => (by rw [h'] at hn; cases hn)⟩

theorem rinv_of_stepTo (W : World P S V M) (hW : W.SetsValid) (root : P) (rv : V)
    {s : SolverState P S V M Pr} {req : Request P S V M Pr E} {a : Answer P S V M Pr E}
    {x : SolverState P S V M Pr × Request P S V M Pr E}
    (h : RInv W root rv (s, req)) (ha : AnswerOK W req a) (hst : Solver.StepTo s a x) :
    RInv W root rv x := by
  have hs : SInv W root rv s.st := h.sinv
  induction hst
  case finished hph =>
    exact .of_sinv hs (by rw [hph]; rfl) rfl
  case noSolution st terminal tree hph hu htree =>
    obtain ⟨h1, ht⟩ := State.unitPropagation_inv W root rv hu hs
    obtain ⟨inc, hinc, hterm⟩ := ht terminal rfl
    refine ⟨h1, nofun, nofun, fun tree' h' => ?_⟩
    cases h'
    exact ⟨terminal, inc, hinc, hterm, htree⟩
  case treeFault hu _ | toPrioritizeFault hu _ | nothingToPrioritize hu _ | firstPrioritize hu _ =>
    exact .of_sinv (State.unitPropagation_inv W root rv hu hs).1 rfl rfl
  case toChoose acc p t set hph _ ht hset =>
    have htv : t.Valid := PartialSolution.termIntersection_valid (ps := s.st.ps.afterPrioritize acc) hs.ps ht
    refine ⟨⟨hs.store, hs.root, hs.rv, hs.ps⟩, fun p' t' h' => ?_, nofun, nofun⟩
    cases h'
    exact ⟨htv, set, rfl, Solver.unwrapPositive_ok hset⟩
  case noVersions p t inc st hph hinc hadd =>
    obtain ⟨htv, set, hreq, hts⟩ := h.choosing p t hph
    cases hreq
    exact .of_sinv (State.addIncompatibility_inv W root rv hadd hs
      (Incompat.noVersions_good W root rv _ _ p t htv set (hts ▸ rfl) ha inc hinc)) rfl rfl
  case toFetch =>
    exact ⟨hs, nofun, fun p' v' h' => by cases h'; rfl, nofun⟩
  case knownVersion hps =>
    exact .of_sinv ⟨hs.store, hs.root, hs.rv, PartialSolution.addDecision_termsValid hs.ps hps⟩ rfl rfl
  case unavailable p v st m hph hadd =>
    cases h.fetching p v hph
    exact .of_sinv (State.addIncompatibility_inv W root rv hadd hs
      (Incompat.customVersion_good W root rv _ _ p v m ha)) rfl rfl
  case addVersionFault p v st start stop f deps hph hadd _ =>
    cases h.fetching p v hph
    exact .of_sinv (State.addIncompatibilityFromDependencies_inv W hW root rv hadd hs ha) rfl rfl
  case available p v st start stop ps deps hph hadd hps =>
    cases h.fetching p v hph
    have h1 := State.addIncompatibilityFromDependencies_inv W hW root rv hadd hs ha
    exact .of_sinv ⟨h1.store, h1.root, h1.rv, PartialSolution.addVersion_termsValid h1.ps hps⟩ rfl rfl
  -- the remaining leaves end the run, or go on to `prioritize` or `pick`, without touching the store
  case extractFault | solution | pickNoTerm | pickFault =>
    exact .of_sinv ⟨hs.store, hs.root, hs.rv, hs.ps⟩ rfl rfl
  all_goals exact .of_sinv hs rfl rfl

theorem reachable_rinv (W : World P S V M) (hW : W.SetsValid) (debug : Bool) (fuel : Nat)
    (root : P) (rv : V) (x : SolverState P S V M Pr × Request P S V M Pr E)
    (h : Reachable W debug fuel root rv x) : RInv W root rv x := by
  induction h with
  | start => exact rinv_start W debug fuel root rv
  | step _ ha ih => exact rinv_of_stepTo W hW root rv ih ha (Solver.step_spec _ _)

/-- C06, main theorem: in every state reachable by answers consistent with the world, whatever the
strategy, the fuel, and however the run ends, every stored incompatibility is good (valid of all
solutions, distinct keys, valid sets, true kind) -/
theorem reachable_storeInv (W : World P S V M) (hW : W.SetsValid) (debug : Bool) (fuel : Nat)
    (root : P) (rv : V) (x : SolverState P S V M Pr × Request P S V M Pr E)
    (h : Reachable W debug fuel root rv x) : StoreInv W root rv x.1.st.store :=
  (reachable_rinv W hW debug fuel root rv x h).sinv.store

/-- C02: `NoSolution` is only reported when no solution exists -/
theorem noSolution_sound (W : World P S V M) (hW : W.SetsValid) (debug : Bool) (fuel : Nat)
    (root : P) (rv : V) (s : SolverState P S V M Pr) (tree : DerivationTree P S V M)
    (h : Reachable (E := E) W debug fuel root rv (s, .noSolution tree)) :
    ¬ ∃ σ, IsSolution W root rv σ := by
  have hi := reachable_rinv W hW debug fuel root rv _ h
  obtain ⟨terminal, inc, hinc, hterm, _⟩ := hi.noSol tree rfl
  exact Incompat.isTerminal_no_solution W root rv inc (hi.sinv.store terminal inc hinc).valid hterm

/-- when a run ends in `NoSolution`, the reported tree was built from a terminal incompatibility of
an invariant-satisfying store (interface for the tree theorems of C03) -/
theorem noSolution_tree_origin (W : World P S V M) (hW : W.SetsValid) (debug : Bool) (fuel : Nat)
    (root : P) (rv : V) (s : SolverState P S V M Pr) (tree : DerivationTree P S V M)
    (h : Reachable (E := E) W debug fuel root rv (s, .noSolution tree)) :
    ∃ terminal inc, s.st.store[terminal]? = some inc ∧ inc.isTerminal root rv = true ∧
      s.st.buildDerivationTree terminal = .ok tree ∧ StoreInv W root rv s.st.store ∧
      s.st.rootPackage = root ∧ s.st.rootVersion = rv := by
  have hi := reachable_rinv W hW debug fuel root rv _ h
  obtain ⟨terminal, inc, hinc, hterm, htree⟩ := hi.noSol tree rfl
  exact ⟨terminal, inc, hinc, hterm, htree, hi.sinv.store, hi.sinv.root, hi.sinv.rv⟩

end Pubgrub
