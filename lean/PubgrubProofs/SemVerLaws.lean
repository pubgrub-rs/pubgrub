/-
Property C20: laws of the model of `/repo/src/version.rs` (`PubgrubModel/SemVer.lean`).

* `Display` followed by `FromStr` is the identity (`parse_display`);
* `FromStr` succeeds exactly on three '.'-separated parts that each parse as `u32`
  (`parse_ok_iff`), otherwise reports `NotThreeParts` (`parse_notThreeParts_iff`) or
  `ParseIntError` naming the first offending part (`parse_error_first_part`,
  `parse_parseIntError_iff`);
* `u32::from_str` is characterised independently of the model's loop through `digitsValue`
  (`parseU32_ok_iff`, `parseU32_empty_iff`, `parseU32_invalidDigit_iff`, `parseU32_posOverflow_iff`);
* the ordering is lexicographic (`cmp_eq_iff`, `cmp_lt_iff`, `cmp_gt_iff`, `cmp_swap`, `cmp_lt_trans`);
* tuple conversions are mutually inverse;
* bumps below `u32::MAX` are strictly increasing, reset the lower components, preserve validity.
-/
import PubgrubModel.SemVer

namespace Pubgrub
namespace SemVer

/-! ### specification vocabulary (independent of the model's loops) -/

/-- ASCII decimal digit -/
def IsDigit (c : Char) : Prop := '0' ≤ c ∧ c ≤ '9'

instance (c : Char) : Decidable (IsDigit c) := by unfold IsDigit; exact inferInstance

def decStep (acc : Nat) (c : Char) : Nat := acc * 10 + (c.toNat - 48)

/-- decimal value of a list of digit characters, most significant first (no overflow check) -/
def decValue (s : List Char) : Nat := s.foldl decStep 0

/-- `some n` iff `s` is a non-empty list of ASCII digits with decimal value `n` -/
def digitsValue (s : List Char) : Option Nat :=
  if s ≠ [] ∧ ∀ c ∈ s, IsDigit c then some (decValue s) else none

/-- the string after removing one leading '+' (if any) -/
def stripPlus : List Char → List Char
  | '+' :: r => r
  | s => s

theorem digitsValue_eq_some_iff (s : List Char) (n : Nat) :
    digitsValue s = some n ↔ s ≠ [] ∧ (∀ c ∈ s, IsDigit c) ∧ decValue s = n := by
  unfold digitsValue
  split
  · next h =>
    simp only [Option.some.injEq]
    exact ⟨fun e => ⟨h.1, h.2, e⟩, fun e => e.2.2⟩
  · next h =>
    simp only [reduceCtorEq, false_iff]
    intro h'
    exact h ⟨h'.1, h'.2.1⟩

theorem digitVal_of_isDigit {c : Char} (h : IsDigit c) : digitVal c = some (c.toNat - 48) := by
  unfold digitVal; unfold IsDigit at h; simp [h]

theorem digitVal_of_not_isDigit {c : Char} (h : ¬ IsDigit c) : digitVal c = none := by
  unfold digitVal; unfold IsDigit at h; simp [h]

theorem digitVal_eq_some_iff {c : Char} {d : Nat} :
    digitVal c = some d ↔ IsDigit c ∧ d = c.toNat - 48 := by
  by_cases h : IsDigit c
  · rw [digitVal_of_isDigit h]; simp [h, eq_comm]
  · rw [digitVal_of_not_isDigit h]; simp [h]

theorem decStep_def (acc : Nat) (c : Char) : acc * 10 + (c.toNat - 48) = decStep acc c := rfl

theorem foldl_decStep_ge (s : List Char) (acc : Nat) : acc ≤ s.foldl decStep acc := by
  induction s generalizing acc with
  | nil => exact Nat.le_refl _
  | cons c cs ih =>
    exact Nat.le_trans (Nat.le_trans (Nat.le_mul_of_pos_right acc (by decide)) (Nat.le_add_right _ _))
      (ih (decStep acc c))

theorem parseDigits_cons (c : Char) (cs : List Char) (acc : Nat) :
    parseDigits (c :: cs) acc =
      if IsDigit c then
        if decStep acc c > u32Max then .error .posOverflow else parseDigits cs (decStep acc c)
      else .error .invalidDigit := by
  by_cases hc : IsDigit c
  · rw [if_pos hc, parseDigits, digitVal_of_isDigit hc]
    rfl
  · rw [if_neg hc, parseDigits, digitVal_of_not_isDigit hc]

/-- what each outcome of the digit loop says about its input `s`, read from the running value `acc` -/
def DigitsOutcome (s : List Char) (acc : Nat) : Except IntErr Nat → Prop
  | .ok n => (∀ c ∈ s, IsDigit c) ∧ s.foldl decStep acc = n ∧ n ≤ u32Max
  | .error .invalidDigit => ∃ pre c post, s = pre ++ c :: post ∧ (∀ x ∈ pre, IsDigit x) ∧
      ¬ IsDigit c ∧ pre.foldl decStep acc ≤ u32Max
  | .error .posOverflow => ∃ pre post, s = pre ++ post ∧ (∀ x ∈ pre, IsDigit x) ∧
      pre.foldl decStep acc > u32Max
  | .error .empty => False

theorem parseDigits_sound (s : List Char) (acc : Nat) (hacc : acc ≤ u32Max) :
    DigitsOutcome s acc (parseDigits s acc) := by
  induction s generalizing acc with
  | nil => exact ⟨fun _ h => (List.not_mem_nil h).elim, rfl, hacc⟩
  | cons c cs ih =>
    rw [parseDigits_cons]
    by_cases hc : IsDigit c
    · rw [if_pos hc]
      by_cases hov : decStep acc c > u32Max
      · rw [if_pos hov]
        exact ⟨[c], cs, rfl, List.forall_mem_singleton.2 hc, hov⟩
      · rw [if_neg hov]
        have := ih (decStep acc c) (Nat.le_of_not_gt hov)
        -- the digit `c` joins the prefix read so far
        generalize parseDigits cs (decStep acc c) = r at this ⊢
        cases r with
        | ok n => exact ⟨List.forall_mem_cons.2 ⟨hc, this.1⟩, this.2⟩
        | error e =>
          cases e with
          | empty => exact this
          | invalidDigit =>
            obtain ⟨pre, x, post, hs, hpre, hx⟩ := this
            exact ⟨c :: pre, x, post, congrArg (c :: ·) hs, List.forall_mem_cons.2 ⟨hc, hpre⟩, hx⟩
          | posOverflow =>
            obtain ⟨pre, post, hs, hpre, hval⟩ := this
            exact ⟨c :: pre, post, congrArg (c :: ·) hs, List.forall_mem_cons.2 ⟨hc, hpre⟩, hval⟩
    · rw [if_neg hc]
      exact ⟨[], c, cs, rfl, fun _ h => (List.not_mem_nil h).elim, hc, hacc⟩

theorem parseDigits_append (pre rest : List Char) (acc : Nat) (hpre : ∀ x ∈ pre, IsDigit x)
    (hval : pre.foldl decStep acc ≤ u32Max) :
    parseDigits (pre ++ rest) acc = parseDigits rest (pre.foldl decStep acc) := by
  induction pre generalizing acc with
  | nil => rfl
  | cons c pre ih =>
    have hpre := List.forall_mem_cons.1 hpre
    rw [List.cons_append, parseDigits_cons, if_pos hpre.1,
      if_neg (Nat.not_lt.2 (Nat.le_trans (foldl_decStep_ge pre _) hval)), ih _ hpre.2 hval]
    rfl

theorem parseDigits_overflow (pre rest : List Char) (acc : Nat) (hpre : ∀ x ∈ pre, IsDigit x)
    (hacc : acc ≤ u32Max) (hval : pre.foldl decStep acc > u32Max) :
    parseDigits (pre ++ rest) acc = .error .posOverflow := by
  induction pre generalizing acc with
  | nil => exact absurd hval (Nat.not_lt.2 hacc)
  | cons c pre ih =>
    have hpre := List.forall_mem_cons.1 hpre
    rw [List.cons_append, parseDigits_cons, if_pos hpre.1]
    by_cases hov : decStep acc c > u32Max
    · rw [if_pos hov]
    · rw [if_neg hov]
      exact ih _ hpre.2 (Nat.le_of_not_gt hov) hval

theorem parseDigits_iff (s : List Char) (acc : Nat) (hacc : acc ≤ u32Max) (r : Except IntErr Nat) :
    parseDigits s acc = r ↔ DigitsOutcome s acc r := by
  refine ⟨fun h => h ▸ parseDigits_sound s acc hacc, ?_⟩
  match r with
  | .ok n =>
    rintro ⟨hs, rfl, hn⟩
    have := parseDigits_append s [] acc hs hn
    rwa [List.append_nil] at this
  | .error .invalidDigit =>
    rintro ⟨pre, c, post, rfl, hpre, hc, hval⟩
    rw [parseDigits_append pre _ acc hpre hval, parseDigits_cons, if_neg hc]
  | .error .posOverflow =>
    rintro ⟨pre, post, rfl, hpre, hval⟩
    exact parseDigits_overflow pre post acc hpre hacc hval
  | .error .empty => exact False.elim

theorem parseU32_nil : parseU32 [] = .error .empty := rfl
theorem parseU32_plus : parseU32 ['+'] = .error .invalidDigit := rfl
theorem parseU32_minus : parseU32 ['-'] = .error .invalidDigit := rfl

theorem stripPlus_nil : stripPlus [] = [] := rfl
theorem stripPlus_plus (r : List Char) : stripPlus ('+' :: r) = r := rfl

theorem stripPlus_of_not_plus {s : List Char} (h : ∀ r, s ≠ '+' :: r) : stripPlus s = s := by
  unfold stripPlus
  split
  · exact absurd rfl (h _)
  · rfl

theorem stripPlus_of_head_ne_plus (c : Char) (cs : List Char) (h : c ≠ '+') :
    stripPlus (c :: cs) = c :: cs :=
  stripPlus_of_not_plus fun _ e => h (List.cons.inj e).1

theorem not_isDigit_plus : ¬ IsDigit '+' := by decide
theorem not_isDigit_minus : ¬ IsDigit '-' := by decide
theorem not_isDigit_dot : ¬ IsDigit '.' := by decide

theorem parseU32_eq (s : List Char) :
    parseU32 s = if s = [] then .error .empty
      else if stripPlus s = [] then .error .invalidDigit
      else parseDigits (stripPlus s) 0 := by
  unfold parseU32
  split
  · rfl
  · rfl
  · rfl
  · next rest h =>
    have : rest ≠ [] := fun e => h (e ▸ rfl)
    rw [if_neg (List.cons_ne_nil _ _), stripPlus_plus, if_neg this]
  · next h1 _ _ h4 =>
    rw [stripPlus_of_not_plus h4, if_neg h1, if_neg h1]

theorem digitsValue_stripPlus (s : List Char) (n : Nat) :
    digitsValue (stripPlus s) = some n ↔
      (digitsValue s = some n ∨ ∃ r, s = '+' :: r ∧ digitsValue r = some n) := by
  cases s with
  | nil => simp [stripPlus_nil]
  | cons c cs =>
    by_cases hc : c = '+'
    · subst hc
      have : digitsValue ('+' :: cs) ≠ some n := by
        rw [ne_eq, digitsValue_eq_some_iff]
        intro h
        exact not_isDigit_plus (h.2.1 _ (List.mem_cons_self ..))
      simp [stripPlus_plus, this]
    · rw [stripPlus_of_head_ne_plus c cs hc]
      simp [hc]

/-- C20, `u32::from_str` success: `s`, or `s` without one leading '+', is a non-empty list of ASCII
digits whose decimal value is `n`, and `n ≤ u32::MAX` -/
theorem parseU32_ok_iff (s : List Char) (n : Nat) :
    parseU32 s = .ok n ↔
      (digitsValue s = some n ∨ ∃ r, s = '+' :: r ∧ digitsValue r = some n) ∧ n ≤ u32Max := by
  rw [← digitsValue_stripPlus, parseU32_eq, digitsValue_eq_some_iff]
  by_cases h1 : s = []
  · subst h1; simp [stripPlus_nil]
  · by_cases h2 : stripPlus s = []
    · simp [h1, h2]
    · simp only [h1, h2, if_false, ne_eq, not_false_eq_true, true_and]
      rw [parseDigits_iff _ _ (Nat.zero_le _)]
      simp only [DigitsOutcome, decValue, and_assoc]

theorem parseU32_ok_le (s : List Char) (n : Nat) (h : parseU32 s = .ok n) : n ≤ u32Max :=
  ((parseU32_ok_iff s n).1 h).2

theorem parseU32_empty_iff (s : List Char) : parseU32 s = .error .empty ↔ s = [] := by
  rw [parseU32_eq]
  by_cases h1 : s = []
  · simp [h1]
  · by_cases h2 : stripPlus s = []
    · simp [h1, h2]
    · rw [if_neg h1, if_neg h2, parseDigits_iff _ _ (Nat.zero_le _)]
      exact iff_of_false id h1

/-- `IntErrorKind::InvalidDigit`: a lone sign, or (after one optional '+') a non-digit is reached
while the value of the digits before it still fits `u32` -/
theorem parseU32_invalidDigit_iff (s : List Char) :
    parseU32 s = .error .invalidDigit ↔
      s ≠ [] ∧ (stripPlus s = [] ∨
        ∃ pre c post, stripPlus s = pre ++ c :: post ∧ (∀ x ∈ pre, IsDigit x) ∧ ¬ IsDigit c ∧
          decValue pre ≤ u32Max) := by
  rw [parseU32_eq]
  by_cases h1 : s = []
  · rw [if_pos h1]
    exact ⟨fun h => IntErr.noConfusion (Except.error.inj h), fun h => absurd h1 h.1⟩
  · rw [if_neg h1]
    by_cases h2 : stripPlus s = []
    · rw [if_pos h2]
      exact ⟨fun _ => ⟨h1, .inl h2⟩, fun _ => rfl⟩
    · rw [if_neg h2, parseDigits_iff _ _ (Nat.zero_le _)]
      exact ⟨fun h => ⟨h1, .inr h⟩, fun h => h.2.resolve_left h2⟩

/-- `IntErrorKind::PosOverflow`: (after one optional '+') some all-digit prefix already exceeds
`u32::MAX` -/
theorem parseU32_posOverflow_iff (s : List Char) :
    parseU32 s = .error .posOverflow ↔
      ∃ pre post, stripPlus s = pre ++ post ∧ (∀ x ∈ pre, IsDigit x) ∧ decValue pre > u32Max := by
  rw [parseU32_eq]
  by_cases h2 : stripPlus s = []
  · -- no prefix of the empty list has a positive value
    rw [h2]
    refine iff_of_false ?_ ?_
    · split
      · exact fun h => IntErr.noConfusion (Except.error.inj h)
      · rw [if_pos rfl]
        exact fun h => IntErr.noConfusion (Except.error.inj h)
    · rintro ⟨pre, post, hs, -, hv⟩
      rw [(List.append_eq_nil_iff.1 hs.symm).1] at hv
      exact Nat.not_lt_zero _ hv
  · have h1 : s ≠ [] := fun e => h2 (congrArg stripPlus e)
    rw [if_neg h1, if_neg h2, parseDigits_iff _ _ (Nat.zero_le _)]
    rfl

/-- a non-digit before any overflow gives `invalidDigit` (no leading '+' stripped: `pre ≠ []` or
`c ≠ '+'`) -/
theorem parseU32_invalidDigit_of (pre : List Char) (c : Char) (post : List Char)
    (hpre : ∀ x ∈ pre, IsDigit x) (hc : ¬ IsDigit c) (hval : decValue pre ≤ u32Max)
    (hplus : pre = [] → c ≠ '+') :
    parseU32 (pre ++ c :: post) = .error .invalidDigit := by
  rw [parseU32_invalidDigit_iff]
  refine ⟨by simp, Or.inr ⟨pre, c, post, ?_, hpre, hc, hval⟩⟩
  cases pre with
  | nil => exact stripPlus_of_head_ne_plus _ _ (hplus rfl)
  | cons p ps =>
    refine stripPlus_of_head_ne_plus _ _ ?_
    rintro rfl
    exact not_isDigit_plus (hpre _ (List.mem_cons_self ..))

theorem parseU32_plus_invalidDigit_of (pre : List Char) (c : Char) (post : List Char)
    (hpre : ∀ x ∈ pre, IsDigit x) (hc : ¬ IsDigit c) (hval : decValue pre ≤ u32Max) :
    parseU32 ('+' :: (pre ++ c :: post)) = .error .invalidDigit := by
  rw [parseU32_invalidDigit_iff]
  exact ⟨by simp, Or.inr ⟨pre, c, post, stripPlus_plus _, hpre, hc, hval⟩⟩

theorem parseU32_cases (s : List Char) :
    (∃ n, parseU32 s = .ok n) ∨ parseU32 s = .error .empty ∨
      parseU32 s = .error .invalidDigit ∨ parseU32 s = .error .posOverflow := by
  cases h : parseU32 s with
  | ok n => exact Or.inl ⟨n, rfl⟩
  | error e => cases e <;> simp

/-! ### decimal printing -/

theorem digitChar_isDigit : ∀ d, d < 10 → IsDigit (digitChar d) := by decide
theorem digitChar_toNat : ∀ d, d < 10 → (digitChar d).toNat - 48 = d := by decide

theorem digitsAux_spec (fuel n : Nat) (acc : List Char) (hf : n < fuel) :
    ∃ ds, digitsAux fuel n acc = ds ++ acc ∧ ds ≠ [] ∧ (∀ c ∈ ds, IsDigit c) ∧ decValue ds = n := by
  induction fuel generalizing n acc with
  | zero => exact absurd hf (Nat.not_lt_zero _)
  | succ fuel ih =>
    rw [digitsAux]
    by_cases hn : n < 10
    · rw [if_pos hn]
      refine ⟨[digitChar n], rfl, List.cons_ne_nil _ _,
        List.forall_mem_singleton.2 (digitChar_isDigit n hn), ?_⟩
      rw [decValue, List.foldl_cons, List.foldl_nil, decStep, digitChar_toNat n hn, Nat.zero_mul,
        Nat.zero_add]
    · rw [if_neg hn]
      obtain ⟨ds, hds, hne, hdig, hval⟩ := ih (n / 10) (digitChar (n % 10) :: acc) (by omega)
      have hlt : n % 10 < 10 := Nat.mod_lt _ (by decide)
      refine ⟨ds ++ [digitChar (n % 10)], ?_, List.append_ne_nil_of_left_ne_nil hne _, ?_, ?_⟩
      · rw [hds, List.append_assoc]
        rfl
      · exact List.forall_mem_append.2 ⟨hdig, List.forall_mem_singleton.2 (digitChar_isDigit _ hlt)⟩
      · rw [decValue, List.foldl_append, ← decValue, hval, List.foldl_cons, List.foldl_nil, decStep,
          digitChar_toNat _ hlt]
        exact Nat.div_add_mod' n 10

theorem showNat_spec (n : Nat) :
    showNat n ≠ [] ∧ (∀ c ∈ showNat n, IsDigit c) ∧ decValue (showNat n) = n := by
  obtain ⟨ds, hds, hne, hdig, hval⟩ := digitsAux_spec (n + 1) n [] (by omega)
  unfold showNat
  rw [hds, List.append_nil]
  exact ⟨hne, hdig, hval⟩

theorem digitsValue_showNat (n : Nat) : digitsValue (showNat n) = some n :=
  (digitsValue_eq_some_iff _ _).2 (showNat_spec n)

/-- C20: printing a `u32` and parsing it back -/
theorem parseU32_showNat (n : Nat) (h : n ≤ u32Max) : parseU32 (showNat n) = .ok n :=
  (parseU32_ok_iff _ _).2 ⟨Or.inl (digitsValue_showNat n), h⟩

theorem showNat_no_dot (n : Nat) : '.' ∉ showNat n :=
  fun h => not_isDigit_dot ((showNat_spec n).2.1 _ h)

theorem showNat_no_plus (n : Nat) : '+' ∉ showNat n :=
  fun h => not_isDigit_plus ((showNat_spec n).2.1 _ h)

theorem showNat_no_minus (n : Nat) : '-' ∉ showNat n :=
  fun h => not_isDigit_minus ((showNat_spec n).2.1 _ h)

theorem splitDots_append_no_dot (a rest cur : List Char) (ha : '.' ∉ a) :
    splitDots (a ++ rest) cur = splitDots rest (a.reverse ++ cur) := by
  induction a generalizing cur with
  | nil => rfl
  | cons c cs ih =>
    have hc : c ≠ '.' := fun e => ha (e ▸ List.mem_cons_self ..)
    have hcs : '.' ∉ cs := fun e => ha (List.mem_cons_of_mem _ e)
    simp only [List.cons_append, splitDots, hc, if_false]
    rw [ih _ hcs]
    simp

theorem splitDots_dot (cs cur : List Char) :
    splitDots ('.' :: cs) cur = cur.reverse :: splitDots cs [] := by
  simp [splitDots]

theorem splitDots_part_dot (a rest : List Char) (ha : '.' ∉ a) :
    splitDots (a ++ '.' :: rest) [] = a :: splitDots rest [] := by
  rw [splitDots_append_no_dot _ _ _ ha, splitDots_dot]; simp

theorem splitDots_last (a : List Char) (ha : '.' ∉ a) : splitDots a [] = [a] := by
  have := splitDots_append_no_dot a [] [] ha
  simp only [List.append_nil] at this
  rw [this]; simp [splitDots]

/-- joining parts with '.' (the inverse of `split('.')`) -/
def joinDots : List (List Char) → List Char
  | [] => []
  | [p] => p
  | p :: q :: r => p ++ '.' :: joinDots (q :: r)

theorem splitDots_joinDots (parts : List (List Char)) (hne : parts ≠ [])
    (hfree : ∀ p ∈ parts, '.' ∉ p) : splitDots (joinDots parts) [] = parts := by
  induction parts with
  | nil => exact absurd rfl hne
  | cons p ps ih =>
    cases ps with
    | nil => exact splitDots_last p (hfree p (List.mem_cons_self ..))
    | cons q r =>
      simp only [joinDots]
      rw [splitDots_part_dot _ _ (hfree p (List.mem_cons_self ..)),
        ih (by simp) (fun x hx => hfree x (List.mem_cons_of_mem _ hx))]

theorem splitDots_display (v : SemVer) :
    splitDots (display v) [] = [showNat v.major, showNat v.minor, showNat v.patch] := by
  have e : display v = joinDots [showNat v.major, showNat v.minor, showNat v.patch] := by
    simp [display, joinDots]
  rw [e]
  refine splitDots_joinDots _ (List.cons_ne_nil _ _) fun p hp => ?_
  simp only [List.mem_cons, List.not_mem_nil, or_false] at hp
  rcases hp with rfl | rfl | rfl <;> exact showNat_no_dot _

theorem exists_joinDots (s : List Char) :
    ∃ parts, parts ≠ [] ∧ (∀ p ∈ parts, '.' ∉ p) ∧ s = joinDots parts := by
  induction s with
  | nil => exact ⟨[[]], by simp, by simp, rfl⟩
  | cons c cs ih =>
    obtain ⟨parts, hne, hfree, rfl⟩ := ih
    obtain ⟨p, ps, rfl⟩ := List.exists_cons_of_ne_nil hne
    -- a dot opens a new first part, any other character joins the first part
    by_cases hc : c = '.'
    · subst hc
      exact ⟨[] :: p :: ps, by simp, by simpa using hfree, rfl⟩
    · refine ⟨(c :: p) :: ps, by simp, by simpa [Ne.symm hc] using hfree, ?_⟩
      cases ps <;> rfl

theorem splitDots_eq_iff (s : List Char) (parts : List (List Char)) :
    splitDots s [] = parts ↔ parts ≠ [] ∧ (∀ p ∈ parts, '.' ∉ p) ∧ s = joinDots parts := by
  constructor
  · intro h
    obtain ⟨ps, hne, hfree, hs⟩ := exists_joinDots s
    have := splitDots_joinDots ps hne hfree
    rw [← hs, h] at this
    subst this
    exact ⟨hne, hfree, hs⟩
  · rintro ⟨hne, hfree, rfl⟩
    exact splitDots_joinDots parts hne hfree

/-! ### `parse` (`impl FromStr`) -/

/-- `part` is the first of `a`, `b`, `c` (in this order) that `u32::from_str` rejects, with error `e` -/
def FirstOffending (a b c part : List Char) (e : IntErr) : Prop :=
  (part = a ∧ parseU32 a = .error e) ∨
  (part = b ∧ (∃ x, parseU32 a = .ok x) ∧ parseU32 b = .error e) ∨
  (part = c ∧ (∃ x, parseU32 a = .ok x) ∧ (∃ y, parseU32 b = .ok y) ∧ parseU32 c = .error e)

theorem parse_of_three {s a b c : List Char} (hs : splitDots s [] = [a, b, c]) :
    parse s =
      match parseU32 a with
      | .error e => .error (.parseIntError s a e)
      | .ok ma =>
        match parseU32 b with
        | .error e => .error (.parseIntError s b e)
        | .ok mi =>
          match parseU32 c with
          | .error e => .error (.parseIntError s c e)
          | .ok pa => .ok ⟨ma, mi, pa⟩ := by
  unfold parse
  rw [hs]
  rfl

theorem length_eq_three_iff {α : Type} (l : List α) : l.length = 3 ↔ ∃ a b c, l = [a, b, c] := by
  constructor
  · intro h
    match l, h with
    | [a, b, c], _ => exact ⟨a, b, c, rfl⟩
  · rintro ⟨a, b, c, rfl⟩; rfl

theorem parse_of_not_three {s : List Char} (hs : (splitDots s []).length ≠ 3) :
    parse s = .error (.notThreeParts s) := by
  unfold parse
  split
  · next a b c h => rw [h] at hs; exact absurd rfl hs
  · rfl

/-- what each result of `parse` says about its input: three numbers, fewer or more than three parts, or the
first part (in order) that is not a `u32` -/
def ParseOutcome (s : List Char) : Except ParseError SemVer → Prop
  | .ok v => ∃ a b c, splitDots s [] = [a, b, c] ∧ parseU32 a = .ok v.major ∧
      parseU32 b = .ok v.minor ∧ parseU32 c = .ok v.patch
  | .error (.notThreeParts full) => full = s ∧ (splitDots s []).length ≠ 3
  | .error (.parseIntError full part e) =>
      full = s ∧ ∃ a b c, splitDots s [] = [a, b, c] ∧ FirstOffending a b c part e

/-- the results of `parse` below are the cases of this one statement -/
theorem parse_iff (s : List Char) (r : Except ParseError SemVer) : parse s = r ↔ ParseOutcome s r := by
  constructor
  · rintro rfl
    by_cases h3 : (splitDots s []).length = 3
    · obtain ⟨a, b, c, hs⟩ := (length_eq_three_iff _).1 h3
      rw [parse_of_three hs]
      cases ha : parseU32 a with
      | error e => exact ⟨rfl, a, b, c, hs, .inl ⟨rfl, ha⟩⟩
      | ok ma =>
        cases hb : parseU32 b with
        | error e => exact ⟨rfl, a, b, c, hs, .inr (.inl ⟨rfl, ⟨ma, ha⟩, hb⟩)⟩
        | ok mi =>
          cases hc : parseU32 c with
          | error e => exact ⟨rfl, a, b, c, hs, .inr (.inr ⟨rfl, ⟨ma, ha⟩, ⟨mi, hb⟩, hc⟩)⟩
          | ok pa => exact ⟨a, b, c, hs, ha, hb, hc⟩
    · rw [parse_of_not_three h3]
      exact ⟨rfl, h3⟩
  · match r with
    | .ok v =>
      rintro ⟨a, b, c, hs, ha, hb, hc⟩
      rw [parse_of_three hs, ha, hb, hc]
    | .error (.notThreeParts full) =>
      rintro ⟨rfl, h3⟩
      exact parse_of_not_three h3
    | .error (.parseIntError full part e) =>
      rintro ⟨rfl, a, b, c, hs, h⟩
      rw [parse_of_three hs]
      rcases h with ⟨rfl, ha⟩ | ⟨rfl, ⟨x, ha⟩, hb⟩ | ⟨rfl, ⟨x, ha⟩, ⟨y, hb⟩, hc⟩
      · rw [ha]
      · rw [ha, hb]
      · rw [ha, hb, hc]

/-- C20: `FromStr` succeeds exactly when the string has three '.'-separated parts that each parse
as a `u32` (and then returns those three numbers) -/
theorem parse_ok_iff (s : List Char) (v : SemVer) :
    parse s = .ok v ↔
      ∃ a b c, splitDots s [] = [a, b, c] ∧ parseU32 a = .ok v.major ∧
        parseU32 b = .ok v.minor ∧ parseU32 c = .ok v.patch :=
  parse_iff s (.ok v)

theorem parse_ok_iff_string (s : List Char) (v : SemVer) :
    parse s = .ok v ↔
      ∃ a b c, '.' ∉ a ∧ '.' ∉ b ∧ '.' ∉ c ∧ s = a ++ '.' :: (b ++ '.' :: c) ∧
        parseU32 a = .ok v.major ∧ parseU32 b = .ok v.minor ∧ parseU32 c = .ok v.patch := by
  rw [parse_ok_iff]
  constructor
  · rintro ⟨a, b, c, hs, h⟩
    obtain ⟨-, hfree, hj⟩ := (splitDots_eq_iff _ _).1 hs
    exact ⟨a, b, c, hfree a (by simp), hfree b (by simp), hfree c (by simp), hj, h⟩
  · rintro ⟨a, b, c, ha, hb, hc, hs, h⟩
    refine ⟨a, b, c, (splitDots_eq_iff _ _).2 ⟨by simp, ?_, hs⟩, h⟩
    intro p hp
    simp only [List.mem_cons, List.not_mem_nil, or_false] at hp
    rcases hp with rfl | rfl | rfl <;> assumption

/-- C20: `NotThreeParts` (carrying the full input) exactly when `split('.')` does not yield three parts -/
theorem parse_notThreeParts_iff (s : List Char) :
    parse s = .error (.notThreeParts s) ↔ (splitDots s []).length ≠ 3 :=
  (parse_iff s _).trans (and_iff_right rfl)

theorem parse_notThreeParts_full (s full : List Char) (h : parse s = .error (.notThreeParts full)) :
    full = s ∧ (splitDots s []).length ≠ 3 :=
  (parse_iff s _).1 h

/-- C20: with three parts, the error is `ParseIntError` naming the first offending part (and its
`IntErrorKind`), together with the full input -/
theorem parse_error_first_part (s a b c part : List Char) (e : IntErr)
    (hs : splitDots s [] = [a, b, c]) (h : FirstOffending a b c part e) :
    parse s = .error (.parseIntError s part e) :=
  (parse_iff s _).2 ⟨rfl, a, b, c, hs, h⟩

theorem parse_error_major (s a b c : List Char) (e : IntErr) (hs : splitDots s [] = [a, b, c])
    (ha : parseU32 a = .error e) : parse s = .error (.parseIntError s a e) :=
  parse_error_first_part s a b c a e hs (Or.inl ⟨rfl, ha⟩)

theorem parse_error_minor (s a b c : List Char) (x : Nat) (e : IntErr)
    (hs : splitDots s [] = [a, b, c]) (ha : parseU32 a = .ok x) (hb : parseU32 b = .error e) :
    parse s = .error (.parseIntError s b e) :=
  parse_error_first_part s a b c b e hs (Or.inr (Or.inl ⟨rfl, ⟨x, ha⟩, hb⟩))

theorem parse_error_patch (s a b c : List Char) (x y : Nat) (e : IntErr)
    (hs : splitDots s [] = [a, b, c]) (ha : parseU32 a = .ok x) (hb : parseU32 b = .ok y)
    (hc : parseU32 c = .error e) : parse s = .error (.parseIntError s c e) :=
  parse_error_first_part s a b c c e hs (Or.inr (Or.inr ⟨rfl, ⟨x, ha⟩, ⟨y, hb⟩, hc⟩))

theorem parse_parseIntError_iff (s full part : List Char) (e : IntErr) :
    parse s = .error (.parseIntError full part e) ↔
      full = s ∧ ∃ a b c, splitDots s [] = [a, b, c] ∧ FirstOffending a b c part e :=
  parse_iff s _

theorem parse_valid (s : List Char) (v : SemVer) (h : parse s = .ok v) : v.Valid := by
  obtain ⟨a, b, c, -, ha, hb, hc⟩ := (parse_ok_iff s v).1 h
  exact ⟨parseU32_ok_le _ _ ha, parseU32_ok_le _ _ hb, parseU32_ok_le _ _ hc⟩

/-- C20: `Display` followed by `FromStr` returns the same version -/
theorem parse_display (v : SemVer) (hv : v.Valid) : parse (display v) = .ok v :=
  (parse_ok_iff _ _).2 ⟨_, _, _, splitDots_display v, parseU32_showNat _ hv.1,
    parseU32_showNat _ hv.2.1, parseU32_showNat _ hv.2.2⟩

theorem display_injective (v w : SemVer) (hv : v.Valid) (hw : w.Valid)
    (h : display v = display w) : v = w := by
  have h1 := parse_display v hv
  rw [h, parse_display w hw] at h1
  exact (Except.ok.inj h1).symm

-- lets `decide +kernel` evaluate the test vectors below in the kernel alone
deriving instance DecidableEq for Except

example : parse "1.2.3".toList = .ok ⟨1, 2, 3⟩ := by decide +kernel
example : parse "+1.02.4294967295".toList = .ok ⟨1, 2, 4294967295⟩ := by decide +kernel
example : parse "1.2".toList = .error (.notThreeParts "1.2".toList) := by decide +kernel
example : parse "1.2.3.".toList = .error (.notThreeParts "1.2.3.".toList) := by
  decide +kernel
example : parse "1.abc.3".toList =
    .error (.parseIntError "1.abc.3".toList "abc".toList .invalidDigit) := by decide +kernel
example : parse "1.2.-3".toList =
    .error (.parseIntError "1.2.-3".toList "-3".toList .invalidDigit) := by decide +kernel
example : parse "1.2.9876543210".toList =
    .error (.parseIntError "1.2.9876543210".toList "9876543210".toList .posOverflow) := by decide +kernel
example : parse "x..3".toList =
    .error (.parseIntError "x..3".toList "x".toList .invalidDigit) := by decide +kernel
example : parse "1..3".toList = .error (.parseIntError "1..3".toList [] .empty) := by
  decide +kernel
example : display ⟨10, 0, 4294967295⟩ = "10.0.4294967295".toList := by decide +kernel
example : parse (display ⟨10, 0, 4294967295⟩) = .ok ⟨10, 0, 4294967295⟩ := by
  decide +kernel

/-! ### ordering (derived `Ord`) -/

theorem compare_then (m n : Nat) (k : Ordering) :
    (compare m n).then k = if m < n then .lt else if m > n then .gt else k := by
  rw [Nat.compare_eq_ite_lt]
  split
  · rfl
  · split <;> rfl

/-- the derived `Ord` compares the components in turn; the order laws below are those of
`Ordering.then` and of `compare` on `Nat` -/
theorem cmp_eq_then (a b : SemVer) : cmp a b =
    (compare a.major b.major).then ((compare a.minor b.minor).then (compare a.patch b.patch)) := by
  rw [compare_then, compare_then, Nat.compare_eq_ite_lt]
  rfl

theorem cmp_eq_iff (a b : SemVer) : cmp a b = .eq ↔ a = b := by
  cases a; cases b
  simp only [cmp_eq_then, Ordering.then_eq_eq, Nat.compare_eq_eq, SemVer.mk.injEq]

theorem cmp_lt_iff (a b : SemVer) :
    cmp a b = .lt ↔ (a.major < b.major ∨ (a.major = b.major ∧
      (a.minor < b.minor ∨ (a.minor = b.minor ∧ a.patch < b.patch)))) := by
  simp only [cmp_eq_then, Ordering.then_eq_lt, Nat.compare_eq_lt, Nat.compare_eq_eq]

theorem cmp_swap (a b : SemVer) : cmp b a = (cmp a b).swap := by
  simp only [cmp_eq_then, Ordering.swap_then, Nat.compare_swap]

theorem cmp_gt_iff (a b : SemVer) :
    cmp a b = .gt ↔ (b.major < a.major ∨ (b.major = a.major ∧
      (b.minor < a.minor ∨ (b.minor = a.minor ∧ b.patch < a.patch)))) := by
  rw [← cmp_lt_iff, cmp_swap b a, Ordering.swap_eq_gt]

theorem cmp_refl (a : SemVer) : cmp a a = .eq := (cmp_eq_iff a a).2 rfl

theorem lex_lt_trans {x y z : Nat} {p q r : Prop} (h1 : x < y ∨ x = y ∧ p) (h2 : y < z ∨ y = z ∧ q)
    (next : p → q → r) : x < z ∨ x = z ∧ r := by
  rcases h1 with h1 | ⟨rfl, hp⟩
  · rcases h2 with h2 | ⟨rfl, -⟩
    · exact .inl (Nat.lt_trans h1 h2)
    · exact .inl h1
  · rcases h2 with h2 | ⟨rfl, hq⟩
    · exact .inl h2
    · exact .inr ⟨rfl, next hp hq⟩

theorem cmp_lt_trans (a b c : SemVer) (h1 : cmp a b = .lt) (h2 : cmp b c = .lt) : cmp a c = .lt := by
  rw [cmp_lt_iff] at *
  exact lex_lt_trans h1 h2 fun h1 h2 => lex_lt_trans h1 h2 Nat.lt_trans

theorem cmp_lt_irrefl (a : SemVer) : cmp a a ≠ .lt := by
  rw [cmp_refl]; simp

theorem cmp_lt_or_eq_or_gt (a b : SemVer) : cmp a b = .lt ∨ a = b ∨ cmp b a = .lt := by
  cases h : cmp a b with
  | lt => exact Or.inl rfl
  | eq => exact Or.inr (Or.inl ((cmp_eq_iff a b).1 h))
  | gt => right; right; rw [cmp_swap, h]; rfl

theorem ofTuple_toTuple (v : SemVer) : ofTuple (toTuple v) = v := rfl
theorem toTuple_ofTuple (t : Nat × Nat × Nat) : toTuple (ofTuple t) = t := rfl

theorem bumpPatch_spec (v : SemVer) (h : v.patch < u32Max) :
    ∃ w, bumpPatch v = some w ∧ cmp v w = .lt ∧ w.major = v.major ∧ w.minor = v.minor ∧
      w.patch = v.patch + 1 ∧ (v.Valid → w.Valid) := by
  refine ⟨⟨v.major, v.minor, v.patch + 1⟩, by simp [bumpPatch, h], ?_, rfl, rfl, rfl, ?_⟩
  · rw [cmp_lt_iff]; simp
  · rintro ⟨h1, h2, -⟩; exact ⟨h1, h2, h⟩

theorem bumpMinor_spec (v : SemVer) (h : v.minor < u32Max) :
    ∃ w, bumpMinor v = some w ∧ cmp v w = .lt ∧ w.major = v.major ∧ w.minor = v.minor + 1 ∧
      w.patch = 0 ∧ (v.Valid → w.Valid) := by
  refine ⟨⟨v.major, v.minor + 1, 0⟩, by simp [bumpMinor, h], ?_, rfl, rfl, rfl, ?_⟩
  · rw [cmp_lt_iff]; simp
  · rintro ⟨h1, -, -⟩; exact ⟨h1, h, Nat.zero_le _⟩

theorem bumpMajor_spec (v : SemVer) (h : v.major < u32Max) :
    ∃ w, bumpMajor v = some w ∧ cmp v w = .lt ∧ w.major = v.major + 1 ∧ w.minor = 0 ∧
      w.patch = 0 ∧ (v.Valid → w.Valid) := by
  refine ⟨⟨v.major + 1, 0, 0⟩, by simp [bumpMajor, h], ?_, rfl, rfl, rfl, ?_⟩
  · rw [cmp_lt_iff]; simp
  · intro _; exact ⟨h, Nat.zero_le _, Nat.zero_le _⟩

/-- the bumps are `none` exactly at `u32::MAX` (for valid versions), where the Rust overflows -/
theorem bumpPatch_eq_none_iff (v : SemVer) : bumpPatch v = none ↔ ¬ v.patch < u32Max := by
  unfold bumpPatch; split <;> simp_all
theorem bumpMinor_eq_none_iff (v : SemVer) : bumpMinor v = none ↔ ¬ v.minor < u32Max := by
  unfold bumpMinor; split <;> simp_all
theorem bumpMajor_eq_none_iff (v : SemVer) : bumpMajor v = none ↔ ¬ v.major < u32Max := by
  unfold bumpMajor; split <;> simp_all

example : bumpPatch ⟨1, 2, 3⟩ = some ⟨1, 2, 4⟩ := by rfl
example : bumpMinor ⟨1, 2, 3⟩ = some ⟨1, 3, 0⟩ := by rfl
example : bumpMajor ⟨1, 2, 3⟩ = some ⟨2, 0, 0⟩ := by rfl
example : bumpPatch ⟨1, 2, 4294967295⟩ = none := by rfl
example : cmp ⟨1, 2, 3⟩ ⟨1, 10, 0⟩ = .lt := by rfl
example : cmp ⟨2, 0, 0⟩ ⟨1, 10, 0⟩ = .gt := by rfl

end SemVer
end Pubgrub
