/-
The run-level invariant (semantic bundle with the obligations of the package in flight waived until the
next unit propagation, index completeness, bookkeeping of `added_dependencies`) and its preservation by
`Solver.step`.
-/
import PubgrubProofs.OwnAddIncompat
import PubgrubProofs.PSInvariant

set_option linter.unusedSectionVars false

namespace Pubgrub
open VersionSet

section First
variable {P S V M Pr : Type} [DecidableEq P] [VersionSet S V] [DecidableEq S] [LawfulVersionSet S V]

theorem PartialSolution.relation_empty_notRoot (root : P) (rv : V) :
    (PartialSolution.empty : PartialSolution P S V Pr).relation (Incompat.notRoot root rv : Incompat P S V M) =
      .almostSatisfied root := by
  simp [PartialSolution.relation, Incompat.relation, Incompat.notRoot, Incompat.relationGo,
    PartialSolution.termIntersectionForPackage, PartialSolution.getPA, PartialSolution.empty, SmallMap.get]

theorem State.start_unitPropagation (W : World P S V M) (root : P) (rv : V) (debug : Bool)
    {fuel : Nat} {st' : State P S V M Pr}
    (hr : State.unitPropagation fuel (State.init debug root rv : State P S V M Pr) root = .ok (st', none)) :
    Sem W root rv st' noWaive ∧ st'.IndexComplete ∧
      (∀ (p : P) (pa : PackageAssignments S V) (g : Nat) (v : V) (t : Term S),
        st'.ps.getPA p = some pa → pa.inter ≠ .decision g v t) ∧ st'.DDChainInv := by
  unfold State.unitPropagation at hr
  cases fuel with
  | zero => simp [State.unitPropagationLoop] at hr
  | succ fuel =>
    unfold State.unitPropagationLoop at hr
    simp only [State.init, List.getLast?_singleton, List.dropLast_singleton, SmallMap.get, if_true,
      List.reverse_cons, List.reverse_nil, List.nil_append] at hr
    unfold State.propagateIncompats at hr
    simp only [SmallMap.containsKey, SmallMap.get, Option.isSome_none, Bool.false_eq_true, if_false,
      storeGet, unwrapOr, List.getElem?_cons_zero] at hr
    rw [PartialSolution.relation_empty_notRoot] at hr
    simp only at hr
    split at hr
    · cases hr
    · rename_i st1 hp
      split at hp
      · cases hp
      rename_i ps hps
      simp only [State.propagateIncompats] at hp
      injection hp with hp; injection hp with hp1 hp2; subst hp1
      have hwf0 : (PartialSolution.empty : PartialSolution P S V Pr).WF' := by
        refine ⟨⟨Nat.le_refl _, Nat.le_refl _, List.nodup_nil, ?_, List.nodup_nil, ?_⟩, ?_⟩
        · intro i p pa h; simp [PartialSolution.empty] at h
        · intro p pr h; simp [PartialSolution.empty] at h
        · intro kv h; simp [PartialSolution.empty] at h
      have hv0 : (PartialSolution.empty : PartialSolution P S V Pr).TermsValid :=
        PartialSolution.termsValid_empty
      have hstore : StoreInv W root rv [(Incompat.notRoot root rv : Incompat P S V M)] := storeInv_init W root rv
      have hw1 := PartialSolution.addDerivation_wf' hwf0 hps
      have hv1 := PartialSolution.addDerivation_termsValid W root rv hstore hv0 hps
      have htop := PartialSolution.termsAt_top hw1.wf (Nat.le_refl _)
      obtain ⟨inc, t, o', hinc, hget, hnew, hsub, _⟩ := PartialSolution.terms_addDerivation_self hwf0 hv0 hps
      simp only [List.getElem?_cons_zero, Option.some.injEq] at hinc
      subst hinc
      have htv := Incompat.get_valid W root rv hstore (id := 0) rfl hget
      have hc : (Incompat.notRoot root rv : Incompat P S V M).SContra ps.terms :=
        ⟨root, t, o', SmallMap.mem_of_get hget, hnew, (Term.disj_negate t).mono (hsub htv)⟩
      have hcache : ∀ id l0, (id, l0) ∈ SmallMap.insert ([] : List (Nat × Nat)) 0 ps.currentDecisionLevel →
          id = 0 ∧ l0 = ps.currentDecisionLevel := by
        intro id l0 hm
        simp only [SmallMap.insert, List.mem_singleton, Prod.mk.injEq] at hm
        exact hm
      have hnodec : ∀ (p : P) (pa : PackageAssignments S V) (g : Nat) (v : V) (t : Term S),
          ps.getPA p = some pa → pa.inter ≠ .decision g v t := by
        intro p pa g v t' e1 e2
        have := PartialSolution.addDerivation_decided hwf0 hps e1 e2
        simp [PartialSolution.getPA, PartialSolution.empty, SmallMap.get] at this
      have key := fun hsem hic => State.unitPropagationLoop_sem W root rv _ _ hr
        (Sem.reWaive W root rv (waive := noWaive) hsem (fun _ _ _ hw => hw.elim)) hic
      have hres := key ?hsem ?hic
      case hsem =>
        refine ⟨⟨hstore, rfl, rfl, hv1⟩, ⟨hw1, ?_⟩, ?_, ?_, ?_, ?_⟩
        · intro kv hkv
          obtain ⟨e, _⟩ := hcache kv.1 kv.2 hkv
          show kv.1 < 1
          omega
        · intro p pa g v t' e1 e2
          exact absurd e2 (hnodec p pa g v t' e1)
        · intro id l0 hm
          obtain ⟨rfl, rfl⟩ := hcache id l0 hm
          refine ⟨Nat.le_refl _, ?_⟩
          intro inc hinc l l1 l2
          simp only [List.getElem?_cons_zero, Option.some.injEq] at hinc
          subst hinc
          have : l = ps.currentDecisionLevel := Nat.le_antisymm l2 l1
          subst this
          show (Incompat.notRoot root rv : Incompat P S V M).SContra (ps.termsAt _)
          rw [htop]; exact hc
        · refine ⟨rfl, ?_⟩
          intro l l2
          have hl0 : ps.currentDecisionLevel = 0 := PartialSolution.addDerivation_level hps
          have : l = ps.currentDecisionLevel := by
            have : l ≤ ps.currentDecisionLevel := l2
            omega
          subst this
          show (Incompat.notRoot root rv : Incompat P S V M).SContra (ps.termsAt _)
          rw [htop]; exact hc
        · intro p id hid
          unfold State.indexOf at hid
          simp only [SmallMap.get] at hid
          split at hid
          · simp only [Option.getD_some, List.mem_singleton] at hid
            subst hid; show 0 < 1; omega
          · simp at hid
      case hic =>
        intro id inc hinc
        have hlt := (List.getElem?_eq_some_iff.1 hinc).1
        have : id = 0 := by simp at hlt; omega
        subst this
        simp only [List.getElem?_cons_zero, Option.some.injEq] at hinc
        subst hinc
        simp [Incompat.notRoot]
      refine ⟨hres.1, hres.2.1, ?_, hres.2.2.chain
        (PartialSolution.addDerivation_ddchain (fun _ hkv => (List.not_mem_nil hkv).elim) hps)⟩
      intro p pa g v t' e1 e2
      obtain ⟨pa0, g0, t0, e3, e4⟩ := hres.2.2.dec p pa g v t' e1 e2
      exact hnodec p pa0 g0 v t0 e3 e4
    · rename_i st1 c hp
      split at hp
      · cases hp
      simp only [State.propagateIncompats] at hp
      injection hp with hp; injection hp with hp1 hp2; cases hp2

end First

section Run
variable {P S V M Pr E : Type} [DecidableEq P] [VersionSet S V] [DecidableEq S] [DecidableEq V]
  [LE Pr] [DecidableLE Pr] [LawfulVersionSet S V]

/-- the dependency answer of `(p, v)` has been turned into stored incompatibilities -/
def DepsDone (W : World P S V M) (store : List (Incompat P S V M)) (p : P) (v : V) : Prop :=
  match W.deps p v with
  | .unavailable m => ∃ (id : Nat) (inc : Incompat P S V M), store[id]? = some inc ∧
      inc.kind = .custom p (VersionSet.singleton v) m
  | .available ds => ∀ d ∈ ds, ∃ (id : Nat) (inc : Incompat P S V M), store[id]? = some inc ∧
      inc.kind = .fromDependencyOf p (VersionSet.singleton v) d.1 d.2

theorem DepsDone.mono {W : World P S V M} {store store' : List (Incompat P S V M)} {p : P} {v : V}
    (h : DepsDone W store p v)
    (hpre : ∀ (i : Nat) (x : Incompat P S V M), store[i]? = some x → store'[i]? = some x) :
    DepsDone W store' p v := by
  unfold DepsDone at h ⊢
  cases hd : W.deps p v with
  | unavailable m =>
    rw [hd] at h; simp only at h ⊢
    obtain ⟨id, inc, e1, e2⟩ := h
    exact ⟨id, inc, hpre _ _ e1, e2⟩
  | available ds =>
    rw [hd] at h; simp only at h ⊢
    intro d hdm
    obtain ⟨id, inc, e1, e2⟩ := h d hdm
    exact ⟨id, inc, hpre _ _ e1, e2⟩

/-- the run-level invariant of C01: the bundle `Sem` with the obligations of the package under
propagation waived, index completeness, and what the list `added` of fetched versions records -/
structure JMain (W : World P S V M) (root : P) (rv : V) (s : SolverState P S V M Pr) : Prop where
  sem : Sem W root rv s.st (fun p _ => s.phase = .cancel ∧ p = s.next)
  ic : s.st.IndexComplete
  offered : ∀ p v, (p, v) ∈ s.added → v ∈ W.versions p
  deps : ∀ p v, (p, v) ∈ s.added → s.phase ≠ .fetching p v → DepsDone W s.st.store p v
  dec : ∀ p pa g v t, s.st.ps.getPA p = some pa → pa.inter = .decision g v t → (p, v) ∈ s.added
  fetch : ∀ p v, s.phase = .fetching p v → (p, v) ∈ s.added

/-- the invariant, together with the chain invariant of the dated derivations (which rides along the
same case analysis), holds from the first unit propagation on, as long as the run has not ended
otherwise than by a solution -/
def JInv (W : World P S V M) (debug : Bool) (fuel : Nat) (root : P) (rv : V)
    (x : SolverState P S V M Pr × Request P S V M Pr E) : Prop :=
  x = Solver.start debug fuel root rv ∨ (x.1.phase = .finished ∧ ∀ sel, x.2 ≠ .solution sel) ∨
    (JMain W root rv x.1 ∧ x.1.st.DDChainInv)

theorem jinv_finish (W : World P S V M) (debug : Bool) (fuel : Nat) (root : P) (rv : V)
    (s : SolverState P S V M Pr) (r : Request P S V M Pr E) (hr : ∀ sel, r ≠ .solution sel) :
    JInv W debug fuel root rv (Solver.finish s r) :=
  Or.inr (Or.inl ⟨rfl, hr⟩)

theorem jinv_of_main (W : World P S V M) (debug : Bool) (fuel : Nat) (root : P) (rv : V)
    {s : SolverState P S V M Pr} (r : Request P S V M Pr E)
    (h : JMain W root rv s ∧ s.st.DDChainInv) : JInv W debug fuel root rv (s, r) :=
  Or.inr (Or.inr h)

theorem JMain.next {W : World P S V M} {root : P} {rv : V} {s s' : SolverState P S V M Pr}
    (h : JMain W root rv s) (hc : s.st.DDChainInv)
    (hsem : Sem W root rv s'.st (fun p _ => s'.phase = .cancel ∧ p = s'.next))
    (hic : s'.st.IndexComplete) (hg : Grow s.st s'.st) (hadd : s'.added = s.added)
    (hnf : ∀ p v, s'.phase ≠ .fetching p v)
    (hdeps : ∀ p v, s.phase = .fetching p v → DepsDone W s'.st.store p v) :
    JMain W root rv s' ∧ s'.st.DDChainInv := by
  refine ⟨⟨hsem, hic, hadd ▸ h.offered, ?_, ?_, fun p v hp => absurd hp (hnf p v)⟩, hg.chain hc⟩
  · intro p v hm _
    by_cases hf : s.phase = .fetching p v
    · exact hdeps p v hf
    · exact (h.deps p v (hadd ▸ hm) hf).mono hg.store
  · intro p pa g v t e1 e2
    obtain ⟨pa0, g0, t0, e3, e4⟩ := hg.dec p pa g v t e1 e2
    exact hadd ▸ h.dec p pa0 g0 v t0 e3 e4

theorem jinv_step_start (W : World P S V M) (debug : Bool) (fuel : Nat) (root : P) (rv : V)
    (a : Answer P S V M Pr E) :
    JInv W debug fuel root rv (Solver.step (Solver.start (Pr := Pr) (E := E) (M := M) debug fuel root rv).1 a) := by
  apply Solver.step_cases (motive := JInv W debug fuel root rv) _ a
  case stop => exact fun s' r _ hr => jinv_finish W debug fuel root rv s' r hr
  case propagated =>
    intro st L _ _ hu _
    obtain ⟨h1, h2, h3, h4⟩ := State.start_unitPropagation W root rv debug hu
    have hmain : ∀ ph : Phase P S V Pr, (∀ p v, ph ≠ .fetching p v) →
        JMain W root rv ({ st := st, added := [], next := root, phase := ph, fuel := fuel } :
          SolverState P S V M Pr) := fun ph hf =>
      ⟨Sem.reWaive W root rv h1 (fun _ _ _ hw => hw.elim), h2, nofun, nofun,
        fun p pa g v t e1 e2 => absurd e2 (h3 p pa g v t e1), fun p v hp => absurd hp (hf p v)⟩
    cases L with
    | nil => exact jinv_of_main W debug fuel root rv _ ⟨hmain _ nofun, h4⟩
    | cons cur rest => exact jinv_of_main W debug fuel root rv _ ⟨hmain _ nofun, h4⟩
  -- the run starts in the phase `cancel`
  all_goals (intros; contradiction)

theorem PartialSolution.InflightPos.undecided {ps : PartialSolution P S V Pr} {p : P}
    (h : ps.InflightPos p) (pa : PackageAssignments S V) (g : Nat) (v : V) (t : Term S)
    (hpa : ps.getPA p = some pa) : pa.inter ≠ .decision g v t := by
  obtain ⟨pa0, s0, hpa0, hder⟩ := h
  rw [hpa0] at hpa; injection hpa with hpa; subst hpa
  rw [hder]; intro e; cases e

theorem JMain.afterDecision {W : World P S V M} {root : P} {rv : V} {s : SolverState P S V M Pr}
    {st : State P S V M Pr} {added : List (P × V)} {p : P} {v : V} {t : Term S}
    {ps : PartialSolution P S V Pr} {debug : Bool}
    (hsem : Sem W root rv st noWaive) (hic : st.IndexComplete) (hc : st.DDChainInv)
    (hpos : st.ps.InflightPos p) (hterm : st.ps.termIntersectionForPackage p = some t)
    (hv : t.contains v = true) (hq : SmallMap.get st.ps.queue p = none)
    (hps : PartialSolution.addDecision debug st.ps p v = .ok ps)
    (hnext : s.next = p) (hmem : (p, v) ∈ added)
    (hoff : ∀ p v, (p, v) ∈ added → v ∈ W.versions p)
    (hdeps : ∀ p v, (p, v) ∈ added → DepsDone W st.store p v)
    (hdec : ∀ p pa g v t, st.ps.getPA p = some pa → pa.inter = .decision g v t → (p, v) ∈ added) :
    JMain W root rv ({ s with st := { st with ps := ps }, added := added, phase := .cancel } :
      SolverState P S V M Pr) ∧ DDChainA st.store ps.assignments := by
  obtain ⟨pa, s0, hpa, hder0⟩ := hpos
  have hder : pa.inter = .derivations t := by
    simp only [PartialSolution.termIntersectionForPackage, hpa, Option.map_some, hder0, AssignInter.term,
      Option.some.injEq] at hterm
    rw [hder0, hterm]
  have hd := Sem.decide W root rv hsem hpa hder hv hq hps
  refine ⟨⟨Sem.reWaive W root rv hd (fun p' _ _ hw => ⟨rfl, hw.trans hnext.symm⟩), hic.congr rfl rfl, hoff,
    fun p v hm _ => hdeps p v hm, ?_, fun p v hp => (nomatch hp)⟩,
    PartialSolution.addDecision_ddchain hsem.pinv.wf.wf hc ⟨pa, s0, hpa, hder0⟩ hps⟩
  intro p' pa' g v' t' e1 e2
  have hget := PartialSolution.addDecision_getPA hsem.pinv.wf.wf hps hd.pinv.wf.wf hpa hder p'
  simp only at e1
  rw [e1] at hget
  by_cases hp : p' = p
  · subst hp
    rw [if_pos rfl] at hget
    injection hget with hget
    subst hget
    simp only [PackageAssignments.decide] at e2
    injection e2 with _ e2 _
    subst e2
    exact hmem
  · rw [if_neg hp] at hget
    exact hdec p' pa' g v' t' hget.symm e2

theorem jinv_step (W : World P S V M) (hW : W.SetsValid) (debug : Bool) (fuel : Nat) (root : P) (rv : V)
    (s : SolverState P S V M Pr) (req : Request P S V M Pr E) (a : Answer P S V M Pr E)
    (hr : RInv W root rv (s, req)) (hr' : RInv' (s, req))
    (hj : JInv W debug fuel root rv (s, req)) (ha : AnswerOK W req a) :
    JInv W debug fuel root rv (Solver.step s a) := by
  rcases hj with hj | ⟨hph, _⟩ | ⟨hj, hc⟩
  · have e1 : s = (Solver.start (Pr := Pr) (E := E) (M := M) debug fuel root rv).1 := by rw [← hj]
    rw [e1]
    exact jinv_step_start W debug fuel root rv a
  · rw [Solver.step_finished s a hph]
    exact Or.inr (Or.inl ⟨hph, nofun⟩)
  simp only at hj hc
  -- the waiver of the invariant is empty outside the phase `cancel`
  have hsemN : ∀ {st : State P S V M Pr} {ph}, s.phase = ph → ph ≠ .cancel →
      Sem W root rv st (fun p _ => s.phase = .cancel ∧ p = s.next) → Sem W root rv st noWaive :=
    fun e hnc h => Sem.reWaive W root rv h (fun _ _ _ hw => absurd (e ▸ hw.1) hnc)
  have noW : ∀ {st : State P S V M Pr} {w : P → Nat → Prop}, Sem W root rv st noWaive → Sem W root rv st w :=
    fun h => Sem.reWaive W root rv h (fun _ _ _ hw => hw.elim)
  -- no fetch is pending in phase `ph`
  have nf : ∀ {ph : Phase P S V Pr} {store}, s.phase = ph → (∀ p v, ph ≠ .fetching p v) →
      ∀ p v, s.phase = .fetching p v → DepsDone W store p v := fun e h p v hf => absurd (e ▸ hf) (h p v)
  -- when the queue is popped the priorities are written and the assignments stay
  have picked : ∀ {acc}, s.phase = .picking acc → (s.st.ps.afterPrioritize acc).WF' ∧
      ∀ (ps : PartialSolution P S V Pr) (nx : P) (ph : Phase P S V Pr),
        ps.assignments = s.st.ps.assignments → ps.currentDecisionLevel = s.st.ps.currentDecisionLevel →
        ps.WF' → (∀ p v, ph ≠ .fetching p v) →
        JMain W root rv ({ s with st := { s.st with ps := ps }, next := nx, phase := ph } :
          SolverState P S V M Pr) ∧ DDChainA s.st.store ps.assignments := by
    intro acc hph
    obtain ⟨⟨L, hL, hmap⟩, _⟩ := hr'.picking acc hph
    exact ⟨PartialSolution.afterPrioritize_wf' hj.sem.pinv.wf acc
        (fun q hq => PartialSolution.toPrioritize_sound hj.sem.pinv.wf.wf hL q (hmap ▸ hq)),
      fun ps nx ph e1 e2 hw hf => hj.next hc
        (noW (Sem.setPS W root rv (hsemN hph nofun hj.sem) ps e1 e2 hw))
        (hj.ic.congr rfl rfl) (Grow.setPS s.st e1) rfl hf (nf hph nofun)⟩
  apply Solver.step_cases (motive := JInv W debug fuel root rv) s a
  case stop => exact fun s' r _ hr => jinv_finish W debug fuel root rv s' r hr
  case propagated =>
    -- unit propagation for `s.next` discharges the waived obligations
    intro st L hph _ hu _
    obtain ⟨h1, h2, h3⟩ := State.unitPropagation_sem W root rv hu
      (Sem.reWaive W root rv hj.sem (fun _ _ _ hw => hw.2)) hj.ic
    have hmain : ∀ ph : Phase P S V Pr, (∀ p v, ph ≠ .fetching p v) →
        JMain W root rv ({ s with st := st, phase := ph } : SolverState P S V M Pr) ∧ st.DDChainInv :=
      fun ph hf => hj.next hc (noW h1) h2 h3 rfl hf (nf hph nofun)
    cases L with
    | nil => exact jinv_of_main W debug fuel root rv _ (hmain _ nofun)
    | cons cur rest => exact jinv_of_main W debug fuel root rv _ (hmain _ nofun)
  case prioritized =>
    intro cur rest acc pr hph _
    have hmain : ∀ ph : Phase P S V Pr, (∀ p v, ph ≠ .fetching p v) →
        JMain W root rv ({ s with phase := ph } : SolverState P S V M Pr) ∧ s.st.DDChainInv :=
      fun ph hf => hj.next hc (noW (hsemN hph nofun hj.sem)) hj.ic (Grow.refl _) rfl hf (nf hph nofun)
    cases rest with
    | nil => exact jinv_of_main W debug fuel root rv _ (hmain _ nofun)
    | cons nxt rest' => exact jinv_of_main W debug fuel root rv _ (hmain _ nofun)
  case solved =>
    intro acc sel hph _ _ _
    obtain ⟨hwf1, hmain⟩ := picked hph
    exact jinv_of_main W debug fuel root rv _ (hmain _ _ _ rfl rfl hwf1 nofun)
  case popped =>
    intro acc p t set hph _ _ _ _
    obtain ⟨hwf1, hmain⟩ := picked hph
    exact jinv_of_main W debug fuel root rv _
      (hmain _ _ _ rfl rfl (PartialSolution.queueRemove_wf' hwf1 p) nofun)
  case noVersion =>
    intro p t inc st hph e hinc hadd
    subst e
    obtain ⟨htv, set, hreq, hts⟩ := hr.choosing p t hph
    cases hreq
    have hfl := (hr'.choosing p t hph).2.2
    have g : inc.Good W root rv s.st.store s.st.store.length :=
      Incompat.noVersions_good W root rv _ _ p t htv set (by subst hts; rfl) ha inc hinc
    have Hown : ∀ p', inc.OwnedBy p' → ∀ pa g v t, s.st.ps.getPA p' = some pa →
        pa.inter ≠ .decision g v t := by
      intro p' ho
      subst hts
      cases hinc
      cases (ho : p = p')
      exact hfl.2.2.undecided
    obtain ⟨h1, h2, h3, h4, _⟩ := State.addIncompatibility_sem W root rv hadd hj.sem hj.ic g Hown
    exact jinv_of_main W debug fuel root rv _ (hj.next hc
      (noW (hsemN hph nofun h1)) h2
      (Grow.of_prefix h3 h4) rfl nofun (nf hph nofun))
  case fetch =>
    -- a new (package, version): fetch its dependencies
    intro p t v hph e _ _
    subst e
    obtain ⟨_, set, hreq, _⟩ := hr.choosing p t hph
    cases hreq
    refine jinv_of_main W debug fuel root rv _ ⟨⟨noW (hsemN hph nofun hj.sem), hj.ic, ?_, ?_, ?_, ?_⟩, hc⟩
    · intro p' v' hm
      rcases List.mem_append.1 hm with hm | hm
      · exact hj.offered p' v' hm
      · cases List.mem_singleton.1 hm
        exact ha
    · intro p' v' hm hne
      rcases List.mem_append.1 hm with hm | hm
      · exact hj.deps p' v' hm (hph ▸ nofun)
      · cases List.mem_singleton.1 hm
        exact absurd rfl hne
    · intro p' pa' g' v' t' e1 e2
      exact List.mem_append_left _ (hj.dec p' pa' g' v' t' e1 e2)
    · intro p' v' hp
      cases hp
      exact List.mem_append_right _ (List.mem_singleton.2 rfl)
  case redecided =>
    -- already fetched: decide
    intro p t v ps hph _ hv hnew hps
    obtain ⟨hnext, hterm, hfl⟩ := hr'.choosing p t hph
    exact jinv_of_main W debug fuel root rv _
      (JMain.afterDecision (s := s) (hsemN hph nofun hj.sem) hj.ic hc hfl.2.2 hterm hv hfl.2.1 hps hnext
        (List.contains_iff_mem.1 hnew) hj.offered (fun p v hm => hj.deps p v hm (hph ▸ nofun)) hj.dec)
  case unavailable =>
    intro p v m st hph e hadd
    subst e
    cases hr.fetching p v hph
    obtain ⟨hnext, hfl, t, hterm, hv⟩ := hr'.fetching p v hph
    obtain ⟨h1, h2, h3, h4, h5⟩ := State.addIncompatibility_sem W root rv hadd hj.sem hj.ic
      (Incompat.customVersion_good W root rv _ _ p v m ha)
      (fun p' ho => (show p = p' from ho) ▸ hfl.2.2.undecided)
    refine jinv_of_main W debug fuel root rv _ (hj.next hc
      (noW (hsemN hph nofun h1)) h2
      (Grow.of_prefix h3 h4) rfl nofun ?_)
    intro p' v' hf
    cases hph.symm.trans hf
    unfold DepsDone
    rw [show W.deps p v = .unavailable m from ha]
    exact ⟨_, _, h5, rfl⟩
  case available =>
    intro p v deps st start stop ps hph e hadd hps
    subst e
    cases hr.fetching p v hph
    obtain ⟨hnext, hfl, t, hterm, hv⟩ := hr'.fetching p v hph
    have ha' : W.deps p v = .available deps := ha
    obtain ⟨h1, h2, h3, h4, h5⟩ := State.addIncompatibilityFromDependencies_sem W hW root rv hadd
      hj.sem hj.ic ha' (hfl.2.2.undecided)
    have h1' := hsemN hph nofun h1
    -- the state after the dependencies are stored, before the decision
    obtain ⟨hj1, hc1⟩ := hj.next (s' := { s with st := st, phase := .cancel }) hc (noW h1') h2
      (Grow.of_prefix h3 h4) rfl nofun (by
        intro p' v' hf
        cases hph.symm.trans hf
        unfold DepsDone
        rw [ha']
        intro d hd
        obtain ⟨id, hid⟩ := h5 d hd
        exact ⟨id, _, hid, rfl⟩)
    rcases PartialSolution.addVersion_spec hps with hps | ⟨hps, -⟩
    · exact jinv_of_main W debug fuel root rv _
        (JMain.afterDecision (s := s) h1' h2 hc1 (h4 ▸ hfl.2.2) (h4 ▸ hterm) hv (h4 ▸ hfl.2.1) hps hnext
          (hj.fetch p v hph) hj.offered (fun p v hm => hj1.deps p v hm nofun) hj1.dec)
    · subst hps
      exact jinv_of_main W debug fuel root rv _ ⟨hj1, hc1⟩

end Run
end Pubgrub
