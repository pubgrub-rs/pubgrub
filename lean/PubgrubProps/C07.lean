/-
Property C07 — resolve is deterministic: same answers in, same result and call trace out.

What a theorem can say: the model of `resolve` is a function of (root, version, answers), and it is
*causal*: the first k+1 requests depend only on the first k answers (`C07_causal`); hence two providers
— arbitrary functions of the history of requests they have seen — that answer alike on the histories
that actually occur see the identical call sequence and get the identical result
(`C07_same_answers_same_run`).  That the real `resolve` is this function is exactly the exact-mirror correspondence:
on every recorded run the model, given only the provider's answers (and which maximal package the
queue popped), predicts every request, every snapshot and the result.

What a theorem cannot say (runtime facts, covered by the correspondence only): `FxHashMap` iteration
order (the text of a clause with two same-sign terms or ≥ 3 terms in the default report follows it:
seedless, hence reproducible, but not modelled), the randomly seeded `std::HashSet` inside
`build_derivation_tree` (sorted by id before use: the model's `sortIds`).  The check runs every case
twice in-process (String and u32 package names) and the whole request file in two fresh processes,
and compares results, derivation trees, report texts and full callback traces byte for byte.
-/
import PubgrubProofs.Protocol

namespace Pubgrub.C07
open Pubgrub Pubgrub.Solver

variable {P S V M Pr E : Type} [DecidableEq P] [VersionSet S V] [DecidableEq S] [DecidableEq V]
  [LE Pr] [DecidableLE Pr]

/-- the answers a provider gives in the first `n` rounds: the provider may depend on the whole history
of requests it has seen (stateful, random with a seed, …) -/
def answersOf (prov : List (Request P S V M Pr E) → Answer P S V M Pr E)
    (debug : Bool) (fuel : Nat) (root : P) (rv : V) : Nat → List (Answer P S V M Pr E)
  | 0 => []
  | n + 1 =>
    answersOf prov debug fuel root rv n ++
      [prov (trace debug fuel root rv (answersOf prov debug fuel root rv n))]

/-- determinism: two providers that answer alike on the request histories that actually occur see the
same calls and get the same result — the run is a function of the provider's answers to the requests it
is sent, nothing else (no clock, no address, no global state) -/
theorem C07_same_answers_same_run (prov1 prov2 : List (Request P S V M Pr E) → Answer P S V M Pr E)
    (debug : Bool) (fuel : Nat) (root : P) (rv : V) (n : Nat)
    (h : ∀ k, k < n →
      prov1 (trace debug fuel root rv (answersOf prov1 debug fuel root rv k)) =
      prov2 (trace debug fuel root rv (answersOf prov1 debug fuel root rv k))) :
    answersOf prov1 debug fuel root rv n = answersOf prov2 debug fuel root rv n ∧
    trace debug fuel root rv (answersOf prov1 debug fuel root rv n) =
      trace debug fuel root rv (answersOf prov2 debug fuel root rv n) ∧
    (after (start debug fuel root rv) (answersOf prov1 debug fuel root rv n)).2 =
      (after (start debug fuel root rv) (answersOf prov2 debug fuel root rv n)).2 := by
  have key : ∀ m, m ≤ n → answersOf prov1 debug fuel root rv m = answersOf prov2 debug fuel root rv m := by
    intro m
    induction m with
    | zero => intro _; rfl
    | succ m ih =>
      intro hm
      have ihm := ih (Nat.le_of_succ_le hm)
      simp only [answersOf]
      rw [← ihm, h m hm]
  have e := key n (Nat.le_refl n)
  rw [e]
  exact ⟨rfl, rfl, rfl⟩

/-- causality: two answer sequences that agree on their first k answers produce the same first k+1
requests -/
theorem C07_causal (debug : Bool) (fuel : Nat) (root : P) (rv : V)
    (common as bs : List (Answer P S V M Pr E)) :
    (trace debug fuel root rv (common ++ as)).take (common.length + 1) =
    (trace debug fuel root rv (common ++ bs)).take (common.length + 1) := by
  rw [trace_prefix, trace_prefix]

end Pubgrub.C07
