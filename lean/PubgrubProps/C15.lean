/-
Property C15 — Range queries and Display agree with membership.

Theorems about the model `PubgrubModel/Range.lean` for every linear order `V`, canonical ranges
(`WF`) and ascending version sequences (`List.Pairwise (· ≤ ·)`; the Rust debug-asserts sortedness,
unsorted input is outside the property).

The Display clause is proved on the structure of the text (`displayAtoms`: per segment the atoms
`>=v`, `>v`, `<=v`, `<v`, bare `v`, `*`; atoms joined by ", " = and, segments by " | " = or, "∅" for no
segment): the model's string is the rendering of that structure (`C15_display_is_render`, string
level), the structure denotes exactly the range's set (`C15_display_denotes`) and determines the range
(`C15_display_injective`), so distinct sets print differently.  `iter()` yields the segments (`C15_iter`).
-/
import PubgrubProofs.RangeQuery
import PubgrubProofs.RangeRel
import PubgrubProofs.RangeSet
import PubgrubProofs.DisplayLaws
import PubgrubProofs.DisplayString

namespace Pubgrub.C15
open Pubgrub Pubgrub.Range Bound

variable {V : Type} [LinearOrder V]

/-- `contains_many` over a sorted sequence equals mapping `contains` -/
theorem C15_containsMany (r : Range V) (hr : Range.WF r) (vs : List V) (hs : vs.Pairwise (· ≤ ·)) :
    Range.containsMany r vs = vs.map (Range.contains r) := containsMany_eq_map r hr vs hs

/-- `simplify(versions)` agrees with the original on every listed version, never has more segments,
returns the original for a singleton or when nothing matches, and is canonical -/
theorem C15_simplify (r : Range V) (hr : Range.WF r) (vs : List V) (hs : vs.Pairwise (· ≤ ·)) :
    (∀ v ∈ vs, Range.contains (Range.simplify r vs) v = Range.contains r v) ∧
    (Range.simplify r vs).length ≤ r.length ∧
    ((Range.asSingleton r).isSome = true → Range.simplify r vs = r) ∧
    ((∀ v ∈ vs, Range.contains r v = false) → Range.simplify r vs = r) ∧
    Range.WF (Range.simplify r vs) :=
  ⟨fun v hv => simplify_agrees r hr vs hs v hv, simplify_length_le_of_sorted r vs hs,
   simplify_singleton r vs, simplify_none_match r hr vs hs, wf_simplify r hr vs hs⟩

/-- `bounding_range` covers every contained version and is `None` only for the empty range -/
theorem C15_boundingRange (r : Range V) (hr : Range.WF r) :
    (Range.boundingRange r = none ↔ r = []) ∧
    (∀ s e, Range.boundingRange r = some (s, e) →
      ∀ v, Range.contains r v = true → Seg.Mem v (s, e)) :=
  ⟨boundingRange_eq_none_iff r, fun s e h v hv => boundingRange_covers r hr s e h v hv⟩

/-- `as_singleton` is `Some(v)` exactly for the canonical form of `{v}` -/
theorem C15_asSingleton (r : Range V) (v : V) :
    Range.asSingleton r = some v ↔ r = Range.singleton v := asSingleton_eq_some_iff r v

/-- … which, over a dense order without end points, is the only canonical range whose set is `{v}` -/
theorem C15_asSingleton_set [DenselyOrdered V] [NoMinOrder V] [NoMaxOrder V] [Nonempty V]
    (r : Range V) (hr : Range.WF r) (v : V) :
    Range.asSingleton r = some v ↔ ∀ w, Range.contains r w = true ↔ w = v := by
  rw [asSingleton_eq_some_iff]
  constructor
  · rintro rfl w; exact contains_singleton v w
  · intro h
    apply ext_of_dense r _ hr (wf_singleton v)
    intro w
    rw [← contains_iff_mem, ← contains_iff_mem, h w, contains_singleton]

/-- `from_range_bounds` contains exactly the versions its std bounds contain, is canonical, and
yields the empty range for an empty interval -/
theorem C15_fromRangeBounds (s e : Bound V) :
    (∀ v, Range.contains (Range.fromRangeBounds s e) v = true ↔ Seg.Mem v (s, e)) ∧
    Range.WF (Range.fromRangeBounds s e) :=
  ⟨contains_fromRangeBounds s e, wf_fromRangeBounds s e⟩

theorem C15_fromRangeBounds_empty [DenselyOrdered V] [NoMinOrder V] [NoMaxOrder V] [Nonempty V]
    (s e : Bound V) (h : ∀ v, ¬ Seg.Mem v (s, e)) : Range.fromRangeBounds s e = Range.empty :=
  fromRangeBounds_empty_partial s e h

/-- `is_empty` is true exactly for the set with no points (dense order without end points) -/
theorem C15_isEmpty [DenselyOrdered V] [NoMinOrder V] [NoMaxOrder V] [Nonempty V]
    (r : Range V) (hr : Range.WF r) :
    Range.isEmpty r = true ↔ ∀ v, Range.contains r v = false := by
  constructor
  · intro h v
    have : r = [] := by simpa [Range.isEmpty] using h
    subst this; rfl
  · intro h
    by_contra hne
    have hne' : r ≠ [] := by
      intro h0; apply hne; subst h0; rfl
    obtain ⟨v, hv⟩ := exists_mem_of_ne_nil r hr hne'
    have := (contains_iff_mem r v).2 hv
    rw [h v] at this
    exact Bool.false_ne_true this

/-- `iter()` yields the segments, whose union is the set -/
theorem C15_iter (r : Range V) (v : V) :
    Range.contains r v = true ↔ ∃ seg ∈ r, Seg.Mem v seg := contains_iff_mem r v

/-- the Display string is the rendering of the structured text -/
theorem C15_display_is_render (showV : V → String) (r : Range V) :
    Range.display showV r = renderAtoms showV (displayAtoms r) := display_eq_render showV r

/-- read with the usual meaning of the symbols, the text denotes exactly the range's set -/
theorem C15_display_denotes (r : Range V) (x : V) :
    Denotes (displayAtoms r) x ↔ Range.contains r x = true := display_denotes r x

/-- the text determines the range (any segment lists): distinct ranges, a fortiori distinct sets, print
differently -/
theorem C15_display_injective (a b : Range V) (h : displayAtoms a = displayAtoms b) : a = b :=
  displayAtoms_injective' a b h

theorem C15_distinct_sets_print_differently (a b : Range V)
    (hne : ∃ x, Range.contains a x ≠ Range.contains b x) : displayAtoms a ≠ displayAtoms b := by
  intro h
  obtain ⟨x, hx⟩ := hne
  exact hx (by rw [displayAtoms_injective' a b h])

/-! Non-vacuity -/
example : Range.WF (Range.union (Range.between (1 : Nat) 2) (Range.singleton 5)) :=
  wf_union _ _ (wf_between 1 2 (by decide)) (wf_singleton 5)

/-! ### the Display clause at the level of the string

`CleanPrinter showV`: the version printer is injective, never empty and never produces a character of the
range syntax (`' ' , | < > = * ∅`) — true of `u32` (`C15_cleanPrinter_nat`) and of `SemanticVersion` (digits
and dots).  Then the text determines the range: distinct ranges, a fortiori distinct sets, print
differently. -/
section StringLevel
variable {T : Type} [DecidableEq T]

theorem C15_display_string_injective (showV : T → String) (hp : CleanPrinter showV) (a b : Range T)
    (h : Range.display showV a = Range.display showV b) : a = b :=
  display_injective_string showV hp a b h

theorem C15_distinct_sets_display_differently (showV : T → String) (hp : CleanPrinter showV) (a b : Range T)
    [LT T] [LE T] [DecidableLT T] [DecidableLE T]
    (hne : ∃ x, Range.contains a x ≠ Range.contains b x) :
    Range.display showV a ≠ Range.display showV b :=
  distinct_sets_display_differently showV hp a b hne

theorem C15_cleanPrinter_nat : CleanPrinter (fun n : Nat => toString n) := cleanPrinter_nat

end StringLevel

end Pubgrub.C15
