/-
Property C05 — resolve terminates with Ok or NoSolution; no panic, no internal Failure.

The model makes every `panic!` / `unwrap` / `expect` / `unreachable!` / out-of-bounds index of the
modelled Rust an explicit outcome `fault (panic site)`, both `Failure`s explicit outcomes, and the
exhaustion of the model's fuel the outcome `fault outOfFuel`.

Proved (every world, every consistent answer sequence, any strategy):
* the partial solution is well-formed in every reachable state (`C05_ps_wf`: the decided prefix, levels,
  indices — this is what the `IndexMap` prefix trick, `swap_indices`, `get_range` rely on);
* at the pop of the queue none of the following can happen: `extract_solution` panicking on
  "Derivations in the Decision part", `unwrap_positive` panicking on a negative term, the Failure
  "a package was chosen but we don't have a term." (`C05_no_fault_at_pick`);
* `Failure` is not reachable by a well-behaved provider (`C05_no_failure`); that a provider error is
  reported only when a callback failed, and `Failure(incompatible version)` after an out-of-set answer,
  is in C13.lean (`C13_error_aborts`, `C13_out_of_set`).
* none of the 15 panic sites of the satisfier search, conflict resolution, `prior_cause`, `backtrack`
  and of the derivation that follows a backjump is reachable (`C05_no_satisfier_panic`: the classical
  backjump argument — the conflicting incompatibility stays satisfied through resolution steps, the
  previous satisfier's level is below the satisfier's, the level-1 decision is always the root).
* no panic at all (`C05_no_panic*`): no reachable state of the coroutine is `fault (panic site)`, for every
  site of the model (arena and index lookups, `swap_indices`/`get_range` bounds, `merge_dependents`
  unwraps, `build_derivation_tree`'s two sites, every `debug_assert`), for every world, strategy, fuel;
  answers consistent with the world, callbacks may fail, `choose_version` may answer outside its set.
  With `debug = false` (release build) for every lawful version set; with `debug = true` under
  `UnionCanon` (a union with a non-empty set is not `empty`), which `Range` has over any linear order
  (`C05_range_unionCanon`) and which follows from canonical emptiness.  Without it the debug statement
  is false: `C05_no_panic_needs_canonical_union` is a lawful (pathological) version set and a 23-answer
  run that trips `assert_ne!(term, Term::any())` in `merge_incompatibility`.
* `Failure` is never returned to a well-behaved provider (`C05_no_failure`), and every finished run of a
  well-behaved provider ended in `Ok`, `NoSolution` or ran out of the model's fuel (`C05_outcomes*`;
  `protocolError` is the model's answer to an ill-typed answer, which a Rust provider cannot give).
* termination (`C05_resolve_terminates`, `C05_resolve_total`; `TerminationNumeral.lean` … `Termination.lean`): over a
  finite registry (`FiniteWorld`: finitely many packages, and finitely many *test versions* that tell
  apart all the sets the solver can build — constructed explicitly for `Range` from the bound values
  occurring in the registry, `FiniteRegistry.finiteWorld`) there are explicit bounds
  `N = (2·|pkgs|+12)·(B+1)^D + |pkgs| + 6` on the number of provider calls and `fuel0 = 3·(B+1)^D + 3` on
  the iterations of the internal loops (`B = Σ_p (|tests p|+2) + 1`, `D = |pkgs|+2`) such that every
  well-behaved run has returned within `N` answers, not by fuel exhaustion, hence with `Ok` or
  `NoSolution`.  Measure: per decision level the total size of the terms on the test versions, read as
  a base-(B+1) numeral; derivations, decisions and backjump+learned-derivation strictly decrease it; the
  satisfier's global index strictly decreases along resolution steps.  For `Range` over any linear order:
  `C05_range_resolve_terminates`, `C05_range_resolve_total`.  Non-vacuity: a concrete two-package
  registry over the bit set (`C05_example_terminates`).
-/
import PubgrubProofs.PSInvariant
import PubgrubProofs.SatisfierTheory
import PubgrubProofs.NoPanic
import PubgrubProofs.NoPanicCex
import PubgrubProofs.RangeAnyOrder
import PubgrubProofs.RangeAnyOrder2
import PubgrubProofs.Termination
import PubgrubProofs.RangeTermination
import PubgrubProofs.Decides
import PubgrubProofs.Typed
import PubgrubProofs.Examples
import PubgrubProofs.CounterBounds

namespace Pubgrub.C05
open Pubgrub

variable {P S V M Pr E : Type} [DecidableEq P] [VersionSet S V] [DecidableEq S] [DecidableEq V]
  [LE Pr] [DecidableLE Pr] [LawfulVersionSet S V]

theorem C05_ps_wf (W : World P S V M) (hW : W.SetsValid) (debug : Bool) (fuel : Nat)
    (root : P) (rv : V) (x : SolverState P S V M Pr × Request P S V M Pr E)
    (h : Reachable W debug fuel root rv x) (hph : x.2.isFinal = false) : x.1.st.ps.WF :=
  reachable_psWF W hW debug fuel root rv x h hph

theorem C05_no_fault_at_pick (W : World P S V M) (hW : W.SetsValid) (debug : Bool) (fuel : Nat)
    (root : P) (rv : V) (s : SolverState P S V M Pr) (q : List (P × Pr)) (o : Option P)
    (h : Reachable (E := E) W debug fuel root rv (s, .pick q)) :
    (Solver.step (E := E) s (.picked o)).2 ≠ .fault (.panic "Derivations in the Decision part") ∧
    (Solver.step (E := E) s (.picked o)).2 ≠ .fault (.panic "Negative term cannot unwrap positive set") ∧
    (Solver.step (E := E) s (.picked o)).2 ≠ .failure "a package was chosen but we don't have a term." :=
  no_fault_at_pick W hW debug fuel root rv s q o h

theorem C05_no_satisfier_panic (W : World P S V M) (hW : W.SetsValid) (debug : Bool) (fuel : Nat)
    (root : P) (rv : V) (s : SolverState P S V M Pr) (site : String)
    (h : Reachable (E := E) W debug fuel root rv (s, .fault (.panic site))) :
    site ≠ "find_satisfier: Must exist" ∧
    site ≠ "satisfier: unreachable, the last assignment should have been a decision" ∧
    site ≠ "must be a decision" ∧
    site ≠ "satisfier package not in incompat" ∧
    site ≠ "satisfier_search: max_by_key().unwrap()" ∧
    site ≠ "find_previous_satisfier: max_by_key().unwrap()" ∧
    site ≠ "satisfier_search: satisfier_cause.unwrap()" ∧
    site ≠ "find_previous_satisfier: get(satisfier_package).unwrap()" ∧
    site ≠ "find_previous_satisfier: satisfied_map.get().unwrap()" ∧
    site ≠ "find_previous_satisfier: store[cause].get().unwrap()" ∧
    site ≠ "prior_cause: split_one(package).unwrap()" ∧
    site ≠ "prior_cause: satisfier_cause_terms.get(package).unwrap()" ∧
    site ≠ "backtrack: dated_derivations.last().unwrap()" ∧
    site ≠ "add_derivation should not be called after a decision" ∧
    site ≠ "add_derivation: store[cause].get(package).unwrap()" :=
  no_satisfier_panic W hW debug fuel root rv s site h

theorem C05_no_panic_unionCanon (W : World P S V M) (hW : W.SetsValid) (debug : Bool) (fuel : Nat)
    (root : P) (rv : V) (hU : debug = true → UnionCanon S V) (s : SolverState P S V M Pr) (site : String) :
    ¬ Reachable (E := E) W debug fuel root rv (s, .fault (.panic site)) :=
  no_panic_unionCanon W hW debug fuel root rv hU s site

theorem C05_no_panic [CanonicalEmpty S V] (W : World P S V M) (hW : W.SetsValid) (debug : Bool)
    (fuel : Nat) (root : P) (rv : V) (s : SolverState P S V M Pr) (site : String) :
    ¬ Reachable (E := E) W debug fuel root rv (s, .fault (.panic site)) :=
  no_panic W hW debug fuel root rv s site

theorem C05_no_panic_release (W : World P S V M) (hW : W.SetsValid) (fuel : Nat)
    (root : P) (rv : V) (s : SolverState P S V M Pr) (site : String) :
    ¬ Reachable (E := E) W false fuel root rv (s, .fault (.panic site)) :=
  no_panic_release W hW fuel root rv s site

theorem C05_range_unionCanon {T : Type} [LinearOrder T] [LawfulVersionSet (Range T) T] :
    UnionCanon (Range T) T := unionCanon_range

theorem C05_no_panic_needs_canonical_union :
    ¬ (∀ (P S V M Pr E : Type) [DecidableEq P] [VersionSet S V] [DecidableEq S] [DecidableEq V]
      [LE Pr] [DecidableLE Pr] [LawfulVersionSet S V]
      (W : World P S V M) (hW : W.SetsValid) (debug : Bool) (fuel : Nat)
      (root : P) (rv : V) (s : SolverState P S V M Pr) (site : String),
      ¬ Reachable (E := E) W debug fuel root rv (s, .fault (.panic site))) :=
  NoPanicCex.no_panic_false_without_canonicalEmpty

theorem C05_no_failure (W : World P S V M) (hW : W.SetsValid) (debug : Bool) (fuel : Nat)
    (root : P) (rv : V) (s : SolverState P S V M Pr) (msg : String) :
    ¬ ReachableWB (E := E) W debug fuel root rv (s, .failure msg) :=
  fun h => failure_only_out_of_set W hW debug fuel root rv s msg h

theorem C05_outcomes_unionCanon (W : World P S V M) (hW : W.SetsValid) (debug : Bool) (fuel : Nat)
    (root : P) (rv : V) (hU : debug = true → UnionCanon S V)
    (s : SolverState P S V M Pr) (req : Request P S V M Pr E)
    (h : ReachableWB W debug fuel root rv (s, req)) (hfin : req.isFinal = true) :
    (∃ sel, req = .solution sel) ∨ (∃ t, req = .noSolution t) ∨ req = .fault .outOfFuel ∨
      (∃ m, req = .protocolError m) :=
  wellBehaved_outcomes_unionCanon W hW debug fuel root rv hU s req h hfin

theorem C05_outcomes_release (W : World P S V M) (hW : W.SetsValid)
    (fuel : Nat) (root : P) (rv : V) (s : SolverState P S V M Pr) (req : Request P S V M Pr E)
    (h : ReachableWB W false fuel root rv (s, req)) (hfin : req.isFinal = true) :
    (∃ sel, req = .solution sel) ∨ (∃ t, req = .noSolution t) ∨ req = .fault .outOfFuel ∨
      (∃ m, req = .protocolError m) :=
  wellBehaved_outcomes_release W hW fuel root rv s req h hfin

/-! ### `Range V` over any linear order (the discrete `u32`, `SemanticVersion` included), where `Range` is
not a `LawfulVersionSet`: pulled back along the embedding into `Range (V ×ₗ ℚ)` (RangeHom, HomSolver,
RangeAnyOrder) -/
section AnyOrder
variable {P V M Pr E : Type} [DecidableEq P] [LinearOrder V] [LE Pr] [DecidableLE Pr]

theorem C05_range_no_panic (W : World P (Range V) V M) (hW : W.RangesWF) (debug : Bool) (fuel : Nat)
    (root : P) (rv : V) (s : SolverState P (Range V) V M Pr) (site : String) :
    ¬ Reachable (E := E) W debug fuel root rv (s, .fault (.panic site)) :=
  range_no_panic W hW debug fuel root rv s site

theorem C05_range_no_failure (W : World P (Range V) V M) (hW : W.RangesWF) (debug : Bool) (fuel : Nat)
    (root : P) (rv : V) (s : SolverState P (Range V) V M Pr) (msg : String) :
    ¬ ReachableWB (E := E) W debug fuel root rv (s, .failure msg) :=
  range_no_failure W hW debug fuel root rv s msg

theorem C05_range_outcomes (W : World P (Range V) V M) (hW : W.RangesWF) (debug : Bool) (fuel : Nat)
    (root : P) (rv : V) (s : SolverState P (Range V) V M Pr) (req : Request P (Range V) V M Pr E)
    (h : ReachableWB W debug fuel root rv (s, req)) (hfin : req.isFinal = true) :
    (∃ sel, req = .solution sel) ∨ (∃ t, req = .noSolution t) ∨ req = .fault .outOfFuel ∨
      (∃ m, req = .protocolError m) :=
  range_outcomes W hW debug fuel root rv s req h hfin

end AnyOrder

/-! ### `Range V` over any linear order (RangeAnyOrder2) -/
section AnyOrder2
variable {P V M Pr E : Type} [DecidableEq P] [LinearOrder V] [LE Pr] [DecidableLE Pr]

theorem C05_range_ps_wf (W : World P (Range V) V M) (hW : W.RangesWF) (debug : Bool) (fuel : Nat)
    (root : P) (rv : V) (x : SolverState P (Range V) V M Pr × Request P (Range V) V M Pr E)
    (h : Reachable W debug fuel root rv x) (hph : x.2.isFinal = false) : x.1.st.ps.WF :=
  by apply range_C05_ps_wf (P := P) (V := V) (M := M) (Pr := Pr) (E := E) <;> assumption

end AnyOrder2

section Termination
variable [CanonicalEmpty S V]

theorem C05_resolve_terminates (W : World P S V M) (hW : W.SetsValid) (root : P) (rv : V)
    (fw : FiniteWorld W root rv) (debug : Bool) :
    ∃ N fuel0 : Nat, ∀ fuel, fuel0 ≤ fuel → ∀ as : List (Answer P S V M Pr E), N ≤ as.length →
      WellBehavedRun W debug fuel root rv as →
      (Solver.after (Solver.start debug fuel root rv) as).2.isFinal = true ∧
      (Solver.after (Solver.start debug fuel root rv) as).2 ≠ .fault .outOfFuel :=
  resolve_terminates W hW root rv fw debug

/-- "does not overflow", as far as it can be had: along every well-behaved run over a finite registry, while
`resolve` has not returned, the decision level is at most the number of packages of the registry (the Rust
`DecisionLevel(u32)` cannot wrap for a registry with fewer than 2^32 packages) and the next global index is at
most `Cmax fw` -/
theorem C05_counters_bounded (W : World P S V M) (hW : W.SetsValid) (root : P) (rv : V)
    (fw : FiniteWorld W root rv) (debug : Bool) :
    ∃ fuel0 : Nat, ∀ fuel, fuel0 ≤ fuel → ∀ as : List (Answer P S V M Pr E),
      WellBehavedRun W debug fuel root rv as →
      (Solver.after (Solver.start debug fuel root rv) as).1.phase ≠ .finished →
      (Solver.after (Solver.start debug fuel root rv) as).1.st.ps.currentDecisionLevel ≤ fw.pkgs.length ∧
      (Solver.after (Solver.start debug fuel root rv) as).1.st.ps.nextGlobalIndex ≤ Cmax fw :=
  counters_bounded W hW root rv fw debug

/-- the sharp form: the first final request comes within `N` answers and is `Ok(sel)` with `sel` a
solution, or `NoSolution` with no solution existing (or the model's `protocolError` for an ill-typed
answer).  `C05_resolve_terminates` / `C05_resolve_total` below speak about the state after all the
answers of a long run, where a run that returned earlier shows `protocolError "already finished"`; this
theorem is the one that carries "returns Ok or NoSolution, not by fuel exhaustion". -/
theorem C05_resolve_returns (W : World P S V M) (hW : W.SetsValid) (root : P) (rv : V)
    (fw : FiniteWorld W root rv) (debug : Bool) :
    ∃ N fuel0 : Nat, ∀ fuel, fuel0 ≤ fuel → ∀ as : List (Answer P S V M Pr E), N ≤ as.length →
      WellBehavedRun W debug fuel root rv as →
      ∃ k, k ≤ N ∧
        (Solver.after (Solver.start debug fuel root rv) (as.take k)).2.isFinal = true ∧
        (∀ j, j < k → (Solver.after (Solver.start debug fuel root rv) (as.take j)).2.isFinal = false) ∧
        DecidedBy W root rv (Solver.after (Solver.start debug fuel root rv) (as.take k)).2 :=
  resolve_returns W hW root rv fw debug

theorem C05_resolve_total (W : World P S V M) (hW : W.SetsValid) (root : P) (rv : V)
    (fw : FiniteWorld W root rv) (debug : Bool) :
    ∃ N fuel0 : Nat, ∀ fuel, fuel0 ≤ fuel → ∀ as : List (Answer P S V M Pr E), N ≤ as.length →
      WellBehavedRun W debug fuel root rv as →
      (∃ sel, (Solver.after (Solver.start debug fuel root rv) as).2 = .solution sel) ∨
      (∃ t, (Solver.after (Solver.start debug fuel root rv) as).2 = .noSolution t) ∨
      (∃ m, (Solver.after (Solver.start debug fuel root rv) as).2 = .protocolError m) :=
  resolve_total W hW root rv fw debug

end Termination

section TerminationAnyOrder
variable {P V M Pr E : Type} [DecidableEq P] [LinearOrder V] [LE Pr] [DecidableLE Pr]

theorem C05_range_resolve_terminates (W : World P (Range V) V M) (hW : W.RangesWF) (root : P) (rv : V)
    (fr : FiniteRegistry W root) (debug : Bool) :
    ∃ N fuel0 : Nat, ∀ fuel, fuel0 ≤ fuel → ∀ as : List (Answer P (Range V) V M Pr E), N ≤ as.length →
      WellBehavedRun W debug fuel root rv as →
      (Solver.after (Solver.start debug fuel root rv) as).2.isFinal = true ∧
      (Solver.after (Solver.start debug fuel root rv) as).2 ≠ .fault .outOfFuel :=
  range_resolve_terminates W hW root rv fr debug

theorem C05_range_resolve_total (W : World P (Range V) V M) (hW : W.RangesWF) (root : P) (rv : V)
    (fr : FiniteRegistry W root) (debug : Bool) :
    ∃ N fuel0 : Nat, ∀ fuel, fuel0 ≤ fuel → ∀ as : List (Answer P (Range V) V M Pr E), N ≤ as.length →
      WellBehavedRun W debug fuel root rv as →
      (∃ sel, (Solver.after (Solver.start debug fuel root rv) as).2 = .solution sel) ∨
      (∃ t, (Solver.after (Solver.start debug fuel root rv) as).2 = .noSolution t) ∨
      (∃ m, (Solver.after (Solver.start debug fuel root rv) as).2 = .protocolError m) :=
  range_resolve_total W hW root rv fr debug

end TerminationAnyOrder

/-! ### `protocolError` is an artefact of the model: typed answers never produce it

`AnswerTyped`: the answer is of the callback's return type, and the `pick` pseudo-answer names a maximal
queued package (`none` exactly for an empty queue) — what Rust's type system and the priority queue
guarantee.  For typed, well-behaved runs over a finite registry `resolve` returns, within `N` calls,
`Ok(sel)` with `sel` a solution or `NoSolution` with no solution existing: nothing else. -/
section Typed

theorem C05_typed_no_protocolError (W : World P S V M) (debug : Bool) (fuel : Nat) (root : P) (rv : V)
    (s : SolverState P S V M Pr) (req : Request P S V M Pr E) (a : Answer P S V M Pr E)
    (h : Reachable W debug fuel root rv (s, req)) (hfin : req.isFinal = false)
    (ht : AnswerTyped req a) (m : String) : (Solver.step s a).2 ≠ .protocolError m :=
  step_typed_no_protocolError W debug fuel root rv s req a h hfin ht m

theorem C05_resolve_returns_typed [CanonicalEmpty S V] (W : World P S V M) (hW : W.SetsValid) (root : P) (rv : V)
    (fw : FiniteWorld W root rv) (debug : Bool) :
    ∃ N fuel0 : Nat, ∀ fuel, fuel0 ≤ fuel → ∀ as : List (Answer P S V M Pr E), N ≤ as.length →
      WellBehavedRun W debug fuel root rv as → TypedRun debug fuel root rv as →
      ∃ k, k ≤ N ∧
        (Solver.after (Solver.start debug fuel root rv) (as.take k)).2.isFinal = true ∧
        (∀ j, j < k → (Solver.after (Solver.start debug fuel root rv) (as.take j)).2.isFinal = false) ∧
        Decided W root rv (Solver.after (Solver.start debug fuel root rv) (as.take k)).2 :=
  resolve_returns_typed W hW root rv fw debug

end Typed

section TypedAnyOrder
variable {P V M Pr E : Type} [DecidableEq P] [LinearOrder V] [LE Pr] [DecidableLE Pr]

theorem C05_range_resolve_returns_typed (W : World P (Range V) V M) (hW : W.RangesWF) (root : P) (rv : V)
    (fr : FiniteRegistry W root) (debug : Bool) :
    ∃ N fuel0 : Nat, ∀ fuel, fuel0 ≤ fuel → ∀ as : List (Answer P (Range V) V M Pr E), N ≤ as.length →
      WellBehavedRun W debug fuel root rv as → TypedRun debug fuel root rv as →
      ∃ k, k ≤ N ∧
        (Solver.after (Solver.start debug fuel root rv) (as.take k)).2.isFinal = true ∧
        (∀ j, j < k → (Solver.after (Solver.start debug fuel root rv) (as.take j)).2.isFinal = false) ∧
        ((∃ sel, (Solver.after (Solver.start debug fuel root rv) (as.take k)).2 = .solution sel ∧
            IsSolution W root rv (fun p => SmallMap.get sel p)) ∨
         ((∃ t, (Solver.after (Solver.start debug fuel root rv) (as.take k)).2 = .noSolution t) ∧
            ¬ ∃ σ : P → Option V, IsSolution W root rv σ)) :=
  range_resolve_returns_typed W hW root rv fr debug

end TypedAnyOrder

attribute [local instance] BitSet.instVersionSetBitSetFin BitSet.lawful in
/-- non-vacuity: the termination theorem applied to a concrete two-package registry over the bit set -/
theorem C05_example_terminates (debug : Bool) :
    ∃ N fuel0 : Nat, ∀ fuel, fuel0 ≤ fuel →
      ∀ as : List (Answer (Fin 2) (BitSet 3) (Fin 3) Unit Nat Unit),
      N ≤ as.length → WellBehavedRun BitSet.exampleWorld debug fuel (0 : Fin 2) (0 : Fin 3) as →
      (Solver.after (Solver.start debug fuel (0 : Fin 2) (0 : Fin 3)) as).2.isFinal = true ∧
      (Solver.after (Solver.start debug fuel (0 : Fin 2) (0 : Fin 3)) as).2 ≠ .fault .outOfFuel :=
  BitSet.example_terminates debug

/-! Non-vacuity on concrete runs (PubgrubProofs/Examples.lean, evaluated by `decide +kernel`; registered in
obligations.json so that their axioms are audited too): `Examples.example_C_psWF`, `Examples.example_D_resolve_returns_typed`. -/

end Pubgrub.C05
