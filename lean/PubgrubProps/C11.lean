/-
Property C11 — Term reasoning matches the meaning of positive and negative terms.

"A positive term 'p in S' is true when a version in S is selected; a negative term 'not p in S' is
true when no version is selected or the selected one is outside S.  For all pairs of terms, the
library's negation, intersection, union, subset test, disjointness test and satisfied / contradicted
/ inconclusive relation coincide with evaluating the terms on every concrete choice."

Theorems are about the model `PubgrubModel/Term.lean` over *any* lawful version set (`Range` over a
dense linear order without end points and the bit set are such, see `C10`/`C17`; over a discrete order
"every concrete choice" has to range over the points of the dense completion, as in C10: the harness
evaluates on the doubled grid), for all terms whose sets are valid (canonical), for every
choice `c : Option V` (`none` = not selected).  `Term.eval` (in `PubgrubProofs/Defs.lean`) is the
meaning quoted above.
-/
import PubgrubProofs.TermLaws
import PubgrubProofs.TermAnyOrder

set_option linter.unusedSectionVars false
namespace Pubgrub.C11
open Pubgrub

variable {S V : Type} [VersionSet S V] [DecidableEq S] [LawfulVersionSet S V]

/-- the meaning of terms, as stated by the property -/
theorem C11_meaning (s : S) (v : V) :
    (Term.pos s).eval (some v) = VersionSet.contains s v ∧ (Term.pos s).eval (none : Option V) = false ∧
    (Term.neg s).eval (some v) = !VersionSet.contains s v ∧ (Term.neg s).eval (none : Option V) = true :=
  ⟨rfl, rfl, rfl, rfl⟩

/-- negation, intersection, union and `contains` coincide with evaluation on every choice -/
theorem C11_operations (t1 t2 : Term S) (h1 : t1.Valid) (h2 : t2.Valid) (c : Option V) (v : V) :
    (Term.negate t1).eval c = !t1.eval c ∧
    (Term.intersection t1 t2).eval c = (t1.eval c && t2.eval c) ∧
    (Term.union t1 t2).eval c = (t1.eval c || t2.eval c) ∧
    t1.contains v = t1.eval (some v) :=
  ⟨Term.eval_negate t1 c, Term.eval_intersection t1 t2 h1 h2 c, Term.eval_union t1 t2 h1 h2 c,
   Term.contains_eq_eval t1 v⟩

/-- the operations stay inside the valid (canonical) sets -/
theorem C11_closed (t1 t2 : Term S) (h1 : t1.Valid) (h2 : t2.Valid) :
    (Term.negate t1).Valid ∧ (Term.intersection t1 t2).Valid ∧ (Term.union t1 t2).Valid :=
  ⟨Term.valid_negate t1 h1, Term.valid_intersection t1 t2 h1 h2, Term.valid_union t1 t2 h1 h2⟩

/-- the subset and disjointness tests coincide with evaluation on every choice -/
theorem C11_tests (t1 t2 : Term S) (h1 : t1.Valid) (h2 : t2.Valid) :
    (Term.subsetOf t1 t2 = true ↔ ∀ c : Option V, t1.eval c = true → t2.eval c = true) ∧
    (Term.isDisjoint t1 t2 = true ↔ ∀ c : Option V, ¬ (t1.eval c = true ∧ t2.eval c = true)) :=
  ⟨Term.subsetOf_iff t1 t2 h1 h2, Term.isDisjoint_iff t1 t2 h1 h2⟩

/-- the relation is `Satisfied` iff the other term implies this one, else `Contradicted` iff they
exclude each other, else `Inconclusive` -/
theorem C11_relation (t o : Term S) (h1 : t.Valid) (h2 : o.Valid) :
    (Term.relationWith t o = .satisfied ↔ ∀ c : Option V, o.eval c = true → t.eval c = true) ∧
    (Term.relationWith t o = .contradicted ↔
      (¬ ∀ c : Option V, o.eval c = true → t.eval c = true) ∧
      ∀ c : Option V, ¬ (t.eval c = true ∧ o.eval c = true)) ∧
    (Term.relationWith t o = .inconclusive ↔
      (¬ ∀ c : Option V, o.eval c = true → t.eval c = true) ∧
      ¬ ∀ c : Option V, ¬ (t.eval c = true ∧ o.eval c = true)) :=
  ⟨Term.relationWith_satisfied_iff t o h1 h2, Term.relationWith_contradicted_iff t o h1 h2,
   Term.relationWith_inconclusive_iff t o h1 h2⟩

/-- Finding F2 (fixed by a `fix:` commit in /repo): with the `Negative/Negative` row of the pinned
tree the two always-true terms were reported disjoint.  The model of the old row is kept as
`Term.Legacy.isDisjoint`; the statement `C11_tests` is false for it. -/
theorem C11_F2_witness :
    Term.Legacy.isDisjoint (Term.any : Term S) (Term.any : Term S) = true ∧
      (Term.any : Term S).eval (none : Option V) = true :=
  Term.legacy_isDisjoint_any_any_wrong

/-! Non-vacuity: the extremes are valid terms. -/
example : (Term.any : Term S).Valid ∧ (Term.empty : Term S).Valid := ⟨Term.valid_any, Term.valid_empty⟩

/-! ### `Range V` over any linear order: evaluation over the points of the dense completion

`Term.evalD t c` evaluates a term over `Range V` on a choice `c : Option (Dense V)` (`Dense V = V ×ₗ ℚ`; on
the versions of `V` themselves it is the plain evaluation, `C11_range_evalD_some`).  Over a discrete order
this is the right notion of "every concrete choice" — `1 < v < 2` has no member in `ℕ` but is not the
empty set for `subset_of` / `is_disjoint`. -/
section AnyOrder
variable {V : Type} [LinearOrder V] [Nonempty V]

theorem C11_range_evalD_some (t : Term (Range V)) (v : V) :
    t.evalD (some (Dense.ι v)) = t.eval (some v) ∧ t.evalD none = t.eval none :=
  Term.evalD_some t v

theorem C11_range_operations (t1 t2 : Term (Range V)) (h1 : t1.WFR) (h2 : t2.WFR)
    (c : Option (Dense V)) :
    (Term.negate t1).evalD c = !t1.evalD c ∧
    (Term.intersection t1 t2).evalD c = (t1.evalD c && t2.evalD c) ∧
    (Term.union t1 t2).evalD c = (t1.evalD c || t2.evalD c) :=
  term_operations_any_order t1 t2 h1 h2 c

theorem C11_range_closed (t1 t2 : Term (Range V)) (h1 : t1.WFR) (h2 : t2.WFR) :
    (Term.negate t1).WFR ∧ (Term.intersection t1 t2).WFR ∧ (Term.union t1 t2).WFR :=
  term_closed_any_order t1 t2 h1 h2

theorem C11_range_tests (t1 t2 : Term (Range V)) (h1 : t1.WFR) (h2 : t2.WFR) :
    (Term.subsetOf t1 t2 = true ↔ ∀ c : Option (Dense V), t1.evalD c = true → t2.evalD c = true) ∧
    (Term.isDisjoint t1 t2 = true ↔ ∀ c : Option (Dense V), ¬ (t1.evalD c = true ∧ t2.evalD c = true)) :=
  term_tests_any_order t1 t2 h1 h2

theorem C11_range_relation (t o : Term (Range V)) (h1 : t.WFR) (h2 : o.WFR) :
    (Term.relationWith t o = .satisfied ↔ ∀ c : Option (Dense V), o.evalD c = true → t.evalD c = true) ∧
    (Term.relationWith t o = .contradicted ↔
      (¬ ∀ c : Option (Dense V), o.evalD c = true → t.evalD c = true) ∧
      ∀ c : Option (Dense V), ¬ (t.evalD c = true ∧ o.evalD c = true)) ∧
    (Term.relationWith t o = .inconclusive ↔
      (¬ ∀ c : Option (Dense V), o.evalD c = true → t.evalD c = true) ∧
      ¬ ∀ c : Option (Dense V), ¬ (t.evalD c = true ∧ o.evalD c = true)) :=
  term_relation_any_order t o h1 h2

end AnyOrder

end Pubgrub.C11
