/-
Property C06 — Every constraint the solver records is true of all solutions.

"Every incompatibility the solver records while solving - taken from the provider or learned during
conflict resolution, whether or not it later appears in an error report, and also in runs that end in
Ok - is valid: no set of package versions that contains the root and satisfies all dependencies makes
all of its terms true at once."

The theorem is about the coroutine model of `resolve` (`PubgrubModel/Solver.lean`), generic over the
package type, the version-set implementation (any `LawfulVersionSet`), the priority type; for every
world `W` (finite or not), every sequence of provider answers consistent with `W` (any `prioritize`,
any tie-breaking of the queue, callbacks may fail, `choose_version` may even answer outside its set),
every fuel, every prefix of the run whatever its end.
-/
import PubgrubProofs.StoreInvariant
import PubgrubProofs.RangeAnyOrder
import PubgrubProofs.ContainersLaws

namespace Pubgrub.C06
open Pubgrub

variable {P S V M Pr E : Type} [DecidableEq P] [VersionSet S V] [DecidableEq S] [DecidableEq V]
  [LE Pr] [DecidableLE Pr] [LawfulVersionSet S V]

theorem C06_store_valid (W : World P S V M) (hW : W.SetsValid) (debug : Bool) (fuel : Nat)
    (root : P) (rv : V) (s : SolverState P S V M Pr) (req : Request P S V M Pr E)
    (h : Reachable W debug fuel root rv (s, req)) (id : Nat) (i : Incompat P S V M)
    (hi : s.st.store[id]? = some i) :
    ∀ σ : P → Option V, IsSolution W root rv σ → ¬ (∀ p t, (p, t) ∈ i.terms → t.eval (σ p) = true) :=
  (reachable_storeInv W hW debug fuel root rv (s, req) h id i hi).valid

/-- the full store invariant (distinct keys, valid sets, true provenance) that C02 and C03 build on -/
theorem C06_store_invariant (W : World P S V M) (hW : W.SetsValid) (debug : Bool) (fuel : Nat)
    (root : P) (rv : V) (s : SolverState P S V M Pr) (req : Request P S V M Pr E)
    (h : Reachable W debug fuel root rv (s, req)) : StoreInv W root rv s.st.store :=
  reachable_storeInv W hW debug fuel root rv (s, req) h

/-! Non-vacuity: the initial state is reachable and its store holds the `not root` clause. -/
example (W : World P S V M) (debug : Bool) (fuel : Nat) (root : P) (rv : V) :
    Reachable (Pr := Pr) (E := E) W debug fuel root rv (Solver.start debug fuel root rv) := .start
example (debug : Bool) (fuel : Nat) (root : P) (rv : V) :
    (Solver.start (S := S) (M := M) (Pr := Pr) (E := E) debug fuel root rv).1.st.store[0]? =
      some (Incompat.notRoot root rv) := rfl

/-! ### `Range V` over any linear order (the discrete `u32`, `SemanticVersion` included), where `Range` is
not a `LawfulVersionSet`: pulled back along the embedding into `Range (V ×ₗ ℚ)` (RangeHom, HomSolver,
RangeAnyOrder) -/
section AnyOrder
variable {P V M Pr E : Type} [DecidableEq P] [LinearOrder V] [LE Pr] [DecidableLE Pr]

theorem C06_range_store_valid (W : World P (Range V) V M) (hW : W.RangesWF) (debug : Bool) (fuel : Nat)
    (root : P) (rv : V) (s : SolverState P (Range V) V M Pr) (req : Request P (Range V) V M Pr E)
    (h : Reachable W debug fuel root rv (s, req)) (id : Nat) (i : Incompat P (Range V) V M)
    (hi : s.st.store[id]? = some i) :
    ∀ σ : P → Option V, IsSolution W root rv σ → ¬ (∀ p t, (p, t) ∈ i.terms → t.eval (σ p) = true) :=
  range_store_valid W hW debug fuel root rv s req h id i hi

end AnyOrder

/-! ### the storage of an incompatibility's terms: `SmallMap` (exact model, PubgrubModel/Containers.lean)

The solver model keeps the terms of an incompatibility in an association list (`SmallMap`); the crate
keeps them in `SmallMap<P, Term>` with variants `Empty | One | Two | Flexible(FxHashMap)`.  Every operation
of the exact model commutes with the abstraction `toAssoc`, keeps the keys distinct, has the map
semantics, and `merge` (used by `prior_cause`) does not depend on the order in which the hash map is
enumerated. -/
section Storage
variable {K V : Type} [DecidableEq K]

theorem C06_smallmap_refines (m : SmallMapX K V) (key : K) (value : V) (m2 : List (K × V))
    (f : V → V → Option V) :
    m.get key = SmallMap.get m.toAssoc key ∧
    (m.insert key value).toAssoc = SmallMap.insert m.toAssoc key value ∧
    ((m.remove key).1 = SmallMap.get m.toAssoc key ∧
      (m.remove key).2.toAssoc = SmallMap.remove m.toAssoc key) ∧
    (m.splitOne key).map (fun x => (x.1, x.2.toAssoc)) = SmallMap.splitOne m.toAssoc key ∧
    (m.merge m2 f).toAssoc = SmallMap.merge m.toAssoc m2 f ∧
    m.len = m.toAssoc.length :=
  ⟨SmallMapX.get_eq m key, SmallMapX.toAssoc_insert m key value, SmallMapX.remove_spec m key,
   SmallMapX.splitOne_spec m key, SmallMapX.toAssoc_merge m m2 f, SmallMapX.len_eq m⟩

theorem C06_smallmap_keys_distinct (m : SmallMapX K V) (h : m.WF) (key : K) (value : V)
    (m2 : List (K × V)) (f : V → V → Option V) :
    (m.insert key value).WF ∧ (m.remove key).2.WF ∧ (m.merge m2 f).WF :=
  ⟨SmallMapX.wf_insert m h key value, SmallMapX.wf_remove m h key, SmallMapX.wf_merge m h m2 f⟩

theorem C06_smallmap_merge_is_pointwise (m : SmallMapX K V) (h : m.WF) (m2 : List (K × V))
    (h2 : (m2.map Prod.fst).Nodup) (f : V → V → Option V) (k : K) :
    (m.merge m2 f).get k =
      match m.get k, SmallMap.get m2 k with
      | some a, some b => f a b
      | some a, none => some a
      | none, some b => some b
      | none, none => none :=
  SmallMapX.get_merge m h m2 h2 f k

theorem C06_smallmap_merge_order_independent (m : SmallMapX K V) (h : m.WF) (m2 m2' : List (K × V))
    (hp : m2.Perm m2') (h2 : (m2.map Prod.fst).Nodup) (f : V → V → Option V) (k : K) :
    (m.merge m2 f).get k = (m.merge m2' f).get k :=
  SmallMapX.get_merge_perm m h m2 m2' hp h2 f k

end Storage

end Pubgrub.C06
