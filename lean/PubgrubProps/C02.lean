/-
Property C02 — NoSolution is reported only when no solution exists.

"Whenever resolve returns Err(NoSolution), there is no set of package versions - drawn from the
versions the provider can offer and whose dependencies are available - that contains the root at the
requested version and satisfies all dependencies of its members."

Theorem about the coroutine model of `resolve`, for every world, every answer sequence consistent
with it (any strategy, any tie-breaking, any fuel), every lawful version set.

The "equivalently" clause (whether a solution is found never depends on the strategy) needs, besides
`C02_noSolution_sound`, C01's soundness of `Ok` and termination (C05); the three are combined
in `C02_resolve_returns` (over a finite registry `resolve` returns within `N` provider calls, and what
it returns is decided by the registry: `Ok(sel)` with `sel` a solution, or `NoSolution` and no solution
exists) and `C02_strategy_independent` (two well-behaved runs over one registry never return one `Ok`
and the other `NoSolution`); both also for `Range` over any linear order.
-/
import PubgrubProofs.StoreInvariant
import PubgrubProofs.RangeAnyOrder
import PubgrubProofs.Decides
import PubgrubProofs.Examples

namespace Pubgrub.C02
open Pubgrub

variable {P S V M Pr E : Type} [DecidableEq P] [VersionSet S V] [DecidableEq S] [DecidableEq V]
  [LE Pr] [DecidableLE Pr] [LawfulVersionSet S V]

theorem C02_noSolution_sound (W : World P S V M) (hW : W.SetsValid) (debug : Bool) (fuel : Nat)
    (root : P) (rv : V) (s : SolverState P S V M Pr) (tree : DerivationTree P S V M)
    (h : Reachable (E := E) W debug fuel root rv (s, .noSolution tree)) :
    ¬ ∃ σ : P → Option V, IsSolution W root rv σ :=
  noSolution_sound W hW debug fuel root rv s tree h

/-- strategy independence, the part that does not need termination: whatever the strategies, fuels and
tie-breakings of two runs over the same world, if one reports `NoSolution` the other cannot return a
selection that is a solution -/
theorem C02_not_both (W : World P S V M) (hW : W.SetsValid) (debug debug' : Bool) (fuel fuel' : Nat)
    (root : P) (rv : V) (s s' : SolverState P S V M Pr) (tree : DerivationTree P S V M)
    (sel : List (P × V))
    (h : Reachable (E := E) W debug fuel root rv (s, .noSolution tree))
    (_h' : Reachable (E := E) W debug' fuel' root rv (s', .solution sel)) :
    ¬ IsSolution W root rv (fun p => SmallMap.get sel p) := by
  intro hsol
  exact noSolution_sound W hW debug fuel root rv s tree h ⟨_, hsol⟩

/-! ### `Range V` over any linear order (the discrete `u32`, `SemanticVersion` included), where `Range` is
not a `LawfulVersionSet`: pulled back along the embedding into `Range (V ×ₗ ℚ)` (RangeHom, HomSolver,
RangeAnyOrder) -/
section AnyOrder
variable {P V M Pr E : Type} [DecidableEq P] [LinearOrder V] [LE Pr] [DecidableLE Pr]

theorem C02_range_noSolution_sound (W : World P (Range V) V M) (hW : W.RangesWF) (debug : Bool) (fuel : Nat)
    (root : P) (rv : V) (s : SolverState P (Range V) V M Pr) (tree : DerivationTree P (Range V) V M)
    (h : Reachable (E := E) W debug fuel root rv (s, .noSolution tree)) :
    ¬ ∃ σ : P → Option V, IsSolution W root rv σ :=
  range_noSolution_sound W hW debug fuel root rv s tree h

end AnyOrder

/-! ### the "equivalently" clause in full: the result is decided by the registry alone

`C02_resolve_returns`: over a finite registry, within `N` provider calls `resolve` returns (first final
request of the trace) and what it returns is `Ok(sel)` with `sel` a solution, or `NoSolution` and no
solution exists (`DecidedBy`; the third alternative is the model's `protocolError` for an ill-typed
answer).  Hence a solution is found iff one exists, whatever the strategy.  `C02_strategy_independent`:
two well-behaved runs over one registry never return one `Ok` and the other `NoSolution`. -/
section Decides
variable [CanonicalEmpty S V]

theorem C02_resolve_returns (W : World P S V M) (hW : W.SetsValid) (root : P) (rv : V)
    (fw : FiniteWorld W root rv) (debug : Bool) :
    ∃ N fuel0 : Nat, ∀ fuel, fuel0 ≤ fuel → ∀ as : List (Answer P S V M Pr E), N ≤ as.length →
      WellBehavedRun W debug fuel root rv as →
      ∃ k, k ≤ N ∧
        (Solver.after (Solver.start debug fuel root rv) (as.take k)).2.isFinal = true ∧
        (∀ j, j < k → (Solver.after (Solver.start debug fuel root rv) (as.take j)).2.isFinal = false) ∧
        DecidedBy W root rv (Solver.after (Solver.start debug fuel root rv) (as.take k)).2 :=
  by apply resolve_returns (Pr := Pr) (E := E) <;> assumption

end Decides

theorem C02_strategy_independent (W : World P S V M) (hW : W.SetsValid) (root : P) (rv : V)
    (debug debug' : Bool) (fuel fuel' : Nat) (s s' : SolverState P S V M Pr) (sel : List (P × V))
    (t : DerivationTree P S V M)
    (h : ReachableWB (E := E) W debug fuel root rv (s, .solution sel))
    (h' : ReachableWB (E := E) W debug' fuel' root rv (s', .noSolution t)) : False :=
  noSolution_sound W hW debug' fuel' root rv s' t (c04_reachable_of_wb W debug' fuel' root rv _ h')
    ⟨_, (solution_valid W hW debug fuel root rv s sel h).1⟩

section AnyOrderDecides
variable {P V M Pr E : Type} [DecidableEq P] [LinearOrder V] [LE Pr] [DecidableLE Pr]

theorem C02_range_resolve_returns (W : World P (Range V) V M) (hW : W.RangesWF) (root : P) (rv : V)
    (fr : FiniteRegistry W root) (debug : Bool) :
    ∃ N fuel0 : Nat, ∀ fuel, fuel0 ≤ fuel → ∀ as : List (Answer P (Range V) V M Pr E), N ≤ as.length →
      WellBehavedRun W debug fuel root rv as →
      ∃ k, k ≤ N ∧
        (Solver.after (Solver.start debug fuel root rv) (as.take k)).2.isFinal = true ∧
        (∀ j, j < k → (Solver.after (Solver.start debug fuel root rv) (as.take j)).2.isFinal = false) ∧
        ((∃ sel, (Solver.after (Solver.start debug fuel root rv) (as.take k)).2 = .solution sel ∧
            IsSolution W root rv (fun p => SmallMap.get sel p)) ∨
         ((∃ t, (Solver.after (Solver.start debug fuel root rv) (as.take k)).2 = .noSolution t) ∧
            ¬ ∃ σ : P → Option V, IsSolution W root rv σ) ∨
         (∃ m, (Solver.after (Solver.start debug fuel root rv) (as.take k)).2 = .protocolError m)) :=
  by apply range_resolve_returns (Pr := Pr) (E := E) <;> assumption

theorem C02_range_strategy_independent (W : World P (Range V) V M) (hW : W.RangesWF) (root : P) (rv : V)
    (debug debug' : Bool) (fuel fuel' : Nat) (s s' : SolverState P (Range V) V M Pr) (sel : List (P × V))
    (t : DerivationTree P (Range V) V M)
    (h : ReachableWB (E := E) W debug fuel root rv (s, .solution sel))
    (h' : ReachableWB (E := E) W debug' fuel' root rv (s', .noSolution t)) : False :=
  range_strategy_independent W hW root rv debug debug' fuel fuel' s s' sel t h h'

end AnyOrderDecides

/-! ### Non-vacuity over a discrete order: a concrete registry over `Range Nat` (the stand-in for `u32`) -/
section ExampleNat

/-- root 1 needs `a` in `[1, 3)`; `a` has versions 1 and 2 without dependencies -/
def exampleWorldNat : World String (Range Nat) Nat Unit where
  versions := fun p => if p = "root" then [1] else if p = "a" then [1, 2] else []
  deps := fun p _ => if p = "root" then .available [("a", [(Bound.incl 1, Bound.excl 3)])] else .available []

theorem exampleWorldNat_wf : exampleWorldNat.RangesWF := by
  intro p v ds h d hd
  unfold exampleWorldNat at h
  simp only at h
  split at h
  · cases h
    simp only [List.mem_singleton] at hd
    subst hd
    show Range.checkInvariants _ = true
    decide
  · cases h
    cases hd

def exampleRegistryNat : FiniteRegistry exampleWorldNat "root" where
  pkgs := ["root", "a"]
  root_mem := by simp
  deps_mem := by
    intro p v ds _ h d hd
    unfold exampleWorldNat at h
    simp only at h
    split at h
    · cases h
      simp only [List.mem_singleton] at hd
      subst hd
      simp
    · cases h
      cases hd

/-- `C02_range_resolve_returns` applies to it -/
example (debug : Bool) :=
  C02_range_resolve_returns (Pr := Nat) (E := Unit) exampleWorldNat exampleWorldNat_wf "root" 1
    exampleRegistryNat debug

end ExampleNat

/-! Non-vacuity on concrete runs (PubgrubProofs/Examples.lean, evaluated by `decide +kernel`; registered in
obligations.json so that their axioms are audited too): `Examples.example_B_noSolution_sound`, `Examples.example_D_regA_returns_solution`, `Examples.example_D_regB_returns_noSolution`. -/

end Pubgrub.C02
