/-
Property C04 — Solutions contain only packages needed by the root.

`C04_solution_reachable`: for every world, every well-behaved provider run ending in `Ok(sel)`, every
selected package is the root or reachable from the root by following dependencies of the selected
versions (`ReachableFrom`).  Proof: minimal-counterexample argument on the global index of a package's
first positive derivation, using C01 (the selection is a solution), C06 (every stored incompatibility
is valid of all solutions, in particular of the selection pruned to the reachable packages) and
`CauseInv` (the cause of every derivation was almost satisfied by the earlier assignments, which for
the derivation that follows a backjump is the correctness of the satisfier search).
-/
import PubgrubProofs.ReachabilityC04
import PubgrubProofs.RangeAnyOrder
import PubgrubProofs.Examples

namespace Pubgrub.C04
open Pubgrub

variable {P S V M Pr E : Type} [DecidableEq P] [VersionSet S V] [DecidableEq S] [DecidableEq V]
  [LE Pr] [DecidableLE Pr] [LawfulVersionSet S V]

theorem C04_solution_reachable (W : World P S V M) (hW : W.SetsValid) (debug : Bool) (fuel : Nat)
    (root : P) (rv : V) (s : SolverState P S V M Pr) (sel : List (P × V))
    (h : ReachableWB (E := E) W debug fuel root rv (s, .solution sel))
    (p : P) (v : V) (hp : SmallMap.get sel p = some v) :
    ReachableFrom W root (fun q => SmallMap.get sel q) p :=
  solution_reachable W hW debug fuel root rv s sel h p v hp

/-! ### `Range V` over any linear order (the discrete `u32`, `SemanticVersion` included), where `Range` is
not a `LawfulVersionSet`: pulled back along the embedding into `Range (V ×ₗ ℚ)` (RangeHom, HomSolver,
RangeAnyOrder) -/
section AnyOrder
variable {P V M Pr E : Type} [DecidableEq P] [LinearOrder V] [LE Pr] [DecidableLE Pr]

theorem C04_range_solution_reachable (W : World P (Range V) V M) (hW : W.RangesWF) (debug : Bool) (fuel : Nat)
    (root : P) (rv : V) (s : SolverState P (Range V) V M Pr) (sel : List (P × V))
    (h : ReachableWB (E := E) W debug fuel root rv (s, .solution sel))
    (p : P) (v : V) (hp : SmallMap.get sel p = some v) :
    ReachableFrom W root (fun q => SmallMap.get sel q) p :=
  range_solution_reachable W hW debug fuel root rv s sel h p v hp

end AnyOrder

/-! Non-vacuity on concrete runs (PubgrubProofs/Examples.lean, evaluated by `decide +kernel`; registered in
obligations.json so that their axioms are audited too): `Examples.example_A_solution_reachable`. -/

end Pubgrub.C04
