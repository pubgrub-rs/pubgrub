/-
Property C14 — The next decision is always for a package of maximal reported priority.

"Each time the solver asks the provider to choose a version, the package it asks about is, among all
packages that currently have a positive requirement and no selected version, one whose most recently
reported priority is maximal, and every such package's most recent priority was reported for its
current set of allowed versions."

Proved (every world, every answer sequence consistent with it, any tie-breaking, any lawful version
set): no package with a positive requirement is ever lost (I-Q, `C14_none_lost`); when the queue is
popped every undecided package with a positive term is in the queue (`C14_pick_sees_all`); the package
`choose_version` is asked about has a queued priority that is maximal among all of them
(`C14_choose_is_maximal`).  The model's queue is a map package ↦ last pushed priority and `pop` is "a
maximum, whichever the heap returns" (an input of the model), so this covers every tie-breaking.
`C14_full` is the property as stated, on the callback trace: whenever `choose_version(p, ·)` is
requested, every package q with a positive requirement and no selected version had its most recent
priority reported for exactly its current set, and that priority is at most p's most recent one.
-/
import PubgrubProofs.PSInvariant
import PubgrubProofs.Freshness
import PubgrubProofs.RangeAnyOrder2
import PubgrubProofs.Examples

namespace Pubgrub.C14
open Pubgrub

variable {P S V M Pr E : Type} [DecidableEq P] [VersionSet S V] [DecidableEq S] [DecidableEq V]
  [LE Pr] [DecidableLE Pr] [LawfulVersionSet S V]

/-- no package with a positive requirement is lost: in every reachable unfinished state each undecided
package with a positive term (other than the one just popped) is queued or will be re-prioritised at
the next pick -/
theorem C14_none_lost (W : World P S V M) (hW : W.SetsValid) (debug : Bool) (fuel : Nat)
    (root : P) (rv : V) (x : SolverState P S V M Pr × Request P S V M Pr E)
    (h : Reachable W debug fuel root rv x) (hph : x.2.isFinal = false) :
    x.1.st.ps.QInv x.1.inflight := reachable_qInv W hW debug fuel root rv x h hph

theorem C14_pick_sees_all (W : World P S V M) (hW : W.SetsValid) (debug : Bool) (fuel : Nat)
    (root : P) (rv : V) (s : SolverState P S V M Pr) (q : List (P × Pr))
    (h : Reachable (E := E) W debug fuel root rv (s, .pick q))
    (p : P) (pa : PackageAssignments S V) (set : S)
    (hp : s.st.ps.getPA p = some pa) (hpos : pa.inter = .derivations (.pos set)) :
    (SmallMap.get q p).isSome = true := pick_sees_all W hW debug fuel root rv s q h p pa set hp hpos

theorem C14_choose_is_maximal (W : World P S V M) (hW : W.SetsValid) (debug : Bool) (fuel : Nat)
    (root : P) (rv : V) (s : SolverState P S V M Pr) (q : List (P × Pr)) (p : P)
    (h : Reachable (E := E) W debug fuel root rv (s, .pick q))
    (set : S) (s' : SolverState P S V M Pr)
    (hstep : Solver.step (E := E) s (.picked (some p)) = (s', .chooseVersion p set)) :
    ∃ pr, SmallMap.get q p = some pr ∧
      ∀ p' pa' set', s.st.ps.getPA p' = some pa' → pa'.inter = .derivations (.pos set') →
        ∃ pr', SmallMap.get q p' = some pr' ∧ pr' ≤ pr :=
  choose_is_maximal W hW debug fuel root rv s q p h set s' hstep

theorem C14_full (W : World P S V M) (hW : W.SetsValid) (debug : Bool)
    (fuel : Nat) (root : P) (rv : V) (as : List (Answer P S V M Pr E))
    (hok : AnswersOK W debug fuel root rv as) (k : Nat) (p : P) (s : S)
    (hk : (Solver.trace debug fuel root rv as)[k + 1]? = some (.chooseVersion p s))
    (q : P) (pa : PackageAssignments S V) (setq : S)
    (hq : (Solver.after (Solver.start debug fuel root rv) (as.take k)).1.st.ps.getPA q = some pa)
    (hpos : pa.inter = .derivations (.pos setq)) :
    ∃ prq prp, lastPrio (Solver.trace debug fuel root rv as) as k q = some (setq, prq) ∧
      (∃ sp, lastPrio (Solver.trace debug fuel root rv as) as k p = some (sp, prp)) ∧ prq ≤ prp :=
  choose_has_maximal_last_priority W hW debug fuel root rv as hok k p s hk q pa setq hq hpos

/-! ### `Range V` over any linear order (RangeAnyOrder2) -/
section AnyOrder2
variable {P V M Pr E : Type} [DecidableEq P] [LinearOrder V] [LE Pr] [DecidableLE Pr]

theorem C14_range_pick_sees_all (W : World P (Range V) V M) (hW : W.RangesWF) (debug : Bool) (fuel : Nat)
    (root : P) (rv : V) (s : SolverState P (Range V) V M Pr) (q : List (P × Pr))
    (h : Reachable (E := E) W debug fuel root rv (s, .pick q))
    (p : P) (pa : PackageAssignments (Range V) V) (set : (Range V))
    (hp : s.st.ps.getPA p = some pa) (hpos : pa.inter = .derivations (.pos set)) :
    (SmallMap.get q p).isSome = true :=
  by apply range_C14_pick_sees_all (P := P) (V := V) (M := M) (Pr := Pr) (E := E) <;> assumption

theorem C14_range_choose_is_maximal (W : World P (Range V) V M) (hW : W.RangesWF) (debug : Bool) (fuel : Nat)
    (root : P) (rv : V) (s : SolverState P (Range V) V M Pr) (q : List (P × Pr)) (p : P)
    (h : Reachable (E := E) W debug fuel root rv (s, .pick q))
    (set : (Range V)) (s' : SolverState P (Range V) V M Pr)
    (hstep : Solver.step (E := E) s (.picked (some p)) = (s', .chooseVersion p set)) :
    ∃ pr, SmallMap.get q p = some pr ∧
      ∀ p' pa' set', s.st.ps.getPA p' = some pa' → pa'.inter = .derivations (.pos set') →
        ∃ pr', SmallMap.get q p' = some pr' ∧ pr' ≤ pr :=
  by apply range_C14_choose_is_maximal (P := P) (V := V) (M := M) (Pr := Pr) (E := E) <;> assumption

theorem C14_range_full (W : World P (Range V) V M) (hW : W.RangesWF) (debug : Bool)
    (fuel : Nat) (root : P) (rv : V) (as : List (Answer P (Range V) V M Pr E))
    (hok : AnswersOK W debug fuel root rv as) (k : Nat) (p : P) (s : (Range V))
    (hk : (Solver.trace debug fuel root rv as)[k + 1]? = some (.chooseVersion p s))
    (q : P) (pa : PackageAssignments (Range V) V) (setq : (Range V))
    (hq : (Solver.after (Solver.start debug fuel root rv) (as.take k)).1.st.ps.getPA q = some pa)
    (hpos : pa.inter = .derivations (.pos setq)) :
    ∃ prq prp, lastPrio (Solver.trace debug fuel root rv as) as k q = some (setq, prq) ∧
      (∃ sp, lastPrio (Solver.trace debug fuel root rv as) as k p = some (sp, prp)) ∧ prq ≤ prp :=
  by apply range_C14_full (P := P) (V := V) (M := M) (Pr := Pr) (E := E) <;> assumption

end AnyOrder2

/-! Non-vacuity on concrete runs (PubgrubProofs/Examples.lean, evaluated by `decide +kernel`; registered in
obligations.json so that their axioms are audited too): `Examples.example_C_qInv`. -/

end Pubgrub.C14
