/-
Property C03 — The derivation tree of a NoSolution error is a checkable proof.

"… every external leaf states a fact that is true of the provider's answers, every derived node's
terms are logically entailed by its two causes, and the top node forbids the root at the requested
version.  A derived node carries a shared id exactly when it is reachable along more than one path,
and all occurrences of one id are the same subtree."

`DerivationTree.Checkable` (PubgrubProofs/TreeDefs.lean) is the first sentence: leaves true of the
world (`External.TrueIn`: the root requirement; a dependency declared with exactly that set by every
version in the stated set; a set in which the provider offered no version; a version whose
dependencies it reported unavailable with that reason), derived nodes entailed by their two causes
for every selection (not only solutions).

Shared ids.  Reading recorded in DESIGN.md: a node carries `some k` when it has in-degree ≥ 2 in the
cause DAG reachable from the top.  Proved: equal ids ⇒ equal subtrees; an id is the arena index of the
node; a node with an id occurs at least twice in the unfolded tree; and the exact characterisation
(`C03_shared_iff`): the tree is the unfolding of the store's cause DAG from the terminal clause in which
a derived node for id `k` carries `some k` exactly when at least two distinct cause edges `(parent, side)`
of the reachable DAG lead to `k` (the traversal expands every reachable derived node once and marks
what it meets again).
-/
import PubgrubProofs.StoreInvariant
import PubgrubProofs.TreeSound
import PubgrubProofs.SharedIds
import PubgrubProofs.RangeAnyOrder2
import PubgrubProofs.Examples

namespace Pubgrub.C03
open Pubgrub

variable {P S V M Pr E : Type} [DecidableEq P] [VersionSet S V] [DecidableEq S] [DecidableEq V]
  [LE Pr] [DecidableLE Pr] [LawfulVersionSet S V]

/-- leaves true, derived nodes entailed -/
theorem C03_tree_checkable (W : World P S V M) (hW : W.SetsValid) (debug : Bool) (fuel : Nat)
    (root : P) (rv : V) (s : SolverState P S V M Pr) (tree : DerivationTree P S V M)
    (h : Reachable (E := E) W debug fuel root rv (s, .noSolution tree)) :
    tree.Checkable W root rv := by
  obtain ⟨terminal, inc, hinc, _, hbuild, hinv, _, _⟩ :=
    noSolution_tree_origin W hW debug fuel root rv s tree h
  exact (buildDerivationTree_checkable W root rv s.st hinv terminal inc hinc tree hbuild).1

/-- the top node forbids the root at the requested version -/
theorem C03_top_forbids_root (W : World P S V M) (hW : W.SetsValid) (debug : Bool) (fuel : Nat)
    (root : P) (rv : V) (s : SolverState P S V M Pr) (tree : DerivationTree P S V M)
    (h : Reachable (E := E) W debug fuel root rv (s, .noSolution tree))
    (σ : P → Option V) (hσ : σ root = some rv) : TermsTrue σ tree.terms := by
  obtain ⟨terminal, inc, hinc, hterm, hbuild, hinv, _, _⟩ :=
    noSolution_tree_origin W hW debug fuel root rv s tree h
  rw [(buildDerivationTree_checkable W root rv s.st hinv terminal inc hinc tree hbuild).2]
  exact terminal_forbids_root root rv inc hterm σ hσ

/-- all occurrences of one shared id are the same subtree -/
theorem C03_shared_same (W : World P S V M) (hW : W.SetsValid) (debug : Bool) (fuel : Nat)
    (root : P) (rv : V) (s : SolverState P S V M Pr) (tree : DerivationTree P S V M)
    (h : Reachable (E := E) W debug fuel root rv (s, .noSolution tree))
    (k : Nat) (t1 t2 : DerivationTree P S V M)
    (h1 : (some k, t1) ∈ tree.derivedNodes) (h2 : (some k, t2) ∈ tree.derivedNodes) : t1 = t2 := by
  obtain ⟨terminal, _, _, _, hbuild, hinv, _, _⟩ :=
    noSolution_tree_origin W hW debug fuel root rv s tree h
  exact buildDerivationTree_shared_same W root rv s.st hinv terminal tree hbuild k t1 t2 h1 h2

/-- a node that carries an id occurs at least twice, and the id is its index in the store -/
theorem C03_shared_twice (W : World P S V M) (hW : W.SetsValid) (debug : Bool) (fuel : Nat)
    (root : P) (rv : V) (s : SolverState P S V M Pr) (tree : DerivationTree P S V M)
    (h : Reachable (E := E) W debug fuel root rv (s, .noSolution tree))
    (k : Nat) (t : DerivationTree P S V M) (hk : (some k, t) ∈ tree.derivedNodes) :
    2 ≤ (tree.derivedNodes.filter fun n => n.1 = some k).length ∧
      ∃ inc, s.st.store[k]? = some inc ∧ t.terms = inc.terms := by
  obtain ⟨terminal, _, _, _, hbuild, hinv, _, _⟩ :=
    noSolution_tree_origin W hW debug fuel root rv s tree h
  exact buildDerivationTree_shared_iff_partial W root rv s.st hinv terminal tree hbuild k t hk

/-- the shared-id clause in full: marked exactly when reachable along two distinct cause edges -/
theorem C03_shared_iff (W : World P S V M) (hW : W.SetsValid) (debug : Bool) (fuel : Nat)
    (root : P) (rv : V) (s : SolverState P S V M Pr) (tree : DerivationTree P S V M)
    (h : Reachable (E := E) W debug fuel root rv (s, .noSolution tree)) :
    ∃ (terminal : Nat) (sh : Nat → Bool), IsTreeOf s.st.store sh terminal tree ∧
      ∀ k, sh k = true ↔
        (∃ inc a b, s.st.store[k]? = some inc ∧ inc.causes = some (a, b)) ∧
          TwoEdgesTo s.st.store terminal k := by
  obtain ⟨terminal, _, _, _, hbuild, hinv, _, _⟩ :=
    noSolution_tree_origin W hW debug fuel root rv s tree h
  obtain ⟨sh, h1, h2⟩ := buildDerivationTree_shared_iff W root rv s.st hinv terminal tree hbuild
  exact ⟨terminal, sh, h1, h2⟩

/-! ### `Range V` over any linear order (RangeAnyOrder2) -/
section AnyOrder2
variable {P V M Pr E : Type} [DecidableEq P] [LinearOrder V] [LE Pr] [DecidableLE Pr]

theorem C03_range_tree_checkable (W : World P (Range V) V M) (hW : W.RangesWF) (debug : Bool) (fuel : Nat)
    (root : P) (rv : V) (s : SolverState P (Range V) V M Pr) (tree : DerivationTree P (Range V) V M)
    (h : Reachable (E := E) W debug fuel root rv (s, .noSolution tree)) :
    tree.Checkable W root rv :=
  by apply range_C03_tree_checkable (P := P) (V := V) (M := M) (Pr := Pr) (E := E) <;> assumption

theorem C03_range_top_forbids_root (W : World P (Range V) V M) (hW : W.RangesWF) (debug : Bool) (fuel : Nat)
    (root : P) (rv : V) (s : SolverState P (Range V) V M Pr) (tree : DerivationTree P (Range V) V M)
    (h : Reachable (E := E) W debug fuel root rv (s, .noSolution tree))
    (σ : P → Option V) (hσ : σ root = some rv) : TermsTrue σ tree.terms :=
  by apply range_C03_top_forbids_root (P := P) (V := V) (M := M) (Pr := Pr) (E := E) <;> assumption

theorem C03_range_shared_same (W : World P (Range V) V M) (hW : W.RangesWF) (debug : Bool) (fuel : Nat)
    (root : P) (rv : V) (s : SolverState P (Range V) V M Pr) (tree : DerivationTree P (Range V) V M)
    (h : Reachable (E := E) W debug fuel root rv (s, .noSolution tree))
    (k : Nat) (t1 t2 : DerivationTree P (Range V) V M)
    (h1 : (some k, t1) ∈ tree.derivedNodes) (h2 : (some k, t2) ∈ tree.derivedNodes) : t1 = t2 :=
  by apply range_C03_shared_same (P := P) (V := V) (M := M) (Pr := Pr) (E := E) <;> assumption

theorem C03_range_shared_iff (W : World P (Range V) V M) (hW : W.RangesWF) (debug : Bool) (fuel : Nat)
    (root : P) (rv : V) (s : SolverState P (Range V) V M Pr) (tree : DerivationTree P (Range V) V M)
    (h : Reachable (E := E) W debug fuel root rv (s, .noSolution tree)) :
    ∃ (terminal : Nat) (sh : Nat → Bool), IsTreeOf s.st.store sh terminal tree ∧
      ∀ k, sh k = true ↔
        (∃ inc a b, s.st.store[k]? = some inc ∧ inc.causes = some (a, b)) ∧
          TwoEdgesTo s.st.store terminal k :=
  by apply range_C03_shared_iff (P := P) (V := V) (M := M) (Pr := Pr) (E := E) <;> assumption

end AnyOrder2

/-! Non-vacuity on concrete runs (PubgrubProofs/Examples.lean, evaluated by `decide +kernel`; registered in
obligations.json so that their axioms are audited too): `Examples.example_B_run`, `Examples.example_B_tree_checkable`, `Examples.example_B_shared_iff`. -/

end Pubgrub.C03
