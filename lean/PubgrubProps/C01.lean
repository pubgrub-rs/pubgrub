/-
Property C01 — A returned solution satisfies every dependency of every selected version.

`C01_solution_valid`: for every world `W` (any registry: cyclic and self-dependencies, dependencies on
the empty set or on unknown packages, unavailable versions, any sets), every root, every lawful
version-set implementation, every well-behaved provider run (`ReachableWB`: answers consistent with `W`,
no callback error, `choose_version` inside the set it was given; any `prioritize`, any tie-breaking of the
queue, any fuel): if the run ends in `Ok(sel)` then `sel` is a solution in the sense of the property
(`IsSolution`: root at the requested version; every selected version offered by the provider with
available dependencies; every dependency (q, set) of every selected version — a dependency on the
package itself included — has q selected at a version contained in set), and every selected
(package, version) was returned by `choose_version` in this run.
-/
import PubgrubProofs.OwnInvariant
import PubgrubProofs.RangeAnyOrder
import PubgrubProofs.Examples

namespace Pubgrub.C01
open Pubgrub

variable {P S V M Pr E : Type} [DecidableEq P] [VersionSet S V] [DecidableEq S] [DecidableEq V]
  [LE Pr] [DecidableLE Pr] [LawfulVersionSet S V]

theorem C01_solution_valid (W : World P S V M) (hW : W.SetsValid) (debug : Bool) (fuel : Nat)
    (root : P) (rv : V) (s : SolverState P S V M Pr) (sel : List (P × V))
    (h : ReachableWB (E := E) W debug fuel root rv (s, .solution sel)) :
    IsSolution W root rv (fun p => SmallMap.get sel p) ∧
      (∀ p v, SmallMap.get sel p = some v → (p, v) ∈ s.added) :=
  solution_valid W hW debug fuel root rv s sel h

/-- unfolded: the dependency clause, self-dependencies included -/
theorem C01_dependencies_satisfied (W : World P S V M) (hW : W.SetsValid) (debug : Bool) (fuel : Nat)
    (root : P) (rv : V) (s : SolverState P S V M Pr) (sel : List (P × V))
    (h : ReachableWB (E := E) W debug fuel root rv (s, .solution sel))
    (p : P) (v : V) (hp : SmallMap.get sel p = some v) :
    v ∈ W.versions p ∧ ∃ ds, W.deps p v = .available ds ∧
      ∀ q set, (q, set) ∈ ds → ∃ w, SmallMap.get sel q = some w ∧ VersionSet.contains set w = true := by
  have hs := (solution_valid W hW debug fuel root rv s sel h).1
  exact ⟨hs.offered p v hp, hs.deps p v hp⟩

/-! ### `Range V` over any linear order (the discrete `u32`, `SemanticVersion` included), where `Range` is
not a `LawfulVersionSet`: pulled back along the embedding into `Range (V ×ₗ ℚ)` (RangeHom, HomSolver,
RangeAnyOrder) -/
section AnyOrder
variable {P V M Pr E : Type} [DecidableEq P] [LinearOrder V] [LE Pr] [DecidableLE Pr]

theorem C01_range_solution_valid (W : World P (Range V) V M) (hW : W.RangesWF) (debug : Bool) (fuel : Nat)
    (root : P) (rv : V) (s : SolverState P (Range V) V M Pr) (sel : List (P × V))
    (h : ReachableWB (E := E) W debug fuel root rv (s, .solution sel)) :
    IsSolution W root rv (fun p => SmallMap.get sel p) ∧
      (∀ p v, SmallMap.get sel p = some v → (p, v) ∈ s.added) :=
  range_solution_valid W hW debug fuel root rv s sel h

end AnyOrder

/-! Non-vacuity on concrete runs (PubgrubProofs/Examples.lean, evaluated by `decide +kernel`; registered in
obligations.json so that their axioms are audited too): `Examples.example_A_run`, `Examples.example_A_backtracks`, `Examples.example_A_solution_valid`. -/

end Pubgrub.C01
