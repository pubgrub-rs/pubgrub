/-
Property C09 — collapse_no_versions keeps the explanation true of the existing versions.

Theorems about the model `DerivationTree.collapseNoVersions` (PubgrubModel/Report.lean), over the
universe of existing versions `W.Exists`.  Hypotheses on the input tree: derived nodes follow from their
causes over existing versions (`Sound`), leaves true of the provider (`LeavesTrueExisting`, implied by
C03's leaf truth), valid sets, and `ResolutionShaped` (every derived node is shaped like a resolvent:
a pivot package occurs in both causes and the node's packages are among its causes' packages) — which
is what trees built from resolution steps satisfy.  Without that shape the statement is false of the
code (machine-checked counterexample in PubgrubProofs/CollapseSound.lean: a `NoVersions` leaf about an
unrelated package next to a derived node that collapses to a dependency leaf gets merged into the wrong
side): `merge_no_versions` assumes the `NoVersions` package is one of the two packages of the
dependency.  Such trees are not produced by `resolve` (see below) nor by sound resolution steps.

`C09_on_resolve_trees` closes the chain for the trees `resolve` returns (they satisfy all four
hypotheses, by the store invariant: derived terms are `priorCause` results).
"Never panics on a tree produced by resolve": `C09_no_panic_unless_noVersions_beside_notRoot` (the only
panic site of `collapse_no_versions` is a `NoVersions` leaf next to a `NotRoot` leaf) and
`C09_no_panic_on_resolve_trees` (resolve never produces such a pair: a run-level invariant of the store,
PubgrubProofs/CollapseInvariants.lean … CollapseNoPanic.lean); for `Range` over any linear order: `C09_range_no_panic_on_resolve_trees`.
-/
import PubgrubProofs.CollapseSound
import PubgrubProofs.TreeLink
import PubgrubProofs.CollapseNoPanic
import PubgrubProofs.RangeAnyOrder2
import PubgrubProofs.ReportCollapsed
import PubgrubProofs.Examples

namespace Pubgrub.C09
open Pubgrub

variable {P S V M : Type} [DecidableEq P] [VersionSet S V] [DecidableEq S] [LawfulVersionSet S V]

/-- after collapse: derived nodes still entailed by their causes, remaining leaves true of the
provider, the new top implied by the old one (all over the existing versions), `NoVersions` leaves
survive only next to a `NoVersions` / `Custom` leaf -/
theorem C09_collapse_sound (W : World P S V M) (root : P) (rv : V) (t : DerivationTree P S V M)
    (hs : t.Sound W.Exists) (hl : t.LeavesTrueExisting W root rv)
    (hv : ∀ e ∈ t.externals, e.SetsValid) (hr : t.ResolutionShaped)
    (t' : DerivationTree P S V M) (h : t.collapseNoVersions = .ok t') :
    t'.Sound W.Exists ∧ t'.LeavesTrueExisting W root rv ∧
      Entails W.Exists [t'.terms] t.terms ∧ t'.NoVersionsOnlyBesideLeaf ∧
      (∀ e ∈ t'.externals, e.SetsValid) :=
  collapse_sound_of_resolutionShaped W root rv t hs hl hv hr t' h

/-- the top node still forbids the root -/
theorem C09_top_forbids_root (W : World P S V M) (root : P) (rv : V) (t : DerivationTree P S V M)
    (hs : t.Sound W.Exists) (hl : t.LeavesTrueExisting W root rv)
    (hv : ∀ e ∈ t.externals, e.SetsValid) (hr : t.ResolutionShaped)
    (htop : ∀ σ : P → Option V, σ root = some rv → TermsTrue σ t.terms)
    (t' : DerivationTree P S V M) (h : t.collapseNoVersions = .ok t')
    (σ : P → Option V) (hw : Within W.Exists σ) (hσ : σ root = some rv) : TermsTrue σ t'.terms :=
  collapse_top_forbids_root_of_resolutionShaped W root rv t hs hl hv hr htop t' h σ hw hσ

/-- a tree without 'no versions' leaves is returned unchanged -/
theorem C09_identity (t : DerivationTree P S V M)
    (h : ∀ e ∈ t.externals, ∀ p s, e ≠ .noVersions p s) : t.collapseNoVersions = .ok t :=
  collapse_identity t h

/-- the only panic is a `NoVersions` leaf next to a `NotRoot` leaf -/
theorem C09_no_panic_unless_noVersions_beside_notRoot (t : DerivationTree P S V M) (h : ¬ t.NoVersionsBesideNotRoot) :
    ∃ t', t.collapseNoVersions = .ok t' :=
  collapse_no_panic_partial t h

/-- C03's leaf truth implies the existing-versions reading used here -/
theorem C09_leaf_truth_link (W : World P S V M) (root : P) (rv : V) (e : External P S V M)
    (h : e.TrueIn W root rv) : e.TrueInExisting W root rv :=
  External.trueInExisting_of_trueIn W root rv e h

/-- C09 for every tree carried by a `NoSolution` result of `resolve` (any world, any consistent
answers): if `collapse_no_versions` returns, the explanation is still true of the existing versions,
the top still forbids the root, and `NoVersions` leaves survive only next to `NoVersions` / `Custom` -/
theorem C09_on_resolve_trees {Pr E : Type} [DecidableEq V] [LE Pr] [DecidableLE Pr]
    (W : World P S V M) (hW : W.SetsValid) (debug : Bool) (fuel : Nat)
    (root : P) (rv : V) (s : SolverState P S V M Pr) (tree : DerivationTree P S V M)
    (h : Reachable (E := E) W debug fuel root rv (s, .noSolution tree))
    (t' : DerivationTree P S V M) (hc : tree.collapseNoVersions = .ok t') :
    t'.Sound W.Exists ∧ t'.LeavesTrueExisting W root rv ∧ t'.NoVersionsOnlyBesideLeaf ∧
      (∀ σ : P → Option V, Within W.Exists σ → σ root = some rv → TermsTrue σ t'.terms) :=
  noSolution_collapse_sound W hW debug fuel root rv s tree h t' hc

/-- C09, last clause: `collapse_no_versions` never panics on a tree produced by `resolve` (the only
panic site — a `NoVersions` leaf beside a `NotRoot` leaf — is unreachable: a `NoVersions` clause about
the root contains the requested version, hence is terminal before it could be resolved with clause 0) -/
theorem C09_no_panic_on_resolve_trees {Pr E : Type} [DecidableEq V] [DecidableEq S] [LE Pr] [DecidableLE Pr]
    [LawfulVersionSet S V] [CanonicalEmpty S V]
    (W : World P S V M) (hW : W.SetsValid) (debug : Bool) (fuel : Nat)
    (root : P) (rv : V) (s : SolverState P S V M Pr) (tree : DerivationTree P S V M)
    (h : Reachable (E := E) W debug fuel root rv (s, .noSolution tree)) :
    ∃ t', tree.collapseNoVersions = .ok t' :=
  noSolution_collapse_no_panic W hW debug fuel root rv s tree h

/-! ### `Range V` over any linear order (RangeAnyOrder2) -/
section AnyOrder2
variable {P V M Pr E : Type} [DecidableEq P] [LinearOrder V] [LE Pr] [DecidableLE Pr]

theorem C09_range_on_resolve_trees
    (W : World P (Range V) V M) (hW : W.RangesWF) (debug : Bool) (fuel : Nat)
    (root : P) (rv : V) (s : SolverState P (Range V) V M Pr) (tree : DerivationTree P (Range V) V M)
    (h : Reachable (E := E) W debug fuel root rv (s, .noSolution tree))
    (t' : DerivationTree P (Range V) V M) (hc : tree.collapseNoVersions = .ok t') :
    t'.Sound W.Exists ∧ t'.LeavesTrueExisting W root rv ∧ t'.NoVersionsOnlyBesideLeaf ∧
      (∀ σ : P → Option V, Within W.Exists σ → σ root = some rv → TermsTrue σ t'.terms) :=
  by apply range_C09_on_resolve_trees (P := P) (V := V) (M := M) (Pr := Pr) (E := E) <;> assumption

end AnyOrder2

section NoPanicAnyOrder
variable {P V M Pr E : Type} [DecidableEq P] [LinearOrder V] [LE Pr] [DecidableLE Pr]

theorem C09_range_no_panic_on_resolve_trees (W : World P (Range V) V M) (hW : W.RangesWF) (debug : Bool)
    (fuel : Nat) (root : P) (rv : V) (s : SolverState P (Range V) V M Pr)
    (tree : DerivationTree P (Range V) V M)
    (h : Reachable (E := E) W debug fuel root rv (s, .noSolution tree)) :
    ∃ t', tree.collapseNoVersions = .ok t' :=
  range_collapse_no_panic W hW debug fuel root rv s tree h

end NoPanicAnyOrder

/-! Non-vacuity on concrete runs (PubgrubProofs/Examples.lean, evaluated by `decide +kernel`; registered in
obligations.json so that their axioms are audited too): `Examples.example_B_collapse_no_panic`. -/

end Pubgrub.C09
