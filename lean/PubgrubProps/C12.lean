/-
Property C12 — The provider is queried according to a fixed protocol.

"get_dependencies(p, v) is called only for a version v that the immediately preceding query
choose_version(p, .) returned, and at most once per (p, v) in a run; choose_version(p, set) is only
called with a non-empty set that is identical to the set last passed to prioritize for p; the first
version query is for the root with the singleton set of the requested version; and should_cancel is
polled before the first query and at least once between any two choose_version calls."

Proved for arbitrary answer sequences (any version set, any fuel ≥ 3 where stated): the clauses on
get_dependencies, on the first query and on should_cancel.  Proved for answers consistent with a world
and a lawful version set: the set passed to `choose_version` is the set of the most recent
`prioritize` request for that package (`C12_choose_set_is_prioritized_set`, a trace-level invariant on
top of the queue invariant of C14).
`C12_choose_nonempty`: the set passed to `choose_version` has a member (consistent answers, lawful set with
canonical emptiness) — from the invariant "no accumulated term of a live state is empty" (`NonEmpty`),
whose hard case, the derivation that follows a backjump, rests on the satisfier theory.
-/
import PubgrubProofs.Protocol
import PubgrubProofs.Freshness
import PubgrubProofs.NonEmpty
import PubgrubProofs.CanonInstances
import PubgrubProofs.RangeAnyOrder
import PubgrubProofs.RangeAnyOrder2
import PubgrubProofs.Examples

namespace Pubgrub.C12
open Pubgrub Pubgrub.Solver VersionSet

variable {P S V M Pr E : Type} [DecidableEq P] [VersionSet S V] [DecidableEq S] [DecidableEq V]
  [LE Pr] [DecidableLE Pr]

theorem C12_deps_after_choose (debug : Bool) (fuel : Nat) (root : P) (rv : V)
    (as : List (Answer P S V M Pr E)) (k : Nat) (p : P) (v : V)
    (h : (trace debug fuel root rv as)[k + 1]? = some (.getDependencies p v)) :
    (∃ s, (trace debug fuel root rv as)[k]? = some (.chooseVersion p s)) ∧
      as[k]? = some (.version (some v)) :=
  deps_after_choose debug fuel root rv as k p v h

theorem C12_deps_once (debug : Bool) (fuel : Nat) (root : P) (rv : V)
    (as : List (Answer P S V M Pr E)) (i j : Nat) (hij : i < j) (p : P) (v : V)
    (hi : (trace debug fuel root rv as)[i]? = some (.getDependencies p v)) :
    (trace debug fuel root rv as)[j]? ≠ some (.getDependencies p v) :=
  deps_once debug fuel root rv as i j hij p v hi

theorem C12_cancel_first (debug : Bool) (fuel : Nat) (root : P) (rv : V)
    (as : List (Answer P S V M Pr E)) :
    (trace debug fuel root rv as)[0]? = some .shouldCancel :=
  cancel_first debug fuel root rv as

theorem C12_cancel_between_choose (debug : Bool) (fuel : Nat) (root : P) (rv : V)
    (as : List (Answer P S V M Pr E)) (i j : Nat) (hij : i < j) (p q : P) (s t : S)
    (hi : (trace debug fuel root rv as)[i]? = some (.chooseVersion p s))
    (hj : (trace debug fuel root rv as)[j]? = some (.chooseVersion q t)) :
    ∃ k, i < k ∧ k < j ∧ (trace debug fuel root rv as)[k]? = some .shouldCancel :=
  cancel_between_choose debug fuel root rv as i j hij p q s t hi hj

theorem C12_first_query (debug : Bool) (fuel : Nat) (hf : 3 ≤ fuel) (root : P) (rv : V)
    (as : List (Answer P S V M Pr E)) (k : Nat) (p : P) (s : S)
    (hk : (trace debug fuel root rv as)[k]? = some (.chooseVersion p s))
    (hfirst : ∀ j < k, ∀ q t, (trace debug fuel root rv as)[j]? ≠ some (.chooseVersion q t)) :
    k = 3 ∧ p = root ∧ s = VersionSet.singleton rv ∧
      (trace debug fuel root rv as)[1]? = some (.prioritize root (VersionSet.singleton rv)) :=
  first_query debug fuel hf root rv as k p s hk hfirst

theorem C12_choose_set_is_prioritized_set [LawfulVersionSet S V] (W : World P S V M) (hW : W.SetsValid)
    (debug : Bool) (fuel : Nat) (root : P) (rv : V) (as : List (Answer P S V M Pr E))
    (hok : AnswersOK W debug fuel root rv as) (k : Nat) (p : P) (s : S)
    (hk : (trace debug fuel root rv as)[k]? = some (.chooseVersion p s)) :
    ∃ pr, lastPrio (trace debug fuel root rv as) as k p = some (s, pr) :=
  choose_set_is_prioritized_set W hW debug fuel root rv as hok k p s hk

theorem C12_choose_nonempty [LawfulVersionSet S V] [CanonicalEmpty S V] (W : World P S V M)
    (hW : W.SetsValid) (debug : Bool) (fuel : Nat) (root : P) (rv : V) (s : SolverState P S V M Pr)
    (p : P) (set : S) (h : Reachable (E := E) W debug fuel root rv (s, .chooseVersion p set)) :
    ∃ v : V, VersionSet.contains set v = true :=
  choose_nonempty W hW debug fuel root rv s p set h

theorem C12_no_empty_term [LawfulVersionSet S V] [CanonicalEmpty S V] (W : World P S V M)
    (hW : W.SetsValid) (debug : Bool) (fuel : Nat) (root : P) (rv : V)
    (x : SolverState P S V M Pr × Request P S V M Pr E)
    (h : Reachable W debug fuel root rv x) (hph : x.2.isFinal = false) : x.1.st.ps.NonEmpty :=
  reachable_nonEmpty W hW debug fuel root rv x h hph

/-- non-vacuity of `CanonicalEmpty`: `Range` over a non-empty dense linear order without end points -/
theorem C12_canonicalEmpty_range {T : Type} [LinearOrder T] [DenselyOrdered T] [NoMinOrder T]
    [NoMaxOrder T] [Nonempty T] : CanonicalEmpty (Range T) T := Range.canonicalEmpty

/-- non-vacuity of `CanonicalEmpty`: the bit set over `Fin n` -/
theorem C12_canonicalEmpty_bitset (n : Nat) :
    @CanonicalEmpty (BitSet n) (Fin n) (BitSet.instVersionSetBitSetFin n) (BitSet.lawful n) :=
  BitSet.canonicalEmpty n

/-! ### `Range V` over any linear order (the discrete `u32`, `SemanticVersion` included), where `Range` is
not a `LawfulVersionSet`: pulled back along the embedding into `Range (V ×ₗ ℚ)` (RangeHom, HomSolver,
RangeAnyOrder) -/
section AnyOrder
variable {P V M Pr E : Type} [DecidableEq P] [LinearOrder V] [LE Pr] [DecidableLE Pr]

theorem C12_range_choose_nonempty (W : World P (Range V) V M) (hW : W.RangesWF) (debug : Bool) (fuel : Nat)
    (root : P) (rv : V) (s : SolverState P (Range V) V M Pr) (p : P) (set : Range V)
    (h : Reachable (E := E) W debug fuel root rv (s, .chooseVersion p set)) :
    set ≠ Range.empty :=
  range_choose_nonempty W hW debug fuel root rv s p set h

theorem C12_range_requests_wf (W : World P (Range V) V M) (hW : W.RangesWF) (debug : Bool) (fuel : Nat)
    (root : P) (rv : V) (s : SolverState P (Range V) V M Pr) (p : P) (set : Range V)
    (h : Reachable (E := E) W debug fuel root rv (s, .chooseVersion p set) ∨
         Reachable (E := E) W debug fuel root rv (s, .prioritize p set)) :
    Range.WF set :=
  range_requests_wf W hW debug fuel root rv s p set h

end AnyOrder

/-! ### `Range V` over any linear order (RangeAnyOrder2) -/
section AnyOrder2
variable {P V M Pr E : Type} [DecidableEq P] [LinearOrder V] [LE Pr] [DecidableLE Pr]

theorem C12_range_choose_set_is_prioritized_set (W : World P (Range V) V M) (hW : W.RangesWF)
    (debug : Bool) (fuel : Nat) (root : P) (rv : V) (as : List (Answer P (Range V) V M Pr E))
    (hok : AnswersOK W debug fuel root rv as) (k : Nat) (p : P) (s : (Range V))
    (hk : (Solver.trace debug fuel root rv as)[k]? = some (.chooseVersion p s)) :
    ∃ pr, lastPrio (Solver.trace debug fuel root rv as) as k p = some (s, pr) :=
  by apply range_C12_choose_set_is_prioritized_set (P := P) (V := V) (M := M) (Pr := Pr) (E := E) <;> assumption

end AnyOrder2

/-! Non-vacuity on concrete runs (PubgrubProofs/Examples.lean, evaluated by `decide +kernel`; registered in
obligations.json so that their axioms are audited too): `Examples.example_C_reachable`, `Examples.example_C_choose_nonempty`. -/

end Pubgrub.C12
