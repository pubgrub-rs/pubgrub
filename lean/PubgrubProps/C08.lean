/-
Property C08 — The default text report is a sound, well-formed linear proof.

Theorems about the model of `DefaultStringReporter` (PubgrubModel/Report.lean: the reporter as a
producer of *steps* = the calls a `ReportFormatter` receives, `report` and `report_with_formatter`
share it, so "the same holds through report_with_formatter" is by construction; the text templates of
`DefaultStringReportFormatter` are `formatStep`, compared with the real text by the correspondence).
For every tree whose derived nodes follow from their causes over a universe `U` of versions
(`Sound U`: all versions before `collapse_no_versions`, existing versions after it) and whose shared
ids are consistent (`SharedConsistent`, which C03 proves of resolve's trees).
-/
import PubgrubProofs.ReportSound
import PubgrubProofs.TreeLink
import PubgrubProofs.RangeAnyOrder2
import PubgrubProofs.ReportCollapsed

namespace Pubgrub.C08
open Pubgrub

variable {P S V M : Type} [DecidableEq P] [VersionSet S V] [DecidableEq S]

/-- each step's conclusion is entailed by the premises it cites: the facts named in the line, the
preceding line for an 'And because' step, the conclusions of the lines cited by number -/
theorem C08_steps_sound (U : P → V → Prop) (t : DerivationTree P S V M) (hs : t.Sound U)
    (hc : t.SharedConsistent) (lines : List (Line P S V M)) (h : reportSteps t = .ok (.inr lines))
    (i : Nat) (l : Line P S V M) (hl : lines[i]? = some l) (c : List (P × Term S))
    (hcl : l.step.conclusion = some c) : Entails U (stepPremises lines i l.step) c :=
  report_steps_sound U t hs hc lines h i l hl c hcl

/-- numbers are assigned consecutively from 1, a line carries at most one number -/
theorem C08_numbering (t : DerivationTree P S V M) (hc : t.SharedConsistent)
    (lines : List (Line P S V M)) (h : reportSteps t = .ok (.inr lines)) :
    allRefs lines = List.range' 1 (allRefs lines).length ∧ ∀ l ∈ lines, l.refs.length ≤ 1 :=
  report_numbering t hc lines h

/-- every numeric reference points to exactly one earlier line carrying that number, whose conclusion
is the clause it is cited for -/
theorem C08_refs_resolve (t : DerivationTree P S V M) (hc : t.SharedConsistent)
    (lines : List (Line P S V M)) (h : reportSteps t = .ok (.inr lines))
    (i : Nat) (l : Line P S V M) (hl : lines[i]? = some l) (k : Nat) (terms : List (P × Term S))
    (hk : (k, terms) ∈ l.step.citedRefs) :
    conclusionOfRef (lines.take i) k = some terms ∧
      ((lines.take i).filter fun l' => l'.refs.contains k).length = 1 :=
  report_refs_resolve t hc lines h i l hl k terms hk

/-- every external fact of the tree is cited at least once -/
theorem C08_externals_cited (t : DerivationTree P S V M) (hc : t.SharedConsistent)
    (lines : List (Line P S V M)) (h : reportSteps t = .ok (.inr lines))
    (e : External P S V M) (he : e ∈ t.externals) : ∃ l ∈ lines, e ∈ l.step.namedExternals :=
  report_externals_cited t hc lines h e he

/-- the last step concludes the tree's top node -/
theorem C08_last_concludes_top (t : DerivationTree P S V M) (hc : t.SharedConsistent)
    (lines : List (Line P S V M)) (h : reportSteps t = .ok (.inr lines)) :
    ∃ l, lines.getLast? = some l ∧ l.step.conclusion = some t.terms :=
  report_last_concludes_top t hc lines h

/-- the reporter terminates (the model's fuel is always enough), and an external top is reported by
`format_external` alone -/
theorem C08_terminates (t : DerivationTree P S V M) (hc : t.SharedConsistent) :
    ∃ r, reportSteps t = .ok r := report_terminates t hc

theorem C08_external_top (e : External P S V M) : reportSteps (.external e) = .ok (.inl e) :=
  report_external_top e

/-- C08 for every tree carried by a `NoSolution` result of `resolve`: the report is produced and every
step is entailed by the premises it cites (the hypotheses `Sound` / `SharedConsistent` hold of
resolve's trees by the store invariant) -/
theorem C08_on_resolve_trees {Pr E : Type} [DecidableEq V] [LE Pr] [DecidableLE Pr]
    [LawfulVersionSet S V]
    (W : World P S V M) (hW : W.SetsValid) (debug : Bool) (fuel : Nat)
    (root : P) (rv : V) (s : SolverState P S V M Pr) (tree : DerivationTree P S V M)
    (h : Reachable (E := E) W debug fuel root rv (s, .noSolution tree)) :
    (∃ r, reportSteps tree = .ok r) ∧
    ∀ lines, reportSteps tree = .ok (.inr lines) →
      ∀ i l, lines[i]? = some l → ∀ c, l.step.conclusion = some c →
        Entails (fun _ _ => True) (stepPremises lines i l.step) c :=
  noSolution_report_sound W hW debug fuel root rv s tree h

/-! ### `Range V` over any linear order (RangeAnyOrder2) -/
section AnyOrder2
variable {P V M Pr E : Type} [DecidableEq P] [LinearOrder V] [LE Pr] [DecidableLE Pr]

theorem C08_range_on_resolve_trees
    (W : World P (Range V) V M) (hW : W.RangesWF) (debug : Bool) (fuel : Nat)
    (root : P) (rv : V) (s : SolverState P (Range V) V M Pr) (tree : DerivationTree P (Range V) V M)
    (h : Reachable (E := E) W debug fuel root rv (s, .noSolution tree)) :
    (∃ r, reportSteps tree = .ok r) ∧
    ∀ lines, reportSteps tree = .ok (.inr lines) →
      ∀ i l, lines[i]? = some l → ∀ c, l.step.conclusion = some c →
        Entails (fun _ _ => True) (stepPremises lines i l.step) c :=
  by apply range_C08_on_resolve_trees (P := P) (V := V) (M := M) (Pr := Pr) (E := E) <;> assumption

end AnyOrder2

/-! ### resolve's trees, before and after `collapse_no_versions`: every clause of C08 at once

`ReportWellFormed U t` (PubgrubProofs/ReportCollapsed.lean) bundles: the report is produced; every step is
entailed (over the universe `U` of versions) by the premises it cites; numbers are consecutive from 1 and
at most one per line; every reference resolves to exactly one earlier line with the cited conclusion;
every external fact is cited; the last step concludes the top node.  `collapse_no_versions` preserves
"equal ids ⇒ equal subtrees" (`C08_collapse_sharedConsistent`). -/
section OnResolveTrees
variable {Pr E : Type} [DecidableEq V] [LE Pr] [DecidableLE Pr] [LawfulVersionSet S V]

theorem C08_collapse_sharedConsistent (t t' : DerivationTree P S V M) (h : t.SharedConsistent)
    (hc : t.collapseNoVersions = .ok t') : t'.SharedConsistent :=
  collapse_sharedConsistent t t' h hc

theorem C08_report_wellFormed_of (U : P → V → Prop) (t : DerivationTree P S V M) (hs : t.Sound U)
    (hc : t.SharedConsistent) : ReportWellFormed U t :=
  reportWellFormed_of U t hs hc

theorem C08_on_resolve_trees_full (W : World P S V M) (hW : W.SetsValid) (debug : Bool) (fuel : Nat)
    (root : P) (rv : V) (s : SolverState P S V M Pr) (tree : DerivationTree P S V M)
    (h : Reachable (E := E) W debug fuel root rv (s, .noSolution tree)) :
    ReportWellFormed (fun _ _ => True) tree :=
  by apply noSolution_report_wellFormed (Pr := Pr) (E := E) <;> assumption

theorem C08_on_collapsed_resolve_trees (W : World P S V M) (hW : W.SetsValid) (debug : Bool)
    (fuel : Nat) (root : P) (rv : V) (s : SolverState P S V M Pr) (tree : DerivationTree P S V M)
    (h : Reachable (E := E) W debug fuel root rv (s, .noSolution tree))
    (t' : DerivationTree P S V M) (hc : tree.collapseNoVersions = .ok t') :
    ReportWellFormed W.Exists t' :=
  by apply noSolution_collapsed_report_wellFormed (Pr := Pr) (E := E) <;> assumption

end OnResolveTrees

section OnResolveTreesAnyOrder
variable {P V M Pr E : Type} [DecidableEq P] [LinearOrder V] [LE Pr] [DecidableLE Pr]

theorem C08_range_on_resolve_trees_full (W : World P (Range V) V M) (hW : W.RangesWF) (debug : Bool) (fuel : Nat)
    (root : P) (rv : V) (s : SolverState P (Range V) V M Pr) (tree : DerivationTree P (Range V) V M)
    (h : Reachable (E := E) W debug fuel root rv (s, .noSolution tree)) :
    ReportWellFormed (fun _ _ => True) tree :=
  by apply range_report_wellFormed (Pr := Pr) (E := E) <;> assumption

theorem C08_range_on_collapsed_resolve_trees (W : World P (Range V) V M) (hW : W.RangesWF) (debug : Bool)
    (fuel : Nat) (root : P) (rv : V) (s : SolverState P (Range V) V M Pr)
    (tree : DerivationTree P (Range V) V M)
    (h : Reachable (E := E) W debug fuel root rv (s, .noSolution tree))
    (t' : DerivationTree P (Range V) V M) (hc : tree.collapseNoVersions = .ok t') :
    ReportWellFormed W.Exists t' :=
  by apply range_collapsed_report_wellFormed (Pr := Pr) (E := E) <;> assumption

end OnResolveTreesAnyOrder

end Pubgrub.C08
