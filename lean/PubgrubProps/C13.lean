/-
Property C13 — Provider errors and misbehaviour abort resolution faithfully.

"If any provider callback returns an error at any point of a run, resolve stops, makes no further
provider calls, and returns the matching error variant carrying that same error and, for
get_dependencies, the package and version being queried; up to that point the call trace equals that
of the fault-free run.  If choose_version returns a version outside the set it was offered, resolve
returns Failure rather than a solution."

Theorems about the coroutine model of `resolve` for arbitrary answer sequences (any provider, any
version-set implementation, lawful or not), any fuel.  `Solver.trace … as` is the callback trace:
`trace[k+1]` is what resolve does after the answer `as[k]` to the request `trace[k]`.
-/
import PubgrubProofs.Protocol

namespace Pubgrub.C13
open Pubgrub Pubgrub.Solver VersionSet

variable {P S V M Pr E : Type} [DecidableEq P] [VersionSet S V] [DecidableEq S] [DecidableEq V]
  [LE Pr] [DecidableLE Pr]

/-- an error answer at any point ends the run with the matching variant and payload -/
theorem C13_error_aborts (debug : Bool) (fuel : Nat) (root : P) (rv : V)
    (as : List (Answer P S V M Pr E)) (e : E) :
    let pending := (after (start debug fuel root rv) as).2
    let next := (after (start (E := E) debug fuel root rv) (as ++ [.error e])).2
    (pending = .shouldCancel → next = .errorInShouldCancel e) ∧
    (∀ p s, pending = .chooseVersion p s → next = .errorChoosingPackageVersion e) ∧
    (∀ p v, pending = .getDependencies p v → next = .errorRetrievingDependencies p v e) :=
  error_aborts debug fuel root rv as e

/-- once resolve has returned, nothing follows: no further provider call -/
theorem C13_no_further_calls (debug : Bool) (fuel : Nat) (root : P) (rv : V)
    (as : List (Answer P S V M Pr E)) (a : Answer P S V M Pr E)
    (h : (after (start (E := E) debug fuel root rv) as).2.isFinal = true) :
    (after (start (E := E) debug fuel root rv) (as ++ [a])).2.isFinal = true :=
  final_is_last debug fuel root rv as a h

/-- up to the fault the call trace equals that of the fault-free run: the first `k+1` requests depend
only on the first `k` answers -/
theorem C13_prefix (debug : Bool) (fuel : Nat) (root : P) (rv : V) (as bs : List (Answer P S V M Pr E)) :
    (trace debug fuel root rv (as ++ bs)).take (as.length + 1) = trace debug fuel root rv as :=
  trace_prefix debug fuel root rv as bs

/-- a version outside the offered set yields `Failure` -/
theorem C13_out_of_set (debug : Bool) (fuel : Nat) (root : P) (rv : V) (as : List (Answer P S V M Pr E))
    (p : P) (s : S) (v : V)
    (h : (after (start (E := E) debug fuel root rv) as).2 = .chooseVersion p s)
    (hv : contains s v = false) :
    (after (start (E := E) debug fuel root rv) (as ++ [.version (some v)])).2 =
      .failure "choose_package_version picked an incompatible version" :=
  out_of_set_fails debug fuel root rv as p s v h hv

/-! Non-vacuity: the very first callback can fail. -/
example (debug : Bool) (fuel : Nat) (root : P) (rv : V) (e : E) :
    (after (start (S := S) (M := M) (Pr := Pr) (E := E) debug fuel root rv) [.error e]).2 =
      .errorInShouldCancel e := rfl

end Pubgrub.C13
