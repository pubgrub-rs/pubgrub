-- definitions
import PubgrubProofs.Defs
import PubgrubProofs.SolverDefs
import PubgrubProofs.StoreDefs
import PubgrubProofs.TreeDefs
import PubgrubProofs.ReportDefs
import PubgrubProofs.PSDefs
import PubgrubProofs.OwnDefs
import PubgrubProofs.SatDefs
import PubgrubProofs.TermDefs
import PubgrubProofs.HomDefs
-- ranges, terms, version sets
import PubgrubProofs.BoundCut
import PubgrubProofs.RangePoints
import PubgrubProofs.RangeSet
import PubgrubProofs.RangeRel
import PubgrubProofs.RangeOrd
import PubgrubProofs.RangeLocations
import PubgrubProofs.RangeQuery
import PubgrubProofs.DisplayLaws
import PubgrubProofs.Intercalate
import PubgrubProofs.DisplayString
import PubgrubProofs.TermLaws
import PubgrubProofs.VSetInstances
import PubgrubProofs.CanonInstances
-- containers and data formats
import PubgrubProofs.AssocListLaws
import PubgrubProofs.ContainersLaws
import PubgrubProofs.SemVerLaws
import PubgrubProofs.OfflineLaws
import PubgrubProofs.ProviderLaws
import PubgrubProofs.SerdeLaws
import PubgrubProofs.JsonText
import PubgrubProofs.ProviderSerde
-- one step of the coroutine
import PubgrubProofs.StepSpec
import PubgrubProofs.StepCases
import PubgrubProofs.StepFault
import PubgrubProofs.Coherent
import PubgrubProofs.FirstQueries
import PubgrubProofs.Protocol
-- local soundness, the store
import PubgrubProofs.IncompatSound
import PubgrubProofs.StoreGrowth
import PubgrubProofs.TermsValid
import PubgrubProofs.StoreCore
import PubgrubProofs.StoreInvariant
-- partial solution, priorities
import PubgrubProofs.PSWellFormed
import PubgrubProofs.PSDecision
import PubgrubProofs.PSBacktrack
import PubgrubProofs.PSQueueInv
import PubgrubProofs.PSStateInv
import PubgrubProofs.PSPropagation
import PubgrubProofs.PSPending
import PubgrubProofs.PSAddIncompat
import PubgrubProofs.PSDeclined
import PubgrubProofs.PSRunInv
import PubgrubProofs.PSInvariant
import PubgrubProofs.QueueFresh
import PubgrubProofs.FreshRunInv
import PubgrubProofs.Freshness
-- C01, C04
import PubgrubProofs.OwnSemantics
import PubgrubProofs.OwnTermsAt
import PubgrubProofs.OwnBundle
import PubgrubProofs.OwnTransport
import PubgrubProofs.OwnMerge
import PubgrubProofs.OwnPropagation
import PubgrubProofs.OwnAddIncompat
import PubgrubProofs.OwnStep
import PubgrubProofs.OwnInvariant
import PubgrubProofs.OwnInvariantCex
import PubgrubProofs.DerivationChain
import PubgrubProofs.ReachabilityC04
-- satisfier search, conflict resolution
import PubgrubProofs.SafeResult
import PubgrubProofs.AssignmentEvents
import PubgrubProofs.SatisfierSearch
import PubgrubProofs.BacktrackPackage
import PubgrubProofs.SatisfierInvariant
import PubgrubProofs.Quiet
import PubgrubProofs.BacktrackInvariant
import PubgrubProofs.ConflictResolution
import PubgrubProofs.SatisfierRunInvariant
import PubgrubProofs.SatisfierTheory
-- the loops once
import PubgrubProofs.LoopRules
-- C12 non-emptiness
import PubgrubProofs.InhabitedTerms
import PubgrubProofs.NonEmptyOps
import PubgrubProofs.NonEmptyLoops
import PubgrubProofs.NonEmpty
-- C05 no panic
import PubgrubProofs.NoPanicPredicates
import PubgrubProofs.IndexInvariant
import PubgrubProofs.OperationsNoPanic
import PubgrubProofs.NoPanicLoops
import PubgrubProofs.TreeBuildTotal
import PubgrubProofs.NoPanicRunInv
import PubgrubProofs.NoPanic
import PubgrubProofs.NoPanicCex
-- C05 termination
import PubgrubProofs.TerminationNumeral
import PubgrubProofs.TerminationMeasure
import PubgrubProofs.TerminationRank
import PubgrubProofs.TerminationKInv
import PubgrubProofs.TerminationAccInv
import PubgrubProofs.TerminationSatBefore
import PubgrubProofs.TerminationResolvent
import PubgrubProofs.NoOutOfFuel
import PubgrubProofs.TerminationConflict
import PubgrubProofs.TerminationPropagate
import PubgrubProofs.TerminationLoop
import PubgrubProofs.TerminationTrigger
import PubgrubProofs.TerminationStep
import PubgrubProofs.Termination
import PubgrubProofs.Decides
import PubgrubProofs.CounterBounds
import PubgrubProofs.Typed
-- trees and reports
import PubgrubProofs.CollectIds
import PubgrubProofs.TreeOf
import PubgrubProofs.TreeSound
import PubgrubProofs.SharedIds
import PubgrubProofs.CollapseSound
import PubgrubProofs.ReportLines
import PubgrubProofs.ReporterInvariant
import PubgrubProofs.ReporterSpec
import PubgrubProofs.ReporterFuel
import PubgrubProofs.ReportSound
import PubgrubProofs.ReportCollapsed
import PubgrubProofs.TreeLink
import PubgrubProofs.CollapseInvariants
import PubgrubProofs.CollapseLoops
import PubgrubProofs.CollapseRunInv
import PubgrubProofs.CollapseNoPanic
-- any linear order
import PubgrubProofs.HomTerm
import PubgrubProofs.HomIncompat
import PubgrubProofs.HomPartialSolution
import PubgrubProofs.HomCore
import PubgrubProofs.HomStep
import PubgrubProofs.HomSolver
import PubgrubProofs.RangeHom
import PubgrubProofs.HomSolutions
import PubgrubProofs.HomTrees
import PubgrubProofs.HomTraces
import PubgrubProofs.RangeAnyOrder
import PubgrubProofs.RangeAnyOrder2
import PubgrubProofs.TermAnyOrder
import PubgrubProofs.RangeBounds
import PubgrubProofs.DenseTestPoints
import PubgrubProofs.RangeTermination
-- concrete runs
import PubgrubProofs.Examples
